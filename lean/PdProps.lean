import PdProps.Codec
import PdProps.C19
import PdProps.C02
import PdProps.C05
import PdProps.C17
import PdProps.C13
import PdProps.C16
import PdProps.C07
import PdProps.C14
import PdProps.C04
import PdProps.C06
import PdProps.C18
import PdProps.C10
import PdProps.C08
import PdProps.C01
import PdProps.C15
import PdProps.C09
import PdProps.C03
import PdProps.C11
import PdProps.C12
import PdProps.C20
