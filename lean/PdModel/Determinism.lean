/-
Determinism — model of the places where pydoctor's output could depend on something other than
its inputs (C18).  Import-free, executable, total.

Five parts (the build-time decision and the presentation sort keys are at the end of the file), each a literal
transcription of the code named beside it:

1. *Set-iteration sites.*  Python iterates a `set` in an order fixed by the hash seed of the
   interpreter.  A site is therefore modelled as a function applied to an ARBITRARY enumeration
   (`enum : List α`, no duplicates) of the set; the property is invariance under permutation.
   Sites: `System.root_names` consumers (`driver.get_system` project-name guess — sorted since f35e237,
   `Documentable.url`, `TemplateWriter.writeSummaryPages`, `summary.summaryPages`,
   `linker` membership test), `astutils._annotation_for_elements`, `IndexPage.rootkind`.
2. *Directory traversal.*  `System.addPackage` = `for path in sorted(package_path.iterdir())`.
   `listing` is what the file system returned, in ITS order.
3. *Output directory.*  A map file ↦ bytes | symlink, with `open(..., 'wb')` (create / truncate,
   follows symlinks), `unlink` guarded by `except FileNotFoundError`, `symlink_to` (raises
   `FileExistsError`); `prepOutputDirectory` removes nothing.

Names are lists of code points (`Name`), so that `sorted` is Python's `str` order.
-/
namespace Determinism

abbrev Name := List Nat

/-! ## 0. `sorted` -/

/-- Python `a <= b` on `str` (and on `pathlib` paths of one directory, which compare by their
parts): lexicographic on code points. -/
def lexLe : Name → Name → Bool
  | [], _ => true
  | _ :: _, [] => false
  | a :: as, b :: bs => if a < b then true else if a = b then lexLe as bs else false

/-- `sorted(xs)` for names: a stable sort by `lexLe` (core `List.mergeSort`; CPython's
timsort is stable as well, and for an antisymmetric total order the result is unique). -/
def sorted (xs : List Name) : List Name := xs.mergeSort lexLe

/-- `sorted(xs, key=k)` -/
def sortedBy {α : Type} (k : α → Name) (xs : List α) : List α :=
  xs.mergeSort (fun a b => lexLe (k a) (k b))

/-! ## 1. set-iteration sites -/

/-- `sep.join(parts)` -/
def join (sep : Name) : List Name → Name
  | [] => []
  | [x] => x
  | x :: y :: rest => x ++ sep ++ join sep (y :: rest)

def slash : Nat := 47

/-- driver.get_system, step 3 (since /repo f35e237):
```
if system.options.projectname is None:
    name = '/'.join(sorted(system.root_names))  # <- the set is sorted before it is joined
    system.projectname = name
else:
    system.projectname = system.options.projectname
```
`enum` is the order in which this interpreter enumerates `system.root_names`. -/
def projectName (explicit : Option Name) (enum : List Name) : Name :=
  match explicit with
  | none => join [slash] (sorted enum)
  | some n => n

/-- the same step BEFORE f35e237 (`name = '/'.join(system.root_names)`: the set was joined in the
interpreter's enumeration order).  Kept for the record only: `projectname_counterexample_old`. -/
def projectNameOld (explicit : Option Name) (enum : List Name) : Name :=
  match explicit with
  | none => join [slash] enum
  | some n => n

/-- generic site class: the set is only asked `x in s` -/
def membershipSite {α : Type} [BEq α] (x : α) (enum : List α) : Bool := enum.contains x

/-- generic site class: `f(sorted(s))` -/
def sortedSite {β : Type} (f : List Name → β) (enum : List Name) : β := f (sorted enum)

/-- generic site class: `f(sorted(s, key=k))` -/
def sortedBySite {α β : Type} (k : α → Name) (f : List α → β) (enum : List α) : β := f (sortedBy k enum)

/-- generic site class: the element is taken only when the set has exactly one:
`if len(s) == 1: f(list(s)[0])  else: dflt` -/
def singletonSite {α β : Type} (f : α → β) (dflt : β) (enum : List α) : β :=
  if enum.length = 1 then
    match enum with
    | x :: _ => f x
    | [] => dflt
  else dflt

def dotHtml : Name := [46, 104, 116, 109, 108]                       -- ".html"
def indexHtml : Name := [105, 110, 100, 101, 120] ++ dotHtml          -- "index.html"

/-- model.Documentable.url, for a page object with full name `full` (quoting is the identity on
the names the model is asked about: identifiers and dots):
```
if list(self.system.root_names) == [page_obj.fullName()]: page_url = 'index.html'
else: page_url = f'{quote(page_obj.fullName())}.html'
``` -/
def pageUrl (enum : List Name) (full : Name) : Name :=
  if enum = [full] then indexHtml else full ++ dotHtml

inductive LinkRes where
  | noLink
  | link (name : Name)      -- `<name>` is replaced by a symlink to index.html
  | indexError              -- `list(...)[0]` on an empty list (unreachable under `len == 1`)
  deriving DecidableEq, Repr

/-- templatewriter.writer.TemplateWriter.writeSummaryPages, tail (at /repo a3977d7):
```
if len(system.root_names) == 1:
    root_module_path = build_directory / (list(system.root_names)[0] + '.html')
    if not any(o.isVisible for o in system.rootobjects): return          # hidden root: no file named after it
    if root_module_path.name == 'index.html': return
    if root_module_path.name in [pclass.filename for pclass in chain(summaryPages(system), searchpages)]: return
    try: root_module_path.unlink()  except FileNotFoundError: pass
    root_module_path.symlink_to('index.html')
```
`pageFiles` = the file names of the summary and search pages of this run (a list: membership only);
`anyRootVisible` = `any(o.isVisible for o in system.rootobjects)`. -/
def rootSymlink (enum : List Name) (anyRootVisible : Bool) (pageFiles : List Name) : LinkRes :=
  if enum.length = 1 then
    match enum[0]? with
    | some r =>
      if !anyRootVisible then .noLink
      else if r ++ dotHtml = indexHtml then .noLink
      else if pageFiles.contains (r ++ dotHtml) then .noLink
      else .link (r ++ dotHtml)
    | none => .indexError
  else .noLink

/-- templatewriter.summary.summaryPages (at /repo a09aa28):
`if len(system.root_names) > 1 or not any(o.isVisible for o in system.rootobjects): pages.append(IndexPage)`;
`anyRootVisible` = `any(o.isVisible for o in system.rootobjects)` (a fold over the LIST of root objects). -/
def hasIndexPage (enum : List Name) (anyRootVisible : Bool) : Bool :=
  decide (enum.length > 1) || !anyRootVisible

/-- linker._EpydocLinker._resolve_identifier_xref: `fullID[:root_idx] not in system.root_names` -/
def rootUnknown (enum : List Name) (pfx : Name) : Bool := !(membershipSite pfx enum)

/-- astutils._annotation_for_elements, tail (`names` is a set of annotation names):
```
if len(names) == 1: name = names.pop(); return ast.Name(id=name)
else: return None
```
`set.pop()` removes an arbitrary element: the first of the enumeration. -/
def popSingle {α : Type} (enum : List α) : Option α :=
  if enum.length = 1 then enum.head? else none

/-- templatewriter.summary.IndexPage.rootkind:
`'/'.join(format_kind(k) for k in sorted(set(kinds), key=lambda k: k.name))` -/
def rootKinds (enum : List Name) : Name := sortedSite (join [slash]) enum

/-! ## 2. directory traversal -/

inductive Kind where
  | file
  | pkgdir      -- `path.is_dir()` and `(path / '__init__.py').exists()`
  | plaindir    -- directory without `__init__.py`
  deriving DecidableEq, Repr

structure Cfg where
  allSuffixes : List Name        -- importlib.machinery.all_suffixes(), in order
  sourceSuffixes : List Name     -- importlib.machinery.SOURCE_SUFFIXES
  extSuffixes : List Name        -- importlib.machinery.EXTENSION_SUFFIXES
  introspectC : Bool             -- options.introspect_c_modules

inductive Ev where
  | package (path : List Name)   -- analyzeModule(path/'__init__.py', ..., is_package=True)
  | module (path : List Name)    -- analyzeModule(path, module_name, package)
  | cmodule (path : List Name)   -- introspectModule(...)
  | fuel                         -- the model ran out of recursion depth (never in a finite tree)
  deriving DecidableEq, Repr

def endsWith (name suffix : Name) : Bool :=
  suffix.length ≤ name.length && name.drop (name.length - suffix.length) == suffix

/-- model.System.addModuleFromPath:
```
for suffix in importlib.machinery.all_suffixes():
    if not name.endswith(suffix): continue
    module_name = name[:-len(suffix)]
    if suffix in EXTENSION_SUFFIXES:
        if self.options.introspect_c_modules: self.introspectModule(path, module_name, package)
    elif suffix in SOURCE_SUFFIXES: self.analyzeModule(path, module_name, package)
    break
``` -/
def addModuleFromPath (cfg : Cfg) (pkg : List Name) (name : Name) : List Ev :=
  match cfg.allSuffixes.find? (endsWith name) with
  | none => []
  | some s =>
    let modname := name.take (name.length - s.length)
    if cfg.extSuffixes.contains s then
      if cfg.introspectC then [.cmodule (pkg ++ [modname])] else []
    else if cfg.sourceSuffixes.contains s then [.module (pkg ++ [modname])]
    else []

def initPy : Name := [95, 95, 105, 110, 105, 116, 95, 95, 46, 112, 121]     -- "__init__.py"

/-- the body of the loop of addPackage for one (sorted) entry -/
def visitEntry (cfg : Cfg) (recurse : List Name → List Ev) (pkg : List Name) (e : Name × Kind) : List Ev :=
  match e.2 with
  | .pkgdir => recurse (pkg ++ [e.1])
  | .plaindir => []
  | .file => if e.1 ≠ initPy ∧ e.1.head? ≠ some 46 then addModuleFromPath cfg pkg e.1 else []

/-- model.System.addPackage:
```
package = self.analyzeModule(package_path / '__init__.py', package_path.name, parentPackage, is_package=True)
for path in sorted(package_path.iterdir()):
    if path.is_dir():
        if (path / '__init__.py').exists(): self.addPackage(path, package)
    elif path.name != '__init__.py' and not path.name.startswith('.'):
        self.addModuleFromPath(path, package)
```
`ls pkg` = `package_path.iterdir()` in the order the file system lists it. -/
def addPackage (cfg : Cfg) (ls : List Name → List (Name × Kind)) : Nat → List Name → List Ev
  | 0, _ => [.fuel]
  | fuel + 1, pkg =>
    .package pkg :: ((sortedBy (·.1) (ls pkg)).map (visitEntry cfg (addPackage cfg ls fuel) pkg)).flatten

/-! ## 3. the output directory -/

inductive Entry where
  | file (content : Nat)       -- regular file; `content` identifies the bytes
  | link (target : Name)       -- symbolic link (relative, same directory)
  deriving DecidableEq, Repr

/-- association list, first binding wins -/
abbrev Dir := List (Name × Entry)

def Dir.get (d : Dir) (n : Name) : Option Entry :=
  match d with
  | [] => none
  | (m, e) :: rest => if m = n then some e else Dir.get rest n

def Dir.set (d : Dir) (n : Name) (e : Entry) : Dir := (n, e) :: d

def Dir.remove (d : Dir) (n : Name) : Dir := d.filter (fun p => p.1 ≠ n)

inductive Op where
  | write (n : Name) (content : Nat)   -- `with path.open('wb') as f: f.write(bytes)`
  | unlinkOk (n : Name)                -- `try: path.unlink()  except FileNotFoundError: pass`
  | symlink (n target : Name)          -- `path.symlink_to(target)`
  deriving DecidableEq, Repr

inductive Err where
  | fileExists     -- symlink_to over an existing name
  | eloop          -- open() met more symbolic links than the system follows (a link cycle)
  deriving DecidableEq, Repr

/-- the name `open(n)` ends at: links are followed (Linux: at most 40); `none` = ELOOP.
A dangling link resolves to its (absent) target, which `open(..., 'wb')` then creates. -/
def resolve (d : Dir) : Nat → Name → Option Name
  | 0, _ => none
  | fuel + 1, n =>
    match d.get n with
    | some (.link t) => resolve d fuel t
    | _ => some n

def maxLinks : Nat := 40

def step (d : Dir) : Op → Except Err Dir
  | .write n c =>
    match resolve d (maxLinks + 1) n with
    | some m => .ok (d.set m (.file c))
    | none => .error .eloop
  | .unlinkOk n => .ok (d.remove n)
  | .symlink n t => if (d.get n).isSome then .error .fileExists else .ok (d.set n (.link t))

def run : List Op → Dir → Except Err Dir
  | [], d => .ok d
  | op :: ops, d =>
    match step d op with
    | .ok d' => run ops d'
    | .error e => .error e

/-- the shape of one pydoctor run (driver.make):
`prepOutputDirectory` (static files) ; summary + search pages ; lunr indexes  — `before`
; optional root symlink                                                     — `link`
; individual pages ; objects.inv                                            — `after` -/
def runOps (before : List (Name × Nat)) (link : Option (Name × Name)) (after : List (Name × Nat)) : List Op :=
  before.map (fun w => Op.write w.1 w.2)
    ++ (match link with
        | none => []
        | some (s, t) => [Op.unlinkOk s, Op.symlink s t])
    ++ after.map (fun w => Op.write w.1 w.2)

def names (ws : List (Name × Nat)) : List Name := ws.map (·.1)

/-- hypothesis of `rerun_idempotent`.  The name `s` that becomes a symlink (`<root>.html`) is not
written after the link is made; and either it is not written before either (the root's page goes
to `index.html`), or — a root module named like a summary page, whose page a re-run writes
THROUGH the link the previous run left — the link's target `t` is rewritten afterwards and is
not `s` itself. -/
def wfRun (before : List (Name × Nat)) (link : Option (Name × Name)) (after : List (Name × Nat)) : Bool :=
  match link with
  | none => true
  | some (s, t) =>
    !(names after).contains s && (!(names before).contains s || ((names after).contains t && s != t))

/-- longest prefix of plain writes -/
def takeWrites : List Op → List (Name × Nat) × List Op
  | .write n c :: rest => let (ws, r) := takeWrites rest; ((n, c) :: ws, r)
  | ops => ([], ops)

/-- recognise an operation log as `runOps before link after` -/
def shapeOf (ops : List Op) : Option (List (Name × Nat) × Option (Name × Name) × List (Name × Nat)) :=
  let (b, rest) := takeWrites ops
  match rest with
  | [] => some (b, none, [])
  | .unlinkOk s :: .symlink s' t :: rest' =>
    if s = s' then
      let (a, r) := takeWrites rest'
      if r.isEmpty then some (b, some (s, t), a) else none
    else none
  | _ => none

/-! ## 4. the build time (what the footer of every page shows) -/

/-- `os.environ['SOURCE_DATE_EPOCH']` as `int(...)` and `datetime.utcfromtimestamp(...)` see it -/
inductive EnvEpoch where
  | unset                    -- KeyError
  | notInt                   -- int() raises ValueError ('abc', '', '1.5')
  | value (seconds : Int)    -- accepted: 0, '00', '0 ', negative, 2^31, twelve digits …
  | yearRange                -- utcfromtimestamp raises ValueError (year out of range)
  | platformRange            -- utcfromtimestamp raises OverflowError / OSError (not caught)
  deriving DecidableEq, Repr

/-- `options.buildtime` as `if options.buildtime:` and `strptime(..., BUILDTIME_FORMAT)` see it -/
inductive OptTime where
  | notGiven                 -- None or ''
  | bad                      -- strptime raises ValueError
  | time (seconds : Int)
  deriving DecidableEq, Repr

inductive BuildTime where
  | time (seconds : Int)     -- system.buildtime, as seconds since 1970-01-01 00:00:00 of the naive datetime
  | exitError                -- utils.error(): message, sys.exit(1)
  | crash                    -- uncaught exception
  deriving DecidableEq, Repr

/-- model.System.__init__ (`self.buildtime = datetime.datetime.now()`) followed by driver.get_system:
```
try: system.buildtime = datetime.datetime.utcfromtimestamp(int(os.environ['SOURCE_DATE_EPOCH']))
except ValueError as e: error(str(e))
except KeyError: pass
if options.buildtime:
    try: system.buildtime = datetime.datetime.strptime(options.buildtime, BUILDTIME_FORMAT)
    except ValueError as e: error(str(e))
```
`now` = what the clock says when the System is created.  A SET variable is used whatever its
value — `0` included: there is no truthiness test on the number. -/
def buildTime (now : Int) (env : EnvEpoch) (opt : OptTime) : BuildTime :=
  match env with
  | .notInt => .exitError
  | .yearRange => .exitError
  | .platformRange => .crash
  | .unset =>
    match opt with
    | .notGiven => .time now
    | .bad => .exitError
    | .time t => .time t
  | .value n =>
    match opt with
    | .notGiven => .time n
    | .bad => .exitError
    | .time t => .time t

/-! ## 5. presentation order: the sort keys of the writers

Every list the writers show is `sorted(<list>, key=<key>)` (Python's sort is stable: elements whose
keys are equal stay in the order of the input list).  The keys are transcribed here; a key is a
tuple of ints and strs, compared as Python compares tuples (lexicographically). -/

/-- an order on keys: `le` with the three laws, proved for each key order in `PdProps.C18` (`lexLe_isOrder`, `intLe_isOrder`, `pairLe_isOrder`, `thirdLe_isOrder`) -/
def intLe (a b : Int) : Bool := decide (a ≤ b)

/-- lexicographic order of pairs, from the orders of the components: `(a, b) <= (a', b')` -/
def pairLe {α β : Type} (leA : α → α → Bool) (leB : β → β → Bool) (x y : α × β) : Bool :=
  if leA x.1 y.1 && !(leA y.1 x.1) then true          -- x.1 < y.1
  else if leA x.1 y.1 && leA y.1 x.1 then leB x.2 y.2  -- x.1 == y.1
  else false

/-- `sorted(xs, key=key)` with keys ordered by `le` (stable) -/
def sortedWith {α κ : Type} (le : κ → κ → Bool) (key : α → κ) (xs : List α) : List α :=
  xs.mergeSort (fun a b => le (key a) (key b))

/-- what the keys read off a `Documentable` -/
structure Obj where
  privacy : Nat          -- o.privacyClass.value   (HIDDEN 0, PRIVATE 1, PUBLIC 2)
  kind : Option Nat      -- o.kind.value, `none` when o.kind is None
  full : Name            -- o.fullName()
  lowerFull : Name       -- o.fullName().lower()   (str.lower is CPython's: a parameter)
  line : Nat             -- o.linenumber
  isModule : Bool        -- isinstance(o, model.Module)
  deriving DecidableEq, Repr

/-- util._map_kind: packages and modules are listed together (PACKAGE = 1000, MODULE = 900) -/
def mapKind (k : Nat) : Nat := if k = 1000 then 900 else k

/-- `-_map_kind(o.kind).value if o.kind else 0` (an Enum member is always truthy: `else` = None) -/
def negKind (o : Obj) : Int :=
  match o.kind with
  | some k => - (Int.ofNat (mapKind k))
  | none => 0

abbrev AlphaKey := Int × Int × Name

/-- util.alphabetical_order_func:
`(-o.privacyClass.value, -_map_kind(o.kind).value if o.kind else 0, o.fullName().lower())` -/
def alphaKey (o : Obj) : AlphaKey := (- Int.ofNat o.privacy, negKind o, o.lowerFull)

def alphaLe : AlphaKey → AlphaKey → Bool := pairLe intLe (pairLe intLe lexLe)

/-- third component of util.source_order_func: a str for modules, an int otherwise -/
inductive Third where
  | num (n : Nat)
  | str (s : Name)
  deriving DecidableEq, Repr

/-- order on `Third`.  Python raises TypeError for `int < str`; that case is excluded by
`sourceComparable` (it is never reached for real objects: a module and a non-module differ in their
kind component), and is given an arbitrary answer here (ints first) only to keep `le` total. -/
def thirdLe : Third → Third → Bool
  | .num a, .num b => decide (a ≤ b)
  | .str a, .str b => lexLe a b
  | .num _, .str _ => true
  | .str _, .num _ => false

abbrev SourceKey := Int × Int × Third

/-- util.source_order_func:
```
if isinstance(o, model.Module): return (-privacy, -kind, o.fullName().lower())
else:                           return (-privacy, -kind, o.linenumber)
``` -/
def sourceKey (o : Obj) : SourceKey :=
  (- Int.ofNat o.privacy, negKind o, if o.isModule then .str o.lowerFull else .num o.line)

def sourceLe : SourceKey → SourceKey → Bool := pairLe intLe (pairLe intLe thirdLe)

/-- two source keys that Python can compare without TypeError: they differ before the third
component, or their third components have the same type -/
def sourceComparable (a b : Obj) : Bool :=
  (sourceKey a).1 != (sourceKey b).1 || (sourceKey a).2.1 != (sourceKey b).2.1 || a.isModule == b.isModule

/-- `sorted(objs, key=source_order_func)`; `none` = some pair of keys would raise TypeError if the
sort happened to compare it -/
def sortedSource? (objs : List Obj) : Option (List Obj) :=
  if objs.all (fun a => objs.all (fun b => sourceComparable a b)) then some (sortedWith sourceLe sourceKey objs)
  else none

/-- summary._lckey: `(x.fullName().lower(), x.fullName())` -/
def lcKey (o : Obj) : Name × Name := (o.lowerFull, o.full)

def lcLe : Name × Name → Name × Name → Bool := pairLe lexLe lexLe

/-- a str with its `.lower()` (CPython's) -/
structure Str where
  s : Name
  lower : Name
  deriving DecidableEq, Repr

/-- LetterElement.names: `sorted(name2obs, key=lambda x: (x.lower(), x))` -/
def nameKey (x : Str) : Name × Name := (x.lower, x.s)

/-- summary.findRootClasses: `sorted(roots.items(), key=lambda x: x[0].lower())`, and
`sorted(self.ob.implements_directly, key=lambda x: x.lower())` -/
def lowerKey (x : Str) : Name := x.lower

/-- UndocumentedSummaryPage.stuff: `undoccedpublic.sort(key=lambda o: o.fullName())` -/
def fullKey (o : Obj) : Name := o.full

def sortedAlpha (objs : List Obj) : List Obj := sortedWith alphaLe alphaKey objs
def sortedLc (objs : List Obj) : List Obj := sortedWith lcLe lcKey objs
def sortedFull (objs : List Obj) : List Obj := sortedWith lexLe fullKey objs
def sortedNames (xs : List Str) : List Str := sortedWith lcLe nameKey xs
def sortedLower (xs : List Str) : List Str := sortedWith lexLe lowerKey xs

/-! ### inherited members (templatewriter.util) -/

structure Member where
  name : Name
  visible : Bool
  id : Nat               -- which object (position in the request)
  deriving DecidableEq, Repr

inductive AttrsRes where
  | ok (members : List Member)
  | indexError             -- `baselist[0]` of an empty chain
  deriving DecidableEq, Repr

/-- util.unmasked_attrs:
```
maybe_masking = {o.name for b in baselist[1:] for o in b.contents.values() if not model.is_class_private(o.name)}
return [o for o in baselist[0].contents.values() if o.isVisible and o.name not in maybe_masking]
```
`masking` is ANY enumeration of the set `maybe_masking` (it is only asked `in`). -/
def unmaskedAttrsWith (first : List Member) (masking : List Name) : List Member :=
  first.filter (fun o => o.visible && !(masking.contains o.name))

/-- model.is_class_private: `name.startswith('__') and not name.endswith('__')` (Python mangles such a name in a
class body: it neither masks nor is masked across classes) -/
def isClassPrivate (name : Name) : Bool :=
  (name.take 2 == [95, 95] && name.length ≥ 2) && !(endsWith name [95, 95])

def maskingNames (rest : List (List Member)) : List Name :=
  ((rest.map (·.map (·.name))).flatten).filter (fun n => !isClassPrivate n)

def unmaskedAttrs (baselist : List (List Member)) : AttrsRes :=
  match baselist with
  | [] => .indexError
  | first :: rest => .ok (unmaskedAttrsWith first (maskingNames rest))

/-- util.nested_bases: `for i, _ in enumerate(_mro): yield tuple(reversed(_mro[:(i+1)]))` -/
def nestedBases {α : Type} (mro : List α) : List (List α) :=
  (List.range mro.length).map (fun i => (mro.take (i + 1)).reverse)

/-- util.class_members followed by util.inherited_members:
```
for baselist in nested_bases(cls): attrs = unmasked_attrs(baselist); if attrs: baselists.append((baselist, attrs))
for inherited_via, attrs in class_members(cls): if len(inherited_via) > 1: children.extend(attrs)
```
`mro` = the contents (in dict order) of the classes of `cls.mro()`. -/
def inheritedMembers (mro : List (List Member)) : List Member :=
  ((nestedBases mro).filterMap (fun chain =>
    if chain.length > 1 then
      match unmaskedAttrs chain with
      | .ok attrs => some attrs
      | .indexError => none
    else none)).flatten

/-- templatewriter.search.get_all_documents_flattenable and LunrIndexWriter.get_corpus:
`for ob in system.allobjects.values() if ob.isVisible` — the documents of all-documents.html and of the lunr
corpus come in the order of the registry (`allobjects`, a dict: insertion order), hidden objects dropped. -/
def documentOrder (allobjects : List (Name × Bool)) : List Name :=
  (allobjects.filter (·.2)).map (·.1)

/-! ## 6. the template lookup (`--template-dir`) -/

/-- a template file of a directory: its name, `name.lower()`, HTML or static, its bytes -/
structure Tpl where
  name : Name
  lower : Name
  html : Bool
  content : Nat
  deriving DecidableEq, Repr

/-- an entry of TemplateLookup._templates (a CaseInsensitiveDict: keyed by the lowered name): the name
the template keeps (the output file name of a static template), its type, its bytes -/
structure TplEntry where
  outName : Name
  html : Bool
  content : Nat
  deriving DecidableEq, Repr

/-- association list keyed by lowered name, first binding wins -/
abbrev Lookup := List (Name × TplEntry)

def Lookup.get (d : Lookup) (k : Name) : Option TplEntry :=
  match d with
  | [] => none
  | (m, e) :: rest => if m = k then some e else Lookup.get rest k

/-- TemplateLookup.add_template (version checks of HTML templates and the directory check left out):
```
try: current_template = self._templates[template.name]          # case-insensitive
except KeyError: self._templates[template.name] = template
else:
    template.name = current_template.name                         # the FIRST spelling names the output file
    if both static or both HTML: self._templates[template.name] = template      # the LAST content wins
    else: raise OverrideTemplateNotAllowed
```
`none` = OverrideTemplateNotAllowed. -/
def addTemplate (d : Lookup) (t : Tpl) : Option Lookup :=
  match d.get t.lower with
  | none => some ((t.lower, ⟨t.name, t.html, t.content⟩) :: d)
  | some e => if e.html = t.html then some ((t.lower, ⟨e.outName, e.html, t.content⟩) :: d) else none

/-- add templates in the order given -/
def addTemplateDir : Lookup → List Tpl → Option Lookup
  | d, [] => some d
  | d, t :: rest =>
    match addTemplate d t with
    | some d' => addTemplateDir d' rest
    | none => none

/-- TemplateLookup.add_templatedir (at /repo ea400d3): `for template in Template.fromdir(path): self.add_template(template)`
with Template.fromdir walking `sorted(path.iterdir(), key=lambda e: e.name)`;
`listing` = the directory's files in the order the file system lists them. -/
def addTemplateDirSorted (d : Lookup) (listing : List Tpl) : Option Lookup :=
  addTemplateDir d (sortedWith lexLe (·.name) listing)

/-- the same BEFORE ea400d3: the directory was walked in the order `path.iterdir()` listed it.
Kept for the record only (`addTemplateDir_listing_counterexample_old`). -/
def addTemplateDirOld (d : Lookup) (listing : List Tpl) : Option Lookup := addTemplateDir d listing

/-! ## 7. hunter round: extension load order, repr of a live set, the docutils `date` directive -/

/-- extensions._get_submodules / get_extensions BEFORE /repo 2786e75: the names were taken in the order
`files(pkg).iterdir()` listed them.  Kept for the record only (`getExtensions_listing_counterexample_old`). -/
def getExtensionsOld (listing : List (Name × Bool)) : List Name :=
  listing.filterMap (fun e =>
    if e.1.head? ≠ some 95 ∧ e.2 = true ∧ endsWith e.1 [46, 112, 121] then some (e.1.take (e.1.length - 3)) else none)

/-- extensions._get_submodules / get_extensions (at /repo 2786e75):
```
for name in sorted(_importlib_resources_contents(pkg)):   # [path.name for path in files(pkg).iterdir()], sorted
    if (not name.startswith('_') and _importlib_resources_is_resource(pkg, name)) and name.endswith('.py'):
        yield f"{pkg}.{name[:-len('.py')]}"
```
`listing` = the entries of pydoctor/extensions/ (name, is a file) in the order the file system lists them; the
result is the order in which System.__init__ loads the built-in extensions (mixins, AST visitor extensions,
post-processors are registered in that order). -/
def getExtensions (listing : List (Name × Bool)) : List Name :=
  getExtensionsOld (sortedWith lexLe (·.1) listing)

/-- AST visitor extensions registered with the same timing run in the order they were loaded; each of attrs
(`_handleAttrsAssignmentInClass`: kind = INSTANCE_VARIABLE) and zopeinterface
(`_handleZopeInterfaceAssignmentInClass`: kind = ATTRIBUTE / SCHEMA_FIELD) ASSIGNS `attr.kind` for an assignment it
recognises: the last one loaded wins.  `claims` = for each loaded extension, in load order, the kind it assigns
(`none`: it does not recognise the assignment). -/
def kindAfterVisitors (initial : Nat) (claims : List (Option Nat)) : Nat :=
  claims.foldl (fun k c => match c with | some k' => k' | none => k) initial

/-- model._EscapedRepr.__repr__ on a live `set` BEFORE /repo 828eb1f: `repr(value)`, which walks the set in the
interpreter's enumeration order. `enum` = that order, each element as its own repr.  Historical. -/
def setReprOld (enum : List Name) : Name :=
  match enum with
  | [] => [115, 101, 116, 40, 41]                                 -- "set()"
  | _ => [123] ++ join [44, 32] enum ++ [125]                      -- "{a, b}"

/-- model._stable_repr on a live `set` (at /repo 828eb1f; `_EscapedRepr.__repr__` escapes its result):
`'{' + ', '.join(sorted(_stable_repr(v) for v in value)) + '}'`, `repr(value)` for the empty set.
`enum` = the interpreter's enumeration, each element as its own (stable) repr. -/
def setRepr (enum : List Name) : Name := setReprOld (sorted enum)

/-- the time a reStructuredText docstring shows through docutils' `date` directive
(docutils.parsers.rst.directives.misc.Date.run of the installed docutils: `text = time.strftime(format_str)`; its
SOURCE_DATE_EPOCH branch is commented out).  pydoctor hands it neither `system.buildtime`, nor `--buildtime`, nor
the variable: none of them is consulted. -/
def rstDateTime (now : Int) (_env : EnvEpoch) (_opt : OptTime) : Int := now

/-- the executable property predicate for part 1: a site function gives the same answer on two
enumerations -/
def sameOn {α β : Type} [BEq β] (f : List α → β) (e₁ e₂ : List α) : Bool := f e₁ == f e₂

end Determinism
