/-
C04, resolution on a finished state: pydoctor's `expandName` / `resolveName` on a finished, well-behaved state
agree with `Jpy`.  The argument is generic, and the layers above (inherited members, relocated names) instantiate it
again: a `Naming` (every object stands for a site and is found under the name `L` gives it), the walk along a dotted name
(`expandLoop_sound`; its step is an instance of `Names.expandLoop_component`, PdProps/C07.lean) and `resolveName_sound`.
-/
import PdProps.C04Pd
import PdProps.C05

namespace Imports
open Registry
open Names (contLoop expandLoop_component)

theorem mroOf_final_head (s : St) (c : Nat) : ∃ t, Names.mroOf (finalEnv s) c = c :: t := by
  unfold Names.mroOf finalEnv
  simp only
  cases hd : dget (finalMro s) c with
  | none => exact ⟨[], rfl⟩
  | some v =>
    unfold finalMro at hd
    have := dget_map_key (fun c => match Mro.mroFuel (finalBases s) (s.reg.objs.length + 1) c with
      | some l => l
      | none => Mro.allbasesFuel (finalBases s) (fun _ => false) (s.reg.objs.length + 1) c) _ _ _ hd
    simp only [Option.getD_some, this]
    cases hm : Mro.mroFuel (finalBases s) (s.reg.objs.length + 1) c with
    | some l => simp only; exact Mro.mroFuel_head _ _ _ _ hm
    | none => simp only [Mro.allbasesFuel]; exact ⟨_, rfl⟩

/-- inside a class, an alias that maps a name to itself comes from `import y…`: `y` is a root module -/
theorem jpd_self_root {proj : Project} {rank : List Nat} (wf : WFacts proj rank) {S : Site} {y : Name}
    (h : Jpd proj S y [y]) (hS : S.2 ≠ []) : ∃ root, modIdx proj [y] = some root := by
  obtain ⟨b, st, hb, hst, _, hD⟩ := jpd_inv wf h
  cases st with
  | importMod t a =>
    obtain ⟨t', ht', _⟩ := wf.targets hb hst (modIdx proj t) (by simp [stmtTargets])
    cases a with
    | some a => exact ⟨t', hD.2 ▸ ht'⟩
    | none =>
      -- `import y.…`: the first component of the path of a module is a root module
      obtain ⟨⟨r, rfl⟩, _⟩ := hD
      obtain ⟨hlt, hp⟩ := modIdx_spec ht'
      obtain ⟨r0, rest, root, hpp, hroot, _⟩ := canon_mod wf t' hlt
      rw [hp] at hpp; injection hpp with e1 _; subst e1
      exact ⟨root, hroot⟩
  | importFrom lvl M n a =>
    -- `from T import n` writes `T ++ [n]`, and `T` is the path of a module: not empty
    exfalso
    obtain ⟨_, T, hT, htg⟩ := hD
    obtain ⟨t', ht', _⟩ := wf.targets hb hst (target proj S.1 lvl M) (by simp [stmtTargets])
    rw [target_eq, hT] at ht'
    obtain ⟨hlt, hp⟩ := modIdx_spec ht'
    have hne := (wf.parentOk t' hlt).1
    rw [hp] at hne
    have hl := congrArg List.length htg
    simp only [List.length_append, List.length_cons, List.length_nil] at hl
    exact hne (List.eq_nil_of_length_eq_zero (by omega))
  | importStar lvl M => exact absurd (wf.nostar hb hst) hS
  | _ => exact hD.elim

/-- a scope Python can look into is a module or a class, not the object pydoctor creates for a `def` / assignment -/
theorem jpy_canContain {proj : Project} {rank : List Nat} (wf : WFacts proj rank) {S : Site} {c : Cls}
    (hk : ObjKind proj S c) {y : Name} {w : SVal} (hj : Jpy proj S [y] w) : canContainImports c = true := by
  cases hk with
  | mod hm => unfold modCls; split <;> rfl
  | @dfn m cp b0 st n c hb0 hst hkind =>
    rcases jpy_inv wf hj with ⟨hS, _⟩ | ⟨b, st', hb, _, _, _⟩
    · simp at hS
    · have hb' := siteBody_bodyAt hb
      simp only at hb'
      rw [bodyAt_append] at hb'
      have hb0' := siteBody_bodyAt hb0
      simp only at hb0'
      rw [hb0'] at hb'
      simp only [Option.bind_some] at hb'
      obtain ⟨bs, b1, hm, _, _⟩ := bodyAt_cons hb'
      have := same_stmt wf hb0 hst hm (x := n) (stmtNames_of_explicit (defName_explicit (stKind_defName hkind)))
        (stmtNames_of_explicit (by simp [explicitNames]))
      subst this
      simp only [stKind, Option.some.injEq, Prod.mk.injEq] at hkind
      rw [← hkind.2]; rfl

/-- the identity pydoctor reports for the object of a site, whatever names the sites (`L`): a module or a definition,
under the name it is found by -/
theorem ObjKind.identL {proj : Project} {s : St} {j : Nat} {o : Obj} {S : Site} {L : Site → Path}
    (hk : ObjKind proj S o.cls) (ho : s.reg.objs[j]? = some o) (hp : path s.reg j = some (L S)) :
    identOf s.reg j = some (if S.2 = [] then .mod (L S) else .dfn (L S)) := by
  unfold identOf
  have : getObj s.reg j = some o := ho
  simp only [this, hp]
  by_cases hcp : S.2 = []
  · simp [hk.isMod.2 hcp, hcp]
  · have : isModuleCls o.cls = false := by
      cases h : isModuleCls o.cls with
      | false => rfl
      | true => exact absurd (hk.isMod.1 h) hcp
    simp [this, hcp]

theorem ObjKind.ident {proj : Project} {s : St} {j : Nat} {o : Obj} {S : Site} (hk : ObjKind proj S o.cls)
    (ho : s.reg.objs[j]? = some o) (hp : path s.reg j = some (sitePath proj S)) :
    identOf s.reg j = some (identSV proj (svalOf S)) := by
  rw [hk.identL ho hp]
  unfold svalOf
  split <;> simp [identSV, sitePath, *]

/-- object `i` is the object pydoctor created for the module or definition `S`, when `L` says under which
qualified name the object of a site is found -/
def ObjAt (proj : Project) (L : Site → Path) (s : St) (i : Nat) (S : Site) : Prop :=
  ∃ o, s.reg.objs[i]? = some o ∧ path s.reg i = some (L S) ∧ ObjKind proj S o.cls

/-- what name resolution uses of the invariant of a state: every object stands for a site and is found under the
name `L` gives that site, and that name denotes the site (`L` is `sitePath`, or the relocated name once re-exports
have moved objects) -/
structure Naming (proj : Project) (s : St) (L : Site → Path) : Prop where
  reg : Inv s.reg
  site : ∀ i o, s.reg.objs[i]? = some o → ∃ S, ObjKind proj S o.cls ∧ path s.reg i = some (L S)
  canon : ∀ S, StaticSite proj S → AbsDen proj (L S) (svalOf S)

theorem PdInv.naming {proj : Project} {rank : List Nat} (wf : WFacts proj rank) {s : St} (hI : PdInv proj s) :
    Naming proj s (sitePath proj) :=
  ⟨hI.reg, hI.site, fun _ => canon_site wf⟩

/-- a site is the scope of whatever its name denotes (injectivity of `L` is the case `v = svalOf S'`) -/
theorem Naming.scope {proj : Project} {rank : List Nat} (wf : WFacts proj rank) {s : St} {L : Site → Path}
    (hN : Naming proj s L) {S : Site} (hS : StaticSite proj S) {v : SVal} (hv : AbsDenW proj (L S) v) : S = scopeOf v := by
  have h := congrArg scopeOf (AbsDen.fun wf (hN.canon S hS) hv)
  rwa [scopeOf_svalOf] at h

theorem Naming.ne_nil {proj : Project} {s : St} {L : Site → Path} (hN : Naming proj s L) {S : Site}
    (hS : StaticSite proj S) : L S ≠ [] := by
  obtain ⟨r, rest, _, hp, _⟩ := hN.canon S hS
  rw [hp]; simp

/-- `D` is `AbsDenW`, or a wider notion with the same values; through `hfun` the conditional denotation is strong again,
since a registered name has a root module in front -/
theorem registered_site {proj : Project} {s : St} {L : Site → Path} (hN : Naming proj s L)
    {D : Path → SVal → Prop} (hfun : ∀ {p v w}, AbsDen proj p v → D p w → v = w) {p : Path} {v : SVal} {j : Nat}
    (hden : D p v) (hreg : dget s.reg.all p = some j) : ∃ S, svalOf S = v ∧ ObjAt proj L s j S := by
  have hpj : path s.reg j = some p := hN.reg.reg.keys p j (mem_of_dget hreg)
  obtain ⟨Sj, hkj, hpj'⟩ := hN.site j _ (List.getElem?_eq_getElem (path_lt hpj))
  have hL : L Sj = p := Option.some.inj (hpj'.symm.trans hpj)
  exact ⟨Sj, hfun (hL ▸ hN.canon Sj hkj.static) hden, _, List.getElem?_eq_getElem (path_lt hpj), hpj', hkj⟩

/-- **the walk of `expandName` along a dotted name** on a state whose objects are named by `L`, given what one
component does (`hstep`).  `R` / `Stp`: what Python can give for a dotted name / for one component in a scope; `D`: a dotted
name denotes a value. -/
theorem expandLoop_sound {proj : Project} {s : St} {L : Site → Path} (hN : Naming proj s L) {e : Names.Env}
    (he : e.st = s.reg) {D : Path → SVal → Prop} {R : Bool → Site → List Name → SVal → Prop}
    {Stp : Bool → Site → Name → SVal → Prop}
    (hone : ∀ {f S y v}, R f S [y] v → Stp f S y v)
    (hcons : ∀ {f S y y2 r v}, R f S (y :: y2 :: r) v → ∃ w, Stp f S y w ∧ R false (scopeOf w) (y2 :: r) v)
    (hext : ∀ {fn w y ys v}, D fn w → fn ≠ [] → R false (scopeOf w) (y :: ys) v → D (fn ++ y :: ys) v)
    (hfun : ∀ {p v w}, AbsDen proj p v → D p w → v = w)
    (hscope : ∀ {S f ys v}, StaticSite proj S → R f S ys v → D (L S ++ ys) v)
    (hstep : ∀ {i f S o y w}, s.reg.objs[i]? = some o → path s.reg i = some (L S) → ObjKind proj S o.cls → Stp f S y w →
      (∃ fn, D fn w ∧ fn ≠ [] ∧ ∀ rest, Names.expandLoop e i f (y :: rest) = contLoop e fn rest) ∨
      ∀ rest, Names.expandLoop e i f (y :: rest) = some (L S ++ y :: rest)) :
    ∀ {ys : List Name} {i : Nat} {f : Bool} {S : Site} {v : SVal} {p : Path}, ObjAt proj L s i S → R f S ys v →
      Names.expandLoop e i f ys = some p → D p v
  | [], _, _, _, _, _, _, _, hx => by simp [Names.expandLoop] at hx
  | [y], _, _, _, _, _, ⟨_, ho, hp, hk⟩, hj, hx => by
    rcases hstep ho hp hk (hone hj) with ⟨fn, hd, _, heq⟩ | heq
    · rw [heq, contLoop] at hx
      cases hof : Names.objFor e fn <;> simp only [hof, List.append_nil, Option.some.injEq] at hx <;> exact hx ▸ hd
    · rw [heq] at hx; injection hx with hx; exact hx ▸ hscope hk.static hj
  | y :: y2 :: r, _, _, _, _, _, ⟨_, ho, hp, hk⟩, hj, hx => by
    obtain ⟨w, hw, hjr⟩ := hcons hj
    rcases hstep ho hp hk hw with ⟨fn, hd, hne, heq⟩ | heq
    · rw [heq, contLoop] at hx
      cases hof : Names.objFor e fn with
      | none => simp only [hof, Option.some.injEq] at hx; exact hx ▸ hext hd hne hjr
      | some nxt =>
        simp only [hof] at hx
        obtain ⟨Sn, rfl, hat⟩ := registered_site hN hfun hd (by rw [← he]; exact hof)
        rw [scopeOf_svalOf] at hjr
        exact expandLoop_sound hN he hone hcons hext hfun hscope hstep hat hjr hx
    · rw [heq] at hx; injection hx with hx; exact hx ▸ hscope hk.static hj

theorem class_entry {proj : Project} {rank : List Nat} (wf : WFacts proj rank) {s : St} (hI : PdInv proj s)
    (hn : NoProcessing s) {i : Nat} {S : Site} {o : Obj} (ho : s.reg.objs[i]? = some o)
    (hp : path s.reg i = some (sitePath proj S)) (hk : ObjKind proj S o.cls) (hcl : o.cls = .cls) {y : Name} {w : SVal}
    (hw : Jpy proj S [y] w) : dget o.contents y ≠ none ∨ dget o.aliases y ≠ none := by
  have hS2 : S.2 ≠ [] := hk.cls_ne_nil hcl
  obtain ⟨b, st, hb, hst, hex, _, _⟩ := jpy_class_inv wf hS2 hw
  obtain ⟨o', ho', hent⟩ := complete_entry ((class_complete hI hn hp hk.static hS2 hb).mem hst) hex
  rw [ho] at ho'; injection ho' with ho'; exact ho' ▸ hent

/-- **one component of `expandName`** for a name `y` bound to `w` in scope `S`, on a finished well-behaved state: the
acceptable names are those that denote `w` if their first component is a root module at all (`AbsDenW`); for the bare
name at the first position in a module that does not bind it: if it names a root module, `w` is that module (`jpy_root`) -/
theorem expand_step {proj : Project} {rank : List Nat} (wf : WFacts proj rank) {s : St} (hI : PdInv proj s)
    (hn : NoProcessing s) {e : Names.Env} (he : e.st = s.reg) (hmro : ∀ c, ∃ t, Names.mroOf e c = c :: t)
    {i : Nat} {f : Bool} {S : Site} {o : Obj} {y : Name} {w : SVal} (ho : s.reg.objs[i]? = some o)
    (hp : path s.reg i = some (sitePath proj S)) (hk : ObjKind proj S o.cls) (hw : Jpy proj S [y] w) :
    (∃ fn, AbsDenW proj fn w ∧ fn ≠ [] ∧ ∀ rest, Names.expandLoop e i f (y :: rest) = contLoop e fn rest) ∨
    ∀ rest, Names.expandLoop e i f (y :: rest) = some (sitePath proj S ++ y :: rest) := by
  refine expandLoop_component (D := fun p => AbsDenW proj p w) (by rw [he]; exact hI.reg) hmro (by rw [he]; exact ho)
    (by rw [he]; exact hp) (jpy_canContain wf hk hw) ?_ ?_ ?_ ?_
  · exact fun c _ => (AbsDen.ext (canon_site wf hk.static) (by rw [scopeOf_svalOf]; exact hw)).weak
  · intro tgt _ hda
    have hjd : Jpd proj S y tgt := hI.alias i o S ho hp hk.static y tgt hda
    exact ⟨jpd_jpy wf hjd hw, jpd_ne_nil wf hjd⟩
  · intro hdc hda hcl
    exact ((class_entry wf hI hn ho hp hk hcl hw).elim (· hdc) (· hda)).elim
  · intro _ _ _ _ r rest' root hpr hroot
    injection hpr with e1 e2; subst e1; subst e2
    exact Or.inl ⟨rfl, jpy_root wf hw hroot⟩

/-- **expandName is sound**: on a finished well-behaved state, the dotted name that `expandName`
returns for `ys` looked up in object `i` (scope `S`) denotes — as an absolute dotted name, if its first component is
a root module at all (`AbsDenW`) — whatever Python gives for `ys` in `S`. -/
theorem expand_sound {proj : Project} {rank : List Nat} (wf : WFacts proj rank) {s : St} (hI : PdInv proj s)
    (hn : NoProcessing s) (e : Names.Env) (he : e.st = s.reg) (hmro : ∀ c, ∃ t, Names.mroOf e c = c :: t)
    {ys : List Name} {i : Nat} {first : Bool} {S : Site} {v : SVal} {p : Path} (hS : ObjAt proj (sitePath proj) s i S)
    (hj : Jpy proj S ys v) (hx : Names.expandLoop e i first ys = some p) : AbsDenW proj p v :=
  expandLoop_sound (hI.naming wf) he (R := fun _ => Jpy proj) (Stp := fun _ S y w => Jpy proj S [y] w)
    id jpy_cons_inv (fun hd hne hjr => AbsDenW.ext hd hne hjr) (AbsDen.fun wf)
    (fun hS hj => by
      obtain ⟨y, rest, rfl⟩ := List.exists_cons_of_ne_nil (jpy_ne_nil hj)
      exact (AbsDen.ext (canon_site wf hS) (by rw [scopeOf_svalOf]; exact hj)).weak)
    (fun ho hp hk hw => expand_step wf hI hn he hmro ho hp hk hw) hS hj hx

theorem root_module {proj : Project} {s : St} {L : Site → Path} (hN : Naming proj s L) {ro : Nat} {oo : Obj} {r : Name}
    (hoo : s.reg.objs[ro]? = some oo) (hp : path s.reg ro = some [r]) :
    ∃ m, modIdx proj [r] = some m ∧ ObjAt proj L s ro (m, []) := by
  obtain ⟨S, hk, hpS⟩ := hN.site ro oo hoo
  obtain ⟨r', rest, root, hL, hroot, hv⟩ := hN.canon S hk.static
  rw [Option.some.inj (hpS.symm.trans hp)] at hL
  injection hL with e1 e2; subst e1; subst e2
  rcases hv with ⟨_, hsv⟩ | ⟨hne, _⟩
  · obtain rfl : S = (root, []) := by rw [← scopeOf_svalOf S, hsv]; rfl
    exact ⟨root, hroot, oo, hoo, hpS, hk⟩
  · exact absurd rfl hne

/-- **`resolveName` on a state whose objects are named by `L`**, given that `expandName` is sound there: `R` is what Python can give for a
dotted name, `AbsDenR proj R` the denotation of absolute names that goes with it.  The name `expandName` returns is
registered, or — the `find_object` fall-back — its rest is expanded again in the root module of its first component. -/
theorem resolveName_sound {proj : Project} {s : St} {L : Site → Path} (hN : Naming proj s L)
    {e : Names.Env} (he : e.st = s.reg) {R : Site → List Name → SVal → Prop}
    (hfun : ∀ {p v w}, AbsDen proj p v → AbsDenR proj R p w → v = w)
    (hexp : ∀ {ys i S v p}, ObjAt proj L s i S → R S ys v → Names.expandName e i ys = some p → AbsDenR proj R p v)
    {i : Nat} {S : Site} {name : Path} {v : SVal} {j : Nat} (hS : ObjAt proj L s i S) (hj : R S name v)
    (hr : Names.resolveName e i name = some j) : ∃ S', svalOf S' = v ∧ ObjAt proj L s j S' := by
  have reg : ∀ {p j}, AbsDenR proj R p v → Names.objFor e p = some j → ∃ S', svalOf S' = v ∧ ObjAt proj L s j S' :=
    fun hd hreg => registered_site hN hfun hd (by rw [← he]; exact hreg)
  revert hr
  fun_cases Names.resolveName e i name <;> intro hr
  case case1 p hx _ hof => cases hr; exact reg (hexp hS hj hx) hof
  case case2 p hx hof _ hfo =>
    cases hr
    obtain ⟨r, rest, ro, oo, p2, rfl, hrest, hgo, hpro, _, hx2, hof2⟩ := Names.findObject_obj (he ▸ hN.reg) hof hfo
    rw [he] at hgo hpro
    obtain ⟨m, hroot', hat⟩ := root_module hN hgo hpro
    exact reg (hexp hat ((hexp hS hj hx _ _ _ rfl hroot').resolve_left fun h => hrest h.1).2 hx2) hof2
  all_goals cases hr

/-- **resolveName is sound on a finished well-behaved state** -/
theorem resolve_sound_state {proj : Project} {rank : List Nat} (wf : WFacts proj rank) {s : St} (hI : PdInv proj s)
    (hn : NoProcessing s) {i : Nat} {o : Obj} {S : Site} (ho : s.reg.objs[i]? = some o)
    (hp : path s.reg i = some (sitePath proj S)) (hk : ObjKind proj S o.cls) {name : Path} {v : SVal} {j : Nat}
    (hj : Jpy proj S name v) (hr : Names.resolveName (finalEnv s) i name = some j) :
    identOf s.reg j = some (identSV proj v) := by
  obtain ⟨Sj, hSj, oj, hoj, hpj, hkj⟩ := resolveName_sound (hI.naming wf) (R := Jpy proj) rfl (AbsDen.fun wf)
    (fun hS hj hx => expand_sound wf hI hn _ rfl (mroOf_final_head s) hS hj hx) ⟨o, ho, hp, hk⟩ hj hr
  exact hSj ▸ hkj.ident hoj hpj

end Imports
