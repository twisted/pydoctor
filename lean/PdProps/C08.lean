/-
C08 — any docstring in any format is rendered; markup errors degrade to plain text.

Theorems over `PdModel.Docstring`, the model of the wrapper logic of epydoc2stan.py /
markup/__init__.py / templatewriter around the markup parsers.  Every statement quantifies over ALL
behaviours of the parameters (`Env`: parser, processtypes step, to_stan, to_node, summary walk, toc
builder, colorizer results, signature formatter), all states and all objects, unless a hypothesis
says otherwise.
-/
import PdModel.Docstring

namespace Docstring

@[simp] theorem setParsed_errors (st : St) (o : Obj) (pd : PD) : (setParsed st o pd).errors = st.errors := rfl
@[simp] theorem setParsed_reports (st : St) (o : Obj) (pd : PD) : (setParsed st o pd).reports = st.reports := rfl
@[simp] theorem setSummary_errors (st : St) (o : Obj) (pd : PD) : (setSummary st o pd).errors = st.errors := rfl
@[simp] theorem setSummary_reports (st : St) (o : Obj) (pd : PD) : (setSummary st o pd).reports = st.reports := rfl
@[simp] theorem setPType_errors (st : St) (o : Obj) (b : Body) : (setPType st o b).errors = st.errors := rfl
@[simp] theorem setPType_reports (st : St) (o : Obj) (b : Body) : (setPType st o b).reports = st.reports := rfl
@[simp] theorem setParsed_reported (st : St) (o : Obj) (pd : PD) : (setParsed st o pd).reported = st.reported := rfl
@[simp] theorem setSummary_reported (st : St) (o : Obj) (pd : PD) : (setSummary st o pd).reported = st.reported := rfl
@[simp] theorem setPType_reported (st : St) (o : Obj) (b : Body) : (setPType st o b).reported = st.reported := rfl

@[simp] theorem setParsed_self (st : St) (o : Obj) (pd : PD) :
    ((setParsed st o pd).objs o).parsed = some pd := by simp [setParsed]
@[simp] theorem setParsed_docstring (st : St) (o x : Obj) (pd : PD) :
    ((setParsed st o pd).objs x).docstring = (st.objs x).docstring := by
  simp only [setParsed]; split <;> simp_all
@[simp] theorem setParsed_summary (st : St) (o x : Obj) (pd : PD) :
    ((setParsed st o pd).objs x).parsedSummary = (st.objs x).parsedSummary := by
  simp only [setParsed]; split <;> simp_all
@[simp] theorem setParsed_ptype (st : St) (o x : Obj) (pd : PD) :
    ((setParsed st o pd).objs x).ptype = (st.objs x).ptype := by
  simp only [setParsed]; split <;> simp_all
theorem setParsed_ne (st : St) (o x : Obj) (pd : PD) (h : x ≠ o) :
    (setParsed st o pd).objs x = st.objs x := by simp [setParsed, h]

@[simp] theorem setSummary_self (st : St) (o : Obj) (pd : PD) :
    ((setSummary st o pd).objs o).parsedSummary = some pd := by simp [setSummary]
@[simp] theorem setSummary_docstring (st : St) (o x : Obj) (pd : PD) :
    ((setSummary st o pd).objs x).docstring = (st.objs x).docstring := by
  simp only [setSummary]; split <;> simp_all
@[simp] theorem setSummary_parsed (st : St) (o x : Obj) (pd : PD) :
    ((setSummary st o pd).objs x).parsed = (st.objs x).parsed := by
  simp only [setSummary]; split <;> simp_all
@[simp] theorem setSummary_ptype (st : St) (o x : Obj) (pd : PD) :
    ((setSummary st o pd).objs x).ptype = (st.objs x).ptype := by
  simp only [setSummary]; split <;> simp_all
theorem setSummary_ne (st : St) (o x : Obj) (pd : PD) (h : x ≠ o) :
    (setSummary st o pd).objs x = st.objs x := by simp [setSummary, h]

@[simp] theorem setPType_self (st : St) (o : Obj) (b : Body) :
    ((setPType st o b).objs o).ptype = some b := by simp [setPType]
@[simp] theorem setPType_docstring (st : St) (o x : Obj) (b : Body) :
    ((setPType st o b).objs x).docstring = (st.objs x).docstring := by
  simp only [setPType]; split <;> simp_all
@[simp] theorem setPType_parsed (st : St) (o x : Obj) (b : Body) :
    ((setPType st o b).objs x).parsed = (st.objs x).parsed := by
  simp only [setPType]; split <;> simp_all
@[simp] theorem setPType_summary (st : St) (o x : Obj) (b : Body) :
    ((setPType st o b).objs x).parsedSummary = (st.objs x).parsedSummary := by
  simp only [setPType]; split <;> simp_all
theorem setPType_ne (st : St) (o x : Obj) (b : Body) (h : x ≠ o) :
    (setPType st o b).objs x = st.objs x := by simp [setPType, h]

@[simp] theorem reportErrors_objs (st : St) (o : Obj) (errs : List Err) (sec : Sec) (ph : Phase) :
    (reportErrors st o errs sec ph).objs = st.objs := by
  unfold reportErrors
  rw [apply_ite St.objs, apply_ite St.objs, ite_self, ite_self]

theorem reportErrors_noop {st : St} {o : Obj} {errs : List Err} {sec : Sec} {ph : Phase}
    (h : (sec, o, ph) ∈ st.reported) : reportErrors st o errs sec ph = st := by
  simp [reportErrors, h]

theorem reportErrors_nil (st : St) (o : Obj) (sec : Sec) (ph : Phase) : reportErrors st o [] sec ph = st := by
  simp [reportErrors]

theorem reportErrors_fresh (st : St) (o : Obj) (errs : List Err) (sec : Sec) (ph : Phase) (h : errs ≠ [])
    (hn : (sec, o, ph) ∉ st.reported) :
    (reportErrors st o errs sec ph).reported = st.reported ++ [(sec, o, ph)] ∧
    (reportErrors st o errs sec ph).errors = (if st.errors.contains (sec, o) then st.errors else st.errors ++ [(sec, o)]) ∧
    (reportErrors st o errs sec ph).reports = st.reports ++ errs.map fun e => ⟨o, sec, e.descr, e.offset⟩ := by
  simp [reportErrors, h, hn]

theorem reportErrors_cases (st : St) (o : Obj) (errs : List Err) (sec : Sec) (ph : Phase) :
    reportErrors st o errs sec ph = st ∨ (errs ≠ [] ∧ (sec, o, ph) ∉ st.reported) := by
  by_cases he : errs = []
  · exact .inl (he ▸ reportErrors_nil ..)
  by_cases hm : (sec, o, ph) ∈ st.reported
  · exact .inl (reportErrors_noop hm)
  · exact .inr ⟨he, hm⟩

theorem reportErrors_errors_mono (st : St) (o : Obj) (errs : List Err) (sec : Sec) (ph : Phase) :
    ∀ p ∈ st.errors, p ∈ (reportErrors st o errs sec ph).errors := by
  intro p hp
  rcases reportErrors_cases st o errs sec ph with h | ⟨he, hm⟩
  · rwa [h]
  · rw [(reportErrors_fresh st o errs sec ph he hm).2.1]
    split
    · exact hp
    · exact List.mem_append_left _ hp

theorem reportErrors_key {st : St} {o : Obj} {errs : List Err} {sec : Sec} {ph : Phase} (h : errs ≠ []) :
    (sec, o, ph) ∈ (reportErrors st o errs sec ph).reported := by
  by_cases hc : (sec, o, ph) ∈ st.reported
  · rw [reportErrors_noop hc]; exact hc
  · rw [(reportErrors_fresh st o errs sec ph h hc).1]; simp

theorem reportErrors_fresh_mem {st : St} {o : Obj} {errs : List Err} {sec : Sec} {ph : Phase} (h : errs ≠ [])
    (hn : (sec, o, ph) ∉ st.reported) : (sec, o) ∈ (reportErrors st o errs sec ph).errors := by
  rw [(reportErrors_fresh st o errs sec ph h hn).2.1]
  split
  · rename_i hc; simpa using hc
  · simp

/-- agreement on what `reportErrors` reads and writes -/
def RE (a b : St) : Prop := a.errors = b.errors ∧ a.reports = b.reports ∧ a.reported = b.reported

theorem RE.refl (a : St) : RE a a := ⟨rfl, rfl, rfl⟩
theorem RE.trans {a b c : St} (h1 : RE a b) (h2 : RE b c) : RE a c :=
  ⟨h1.1.trans h2.1, h1.2.1.trans h2.2.1, h1.2.2.trans h2.2.2⟩

theorem reportErrors_congr (a b : St) (o : Obj) (errs : List Err) (sec : Sec) (ph : Phase) (h : RE a b) :
    RE (reportErrors a o errs sec ph) (reportErrors b o errs sec ph) := by
  by_cases he : errs = []
  · rw [he, reportErrors_nil, reportErrors_nil]; exact h
  by_cases hm : (sec, o, ph) ∈ a.reported
  · rw [reportErrors_noop hm, reportErrors_noop (h.2.2 ▸ hm)]; exact h
  obtain ⟨a0, a1, a2⟩ := reportErrors_fresh a o errs sec ph he hm
  obtain ⟨b0, b1, b2⟩ := reportErrors_fresh b o errs sec ph he (h.2.2 ▸ hm)
  exact ⟨by rw [a1, b1, h.1], by rw [a2, b2, h.2.1], by rw [a0, b0, h.2.2]⟩

theorem parseDocstring_RE (env : Env) (st : St) (obj src : Obj) (doc : Text) :
    RE (parseDocstring env st obj doc src).2
       (reportErrors st src (parseResult doc (runParser env (getDocformat env src) obj doc)).2 0 .parsing) := by
  unfold parseDocstring
  refine reportErrors_congr _ _ _ _ _ _ ?_
  split <;> exact ⟨rfl, rfl, rfl⟩

/-- what one call may change: `T` = the objects whose cached forms (`parsed_docstring`, `parsed_summary`,
`parsed_type`) it may write; `(src, sec)` = the one (object, section) pair it may report against.  It relates two
states; that a second call adds nothing needs the call as a function of the log (`Rep`, with `doc_second_call`). -/
structure Frame (T : Obj → Prop) (src : Obj) (sec : Sec) (st st' : St) : Prop where
  docstring : ∀ x, (st'.objs x).docstring = (st.objs x).docstring
  parsed : ∀ x, ¬ T x → (st'.objs x).parsed = (st.objs x).parsed
  summary : ∀ x, ¬ T x → (st'.objs x).parsedSummary = (st.objs x).parsedSummary
  ptype : ∀ x, ¬ T x → (st'.objs x).ptype = (st.objs x).ptype
  errors_mono : ∀ p ∈ st.errors, p ∈ st'.errors
  errors_new : ∀ p ∈ st'.errors, p ∈ st.errors ∨ p = (sec, src)
  reported_mono : ∀ k ∈ st.reported, k ∈ st'.reported
  reported_new : ∀ k ∈ st'.reported, k ∈ st.reported ∨ (k.1 = sec ∧ k.2.1 = src)
  reports : ∃ new, st'.reports = st.reports ++ new ∧
      ∀ r ∈ new, r.obj = src ∧ r.sec = sec ∧ (sec, src) ∈ st'.errors ∧
        ∃ ph, (sec, src, ph) ∉ st.reported ∧ (sec, src, ph) ∈ st'.reported

theorem Frame.of_quiet {T : Obj → Prop} {src : Obj} {sec : Sec} {a b : St}
    (hd : ∀ x, (b.objs x).docstring = (a.objs x).docstring) (ho : ∀ x, ¬ T x → b.objs x = a.objs x)
    (he : b.errors = a.errors) (hr : b.reports = a.reports) (hk : b.reported = a.reported) : Frame T src sec a b :=
  ⟨hd, fun x hx => by rw [ho x hx], fun x hx => by rw [ho x hx], fun x hx => by rw [ho x hx],
   fun _ hp => he ▸ hp, fun _ hp => .inl (he ▸ hp), fun _ h => hk ▸ h, fun _ h => .inl (hk ▸ h),
   ⟨[], by rw [hr, List.append_nil], nofun⟩⟩

theorem Frame.refl {T : Obj → Prop} {src : Obj} {sec : Sec} {st : St} : Frame T src sec st st :=
  .of_quiet (fun _ => rfl) (fun _ _ => rfl) rfl rfl rfl

theorem Frame.trans {T : Obj → Prop} {src : Obj} {sec : Sec} {a b c : St}
    (h1 : Frame T src sec a b) (h2 : Frame T src sec b c) : Frame T src sec a c := by
  refine ⟨fun x => (h2.docstring x).trans (h1.docstring x),
          fun x hx => (h2.parsed x hx).trans (h1.parsed x hx),
          fun x hx => (h2.summary x hx).trans (h1.summary x hx),
          fun x hx => (h2.ptype x hx).trans (h1.ptype x hx),
          fun p hp => h2.errors_mono p (h1.errors_mono p hp),
          fun p hp => (h2.errors_new p hp).elim (h1.errors_new p) .inr,
          fun k hk => h2.reported_mono k (h1.reported_mono k hk),
          fun k hk => (h2.reported_new k hk).elim (h1.reported_new k) .inr, ?_⟩
  obtain ⟨n1, e1, p1⟩ := h1.reports
  obtain ⟨n2, e2, p2⟩ := h2.reports
  refine ⟨n1 ++ n2, by rw [e2, e1, List.append_assoc], fun r hr => ?_⟩
  rcases List.mem_append.mp hr with h | h
  · obtain ⟨x1, x2, x3, ph, x4, x5⟩ := p1 r h
    exact ⟨x1, x2, h2.errors_mono _ x3, ph, x4, h2.reported_mono _ x5⟩
  · obtain ⟨x1, x2, x3, ph, x4, x5⟩ := p2 r h
    exact ⟨x1, x2, x3, ph, fun hc => x4 (h1.reported_mono _ hc), x5⟩

theorem Frame.mono {T T' : Obj → Prop} {src : Obj} {sec : Sec} {a b : St} (h : Frame T src sec a b)
    (hT : ∀ x, T x → T' x) : Frame T' src sec a b :=
  ⟨h.docstring, fun x hx => h.parsed x (fun c => hx (hT x c)), fun x hx => h.summary x (fun c => hx (hT x c)),
   fun x hx => h.ptype x (fun c => hx (hT x c)), h.errors_mono, h.errors_new, h.reported_mono, h.reported_new, h.reports⟩

theorem Frame.objs_eq {T : Obj → Prop} {src : Obj} {sec : Sec} {a b : St} (h : Frame T src sec a b) {x : Obj}
    (hx : ¬ T x) : b.objs x = a.objs x := by
  have h1 := h.docstring x
  have h2 := h.parsed x hx
  have h3 := h.summary x hx
  have h4 := h.ptype x hx
  cases hb : b.objs x
  cases ha : a.objs x
  simp_all

/-- `Frame` without the single report key: every report is filed against some object in `T`, in whatever section -/
structure Loose (T : Obj → Prop) (st st' : St) : Prop where
  docstring : ∀ x, (st'.objs x).docstring = (st.objs x).docstring
  objs : ∀ x, ¬ T x → st'.objs x = st.objs x
  errors_mono : ∀ p ∈ st.errors, p ∈ st'.errors
  errors_new : ∀ p ∈ st'.errors, p ∈ st.errors ∨ T p.2
  reported_mono : ∀ k ∈ st.reported, k ∈ st'.reported
  reports : ∃ new, st'.reports = st.reports ++ new ∧
      ∀ r ∈ new, T r.obj ∧ (r.sec, r.obj) ∈ st'.errors ∧
        ∃ ph, (r.sec, r.obj, ph) ∉ st.reported ∧ (r.sec, r.obj, ph) ∈ st'.reported

theorem Frame.loose {T : Obj → Prop} {src : Obj} {sec : Sec} {a b : St} (h : Frame T src sec a b)
    (hs : T src) : Loose T a b := by
  refine ⟨h.docstring, fun _ => h.objs_eq, h.errors_mono,
    fun p hp => (h.errors_new p hp).imp_right fun e => by rw [e]; exact hs, h.reported_mono, ?_⟩
  obtain ⟨new, e, p⟩ := h.reports
  refine ⟨new, e, fun r hr => ?_⟩
  obtain ⟨rfl, rfl, x3, x4⟩ := p r hr
  exact ⟨hs, x3, x4⟩

theorem Loose.trans {T : Obj → Prop} {a b c : St} (h1 : Loose T a b) (h2 : Loose T b c) : Loose T a c := by
  refine ⟨fun x => (h2.docstring x).trans (h1.docstring x), fun x hx => (h2.objs x hx).trans (h1.objs x hx),
          fun p hp => h2.errors_mono p (h1.errors_mono p hp),
          fun p hp => (h2.errors_new p hp).elim (h1.errors_new p) .inr,
          fun k hk => h2.reported_mono k (h1.reported_mono k hk), ?_⟩
  obtain ⟨n1, e1, p1⟩ := h1.reports
  obtain ⟨n2, e2, p2⟩ := h2.reports
  refine ⟨n1 ++ n2, by rw [e2, e1, List.append_assoc], fun r hr => ?_⟩
  rcases List.mem_append.mp hr with h | h
  · obtain ⟨x1, x2, ph, x3, x4⟩ := p1 r h
    exact ⟨x1, h2.errors_mono _ x2, ph, x3, h2.reported_mono _ x4⟩
  · obtain ⟨x1, x2, ph, x3, x4⟩ := p2 r h
    exact ⟨x1, x2, ph, fun hc => x3 (h1.reported_mono _ hc), x4⟩

theorem reportsOf_append {a b : St} {new : List Report} (e : b.reports = a.reports ++ new) {sec : Sec} {o : Obj}
    (hn : ∀ r ∈ new, ¬ (r.sec = sec ∧ r.obj = o)) : reportsOf b sec o = reportsOf a sec o := by
  unfold reportsOf
  have : new.filter (fun r => decide (r.sec = sec ∧ r.obj = o)) = [] :=
    List.filter_eq_nil_iff.mpr fun r hr => by simpa using hn r hr
  rw [e, List.filter_append, this, List.append_nil]

theorem Loose.reportsOf_reported {T : Obj → Prop} {a b : St} (h : Loose T a b) {sec : Sec} {o : Obj}
    (hm : ∀ ph, (sec, o, ph) ∈ a.reported) : reportsOf b sec o = reportsOf a sec o := by
  obtain ⟨new, e, p⟩ := h.reports
  refine reportsOf_append e fun r hr hc => ?_
  obtain ⟨_, _, ph, h3, _⟩ := p r hr
  exact h3 (hc.1 ▸ hc.2 ▸ hm ph)

theorem Loose.isolated {T : Obj → Prop} {a b : St} (h : Loose T a b) {B : Obj} (hB : ¬ T B) :
    b.objs B = a.objs B ∧ (∀ sec, reportsOf b sec B = reportsOf a sec B) ∧
    (∀ sec, (sec, B) ∈ b.errors ↔ (sec, B) ∈ a.errors) := by
  obtain ⟨new, e, p⟩ := h.reports
  exact ⟨h.objs B hB, fun _ => reportsOf_append e fun r hr hc => hB (hc.2 ▸ (p r hr).1),
    fun _ => ⟨fun hm => (h.errors_new _ hm).resolve_right hB, h.errors_mono _⟩⟩

theorem frame_reportErrors {T : Obj → Prop} {src : Obj} {sec : Sec} (st : St) (errs : List Err) (ph : Phase) :
    Frame T src sec st (reportErrors st src errs sec ph) := by
  rcases reportErrors_cases st src errs sec ph with h | ⟨he, hm⟩
  · rw [h]; exact Frame.refl
  obtain ⟨e0, e1, e2⟩ := reportErrors_fresh st src errs sec ph he hm
  refine ⟨by simp, by simp, by simp, by simp, reportErrors_errors_mono _ _ _ _ _, fun p hp => ?_,
    fun k hk => e0 ▸ List.mem_append_left _ hk, fun k hk => ?_, _, e2, fun r hr => ?_⟩
  · rw [e1] at hp
    split at hp
    · exact .inl hp
    · simpa using hp
  · rw [e0] at hk
    exact (List.mem_append.mp hk).imp_right fun h => by simp at h; subst h; exact ⟨rfl, rfl⟩
  · obtain ⟨e, _, rfl⟩ := List.mem_map.mp hr
    exact ⟨rfl, rfl, reportErrors_fresh_mem he hm, ph, hm, by rw [e0]; simp⟩

theorem frame_setParsed {T : Obj → Prop} {src : Obj} {sec : Sec} {st : St} {o : Obj} {pd : PD} (hT : T o) :
    Frame T src sec st (setParsed st o pd) :=
  .of_quiet (by simp) (fun x hx => setParsed_ne _ _ _ _ fun c => hx (c ▸ hT)) rfl rfl rfl

theorem frame_setPType {T : Obj → Prop} {src : Obj} {sec : Sec} {st : St} {o : Obj} {b : Body} (hT : T o) :
    Frame T src sec st (setPType st o b) :=
  .of_quiet (by simp) (fun x hx => setPType_ne _ _ _ _ fun c => hx (c ▸ hT)) rfl rfl rfl

theorem frame_setSummary {T : Obj → Prop} {src : Obj} {sec : Sec} {st : St} {o : Obj} {pd : PD} (hT : T o) :
    Frame T src sec st (setSummary st o pd) :=
  .of_quiet (by simp) (fun x hx => setSummary_ne _ _ _ _ fun c => hx (c ▸ hT)) rfl rfl rfl

theorem frame_parseDocstring {T : Obj → Prop} {env : Env} {obj src : Obj} {st : St} {doc : Text} :
    Frame T src 0 st (parseDocstring env st obj doc src).2 := by
  unfold parseDocstring
  refine Frame.trans (b := if getDocformat env src = Docformat.unknown then { st with importMsg := true } else st)
    ?_ (frame_reportErrors _ _ _)
  split <;> exact .of_quiet (fun _ => rfl) (fun _ _ => rfl) rfl rfl rfl

@[simp] theorem parseDocstring_objs (env : Env) (obj src : Obj) (st : St) (doc : Text) :
    (parseDocstring env st obj doc src).2.objs = st.objs := by
  unfold parseDocstring; simp only [reportErrors_objs]; split <;> rfl

theorem getDocstring_found (st : St) (d : Text) (src : Obj) :
    ∀ l, getDocstring st l = .found d src → (st.objs src).docstring = some d ∧ src ∈ l := by
  intro l h
  fun_induction getDocstring st l
  case case2 hd _ => cases h; exact ⟨hd, .head _⟩
  case case4 ih => exact (ih h).imp id (.tail _)
  all_goals cases h

theorem getDocstring_congr (st st2 : St) (h : ∀ x, (st2.objs x).docstring = (st.objs x).docstring) :
    ∀ l, getDocstring st2 l = getDocstring st l
  | [] => rfl
  | s :: rest => by simp only [getDocstring, h s, getDocstring_congr st st2 h rest]

/-- when `ensure_parsed_docstring` returns a source, `parsed_docstring` is set: the `assert`s of
format_docstring / _get_parsed_summary cannot fire -/
theorem ensureParsed_some (env : Env) (st : St) (obj src : Obj)
    (h : (ensureParsed env st obj).1 = some src) :
    (((ensureParsed env st obj).2.objs obj).parsed).isSome = true ∧ src = sourceOf env st obj := by
  cases hg : getDocstring st (obj :: env.inherited obj) <;> cases hp : (st.objs obj).parsed <;>
    simp_all [ensureParsed, sourceOf]

theorem ensureParsed_cases (env : Env) (st : St) (obj : Obj) :
    (ensureParsed env st obj).1 = none ∨
    ∃ pd, (ensureParsed env st obj).1 = some (sourceOf env st obj) ∧
      ((ensureParsed env st obj).2.objs obj).parsed = some pd := by
  cases hsrc : (ensureParsed env st obj).1 with
  | none => exact .inl rfl
  | some src =>
    obtain ⟨hp, rfl⟩ := ensureParsed_some env st obj src hsrc
    obtain ⟨pd, hpd⟩ := Option.isSome_iff_exists.mp hp
    exact .inr ⟨pd, rfl, hpd⟩

theorem ensureParsed_found {env : Env} {st : St} {obj src : Obj} {d : Text}
    (hg : getDocstring st (obj :: env.inherited obj) = .found d src) : (ensureParsed env st obj).1 = some src := by
  cases hp : (st.objs obj).parsed <;> simp [ensureParsed, hg, hp]

def Only (obj : Obj) : Obj → Prop := fun x => x = obj

theorem frame_ensureParsed (env : Env) (st : St) (obj : Obj) :
    Frame (Only obj) (sourceOf env st obj) 0 st (ensureParsed env st obj).2 := by
  cases hg : getDocstring st (obj :: env.inherited obj) <;> cases hp : (st.objs obj).parsed <;>
    simp only [ensureParsed, sourceOf, hg, hp]
  case found.none =>
    exact frame_parseDocstring.trans (frame_setParsed rfl)
  all_goals exact Frame.refl

theorem ensureParsed_stable (env : Env) (st st2 : St) (obj : Obj)
    (hd : ∀ x, (st2.objs x).docstring = (st.objs x).docstring)
    (hp : (st2.objs obj).parsed = ((ensureParsed env st obj).2.objs obj).parsed) :
    ensureParsed env st2 obj = ((ensureParsed env st obj).1, st2) := by
  conv => lhs; unfold ensureParsed
  rw [getDocstring_congr st st2 hd, hp]
  cases hgd : getDocstring st (obj :: env.inherited obj) <;> cases hpp : (st.objs obj).parsed <;>
    simp only [ensureParsed, hgd, hpp, setParsed_self]

theorem ensureParsed_idem (env : Env) (st : St) (obj : Obj) :
    ensureParsed env (ensureParsed env st obj).2 obj = ensureParsed env st obj :=
  ensureParsed_stable env st _ obj (frame_ensureParsed env st obj).docstring rfl

theorem applyFallback_snd (st : St) (fb : Fallback) (ctx : Obj) (h : fb ≠ .summary) : (applyFallback st fb ctx).2 = st := by
  cases fb with
  | docstring => unfold applyFallback; dsimp only; split <;> rfl
  | broken => rfl
  | summary => exact absurd rfl h

/-- what a wrapper around `to_stan` hands to `reportErrors`: nothing when `to_stan` returned, else the one
`get_to_stan_error(e)`.  Each of the three wrappers that report changes the state by exactly this one call. -/
def StanOut.errs : StanOut → List Err
  | .returns _ => []
  | .raises e => [toStanError e]

theorem safeToStanOut_snd (st : St) (out : StanOut) (ctx : Obj) (fb : Fallback) (sec : Sec) (hfb : fb ≠ .summary) :
    (safeToStanOut st out ctx fb true sec).2 = reportErrors st ctx out.errs sec .rendering := by
  cases out with
  | returns s => exact (reportErrors_nil ..).symm
  | raises e => simp only [safeToStanOut, applyFallback_snd _ _ _ hfb, if_true, StanOut.errs]

theorem fieldToStan_snd (env : Env) (st : St) (b : Body) (src : Obj) :
    (fieldToStan env st b src).2 = reportErrors st src (bodyToStan env b).errs 0 .rendering := by
  unfold fieldToStan
  cases bodyToStan env b with
  | returns s => exact (reportErrors_nil ..).symm
  | raises e => rfl

theorem safeToStanPyval_eq (env : Env) (st : St) (b : Body) (ctx : Obj) (sec : Sec) :
    ∃ s, safeToStanPyval env st b ctx sec = (.ok s, reportErrors st ctx (bodyToStan env b).errs sec .rendering) := by
  unfold safeToStanPyval
  cases bodyToStan env b with
  | returns s => exact ⟨s, by rw [StanOut.errs, reportErrors_nil]⟩
  | raises e => cases bodyToNode env b <;> exact ⟨_, rfl⟩

theorem frame_safeToStanOut (T : Obj → Prop) (src ctx : Obj) (sec0 : Sec) (st : St) (out : StanOut) (fb : Fallback)
    (report : Bool) (sec : Sec) (hctx : fb = .summary → T ctx) (hrep : report = true → ctx = src ∧ sec = sec0) :
    Frame T src sec0 st (safeToStanOut st out ctx fb report sec).2 := by
  cases out with
  | returns s => exact Frame.refl
  | raises e =>
    have hfb : Frame T src sec0 st (applyFallback st fb ctx).2 := by
      by_cases h : fb = .summary
      · subst h; exact frame_setSummary (hctx rfl)
      · rw [applyFallback_snd _ _ _ h]; exact Frame.refl
    cases report with
    | false => exact hfb
    | true =>
      obtain ⟨rfl, rfl⟩ := hrep rfl
      exact hfb.trans (frame_reportErrors _ [toStanError e] .rendering)

theorem frame_fieldToStan {T : Obj → Prop} {env : Env} {st : St} {b : Body} {src : Obj} :
    Frame T src 0 st (fieldToStan env st b src).2 :=
  fieldToStan_snd .. ▸ frame_reportErrors ..

/-- the state effect of `formatFields` is a composition of `setPType` and `fieldToStan` steps (used for `Frame` and for `Rep`) -/
theorem formatFields_snd_ind (env : Env) (obj src : Obj) {P : (St → St) → Prop} (hid : P fun st => st)
    (hcomp : ∀ f g, P f → P g → P fun st => g (f st)) (hset : ∀ b, P fun st => setPType st obj b)
    (hfield : ∀ b, P fun st => (fieldToStan env st b src).2) :
    ∀ fs : List Field, P fun st => (formatFields env st obj src fs).2
  | [] => hid
  | f :: fs => by
    have ih := formatFields_snd_ind env obj src hid hcomp hset hfield fs
    have hfmt := hcomp _ _ (hfield f.body) ih
    cases ht : f.tag
    · simpa [formatFields, ht] using hfmt
    · simpa [formatFields, ht] using hfmt
    · by_cases ha : env.isAttribute obj = true
      · simpa [formatFields, ht, ha] using hcomp _ _ (hset f.body) ih
      · by_cases hg : f.arg.isSome = true
        · simpa [formatFields, ht, ha, hg] using hfmt
        · simpa [formatFields, ht, ha, hg] using ih
    · simpa [formatFields, ht] using ih

theorem frame_formatFields (env : Env) (obj src : Obj) (fs : List Field) (st : St) :
    Frame (Only obj) src 0 st (formatFields env st obj src fs).2 :=
  formatFields_snd_ind (P := fun f => ∀ st, Frame (Only obj) src 0 st (f st)) env obj src
    (fun _ => Frame.refl) (fun _ _ hf hg st => (hf st).trans (hg _))
    (fun _ _ => frame_setPType rfl) (fun _ _ => frame_fieldToStan) fs st

theorem formatDocstring_of {env : Env} {st st1 : St} {obj src : Obj} {pd : PD}
    (h : ensureParsed env st obj = (some src, st1)) (hpd : (st1.objs obj).parsed = some pd) :
    formatDocstring env st obj =
      let b := safeToStan env st1 pd src .docstring true
      let fs := formatFields env b.2 obj src (pdFields pd)
      (.ok ⟨b.1, fs.1⟩, fs.2) := by
  simp only [formatDocstring, h, hpd]

theorem doc_spec (env : Env) (st : St) (obj : Obj) :
    Frame (Only obj) (sourceOf env st obj) 0 st (formatDocstring env st obj).2 ∧
    (formatDocstring env st obj).1.isOk = true := by
  have hf := frame_ensureParsed env st obj
  rcases ensureParsed_cases env st obj with hnone | ⟨pd, hsrc, hpd⟩
  · simp only [formatDocstring, hnone]
    exact ⟨hf, rfl⟩
  · rw [formatDocstring_of (Prod.ext hsrc rfl) hpd]
    exact ⟨hf.trans ((frame_safeToStanOut _ _ _ 0 _ _ .docstring true 0 nofun fun _ => ⟨rfl, rfl⟩).trans
      (frame_formatFields env obj _ _ _)), rfl⟩

/-- `ParsedDocstring.get_summary` (base class) never raises -/
theorem base_get_summary_total (env : Env) (pd : PD) : (getSummary env pd).isOk = true := by
  fun_cases getSummary env pd <;> rfl

/-- `_get_parsed_summary` returns: its `assert` cannot fire, `get_summary` does not raise -/
theorem getParsedSummary_spec (env : Env) (st : St) (obj : Obj) :
    ∃ pd S, getParsedSummary env st obj = (.ok ((ensureParsed env st obj).1, pd), S) ∧
      (S = (ensureParsed env st obj).2 ∨ S = setSummary (ensureParsed env st obj).2 obj pd) := by
  simp only [getParsedSummary]
  split
  · exact ⟨_, _, rfl, .inl rfl⟩
  · rcases ensureParsed_cases env st obj with hnone | ⟨pd, hsrc, hpd⟩
    · simp only [hnone]
      exact ⟨_, _, rfl, .inr rfl⟩
    · simp only [hsrc, hpd]
      have := base_get_summary_total env pd
      split
      · rename_i he; rw [he] at this; cases this
      · exact ⟨_, _, rfl, .inr rfl⟩

theorem formatSummary_ind {P : St → Prop} (env : Env) (st : St) (obj : Obj) (h0 : P (ensureParsed env st obj).2)
    (hs : ∀ s pd, P s → P (setSummary s obj pd)) :
    P (formatSummary env st obj).2 ∧ (formatSummary env st obj).1.isOk = true := by
  obtain ⟨pd, S, h, hS⟩ := getParsedSummary_spec env st obj
  have hg : P S := by
    rcases hS with rfl | rfl
    · exact h0
    · exact hs _ _ h0
  simp only [formatSummary, h]
  split
  · exact ⟨hg, rfl⟩
  · exact ⟨hs _ _ hg, rfl⟩

theorem summary_spec (env : Env) (st : St) (obj : Obj) :
    Frame (Only obj) (sourceOf env st obj) 0 st (formatSummary env st obj).2 ∧
    (formatSummary env st obj).1.isOk = true :=
  formatSummary_ind env st obj (frame_ensureParsed env st obj) fun _ _ h => h.trans (frame_setSummary rfl)

/-- `format_toc` (c422501: `try … except Exception: toc = None`) returns, whatever `get_toc` does -/
theorem formatToc_snd_ok (env : Env) (st : St) (obj : Obj) :
    (formatToc env st obj).2 = (ensureParsed env st obj).2 ∧ (formatToc env st obj).1.isOk = true := by
  fun_cases formatToc env st obj
  case case5 toc _ _ _ s =>
    -- `safe_to_stan(toc, …, report=False, fallback=lambda …: BROKEN)` leaves the state alone
    refine ⟨?_, rfl⟩
    simp only [s, safeToStan]
    cases pdToStan env toc <;> rfl
  all_goals exact ⟨rfl, rfl⟩

theorem toc_spec (env : Env) (st : St) (obj : Obj) :
    Frame (Only obj) (sourceOf env st obj) 0 st (formatToc env st obj).2 ∧
    (formatToc env st obj).1.isOk = true :=
  ⟨(formatToc_snd_ok env st obj).1 ▸ frame_ensureParsed env st obj, (formatToc_snd_ok env st obj).2⟩

/-- e05762e: a docstring that is shown as plain text because its own renderer fails has no table of contents -/
theorem toc_none_when_render_fails (env : Env) (st : St) (obj : Obj) (pd : PD) (e : Exc)
    (hpd : ((ensureParsed env st obj).2.objs obj).parsed = some pd) (hraise : pdToStan env pd = .raises e) :
    (formatToc env st obj).1.isOk = true ∧
    (match (formatToc env st obj).1 with | .ok none => True | _ => False) := by
  simp only [formatToc, hpd]
  split
  · split <;> simp [Res.isOk, hraise]
  · simp [Res.isOk]

/-- HISTORICAL (before c422501): the old `format_toc` raised exactly when `get_toc` did -/
theorem toc_old_spec (env : Env) (st : St) (obj : Obj) :
    ((formatTocOld env st obj).1.isOk = false ↔
      ∃ pd, ((ensureParsed env st obj).2.objs obj).parsed = some pd ∧ env.tocDepth > 0 ∧
        (getToc env pd env.tocDepth).isOk = false) := by
  cases hpd : ((ensureParsed env st obj).2.objs obj).parsed with
  | none => simp [formatTocOld, hpd, Res.isOk]
  | some pd =>
    simp only [formatTocOld, hpd, Option.some.injEq, exists_eq_left']
    by_cases hd : env.tocDepth > 0
    · simp only [hd, if_true, true_and]
      cases getToc env pd env.tocDepth with
      | raises e => simp [Res.isOk]
      | ok o => cases o <;> simp [Res.isOk]
    · simp [hd, Res.isOk]

/-- the attributes `extract_fields` writes to: the arguments of the `ivar/cvar/var/type` fields -/
def splitTargets : List Field → List Obj
  | [] => []
  | f :: fs =>
    match f.tag, f.arg with
    | .typ, some a => a :: splitTargets fs
    | .ivar, some a => a :: splitTargets fs
    | _, _ => splitTargets fs

theorem splitFields_ind {P : St → Prop} {T : Obj → Prop} (ht : ∀ s a b, T a → P s → P (setPType s a b))
    (hv : ∀ s a pd, T a → P s → P (setParsed s a pd)) :
    ∀ (fs : List Field) (st : St), (∀ a ∈ splitTargets fs, T a) → P st → P (splitFields st fs)
  | [], _, _, h0 => h0
  | f :: fs, st, h, h0 => by
    have ih := splitFields_ind ht hv fs
    cases hg : f.tag <;> cases ha : f.arg <;>
      simp only [splitFields, splitTargets, hg, ha, List.forall_mem_cons] at h ⊢
    case typ.some a => exact ih _ h.2 (ht _ _ _ h.1 h0)
    case ivar.some a => exact ih _ h.2 (hv _ _ _ h.1 h0)
    all_goals exact ih _ h h0

theorem frame_splitFields (T : Obj → Prop) (src : Obj) (sec : Sec) :
    ∀ (fs : List Field) (st : St), (∀ a ∈ splitTargets fs, T a) → Frame T src sec st (splitFields st fs) :=
  fun fs st h => splitFields_ind (P := Frame T src sec st) (fun _ _ _ ha hs => hs.trans (frame_setPType ha))
    (fun _ _ _ ha hs => hs.trans (frame_setParsed ha)) fs st h (Frame.refl)

/-- what `extract_fields` on `obj` may write: `obj` and the attributes its docstring's variable fields name -/
def extractTouched (env : Env) (st : St) (obj : Obj) : Obj → Prop := fun x =>
  x = obj ∨ ∃ d, (st.objs obj).docstring = some d ∧ x ∈ splitTargets (pdFields (parseDocstring env st obj d obj).1)

theorem extract_spec (env : Env) (st : St) (obj : Obj) :
    Frame (extractTouched env st obj) obj 0 st (extractFields env st obj).2 ∧
    ((st.objs obj).docstring ≠ none → (extractFields env st obj).1.isOk = true) := by
  unfold extractFields
  split
  · rename_i h; exact ⟨Frame.refl, fun hc => absurd h hc⟩
  · rename_i d hd
    refine ⟨?_, fun _ => rfl⟩
    refine frame_parseDocstring.trans ((frame_setParsed (.inl rfl)).trans (frame_splitFields _ _ _ _ _ ?_))
    intro a ha
    exact .inr ⟨d, hd, ha⟩

def srcOfOp (env : Env) (st : St) (op : Op) (obj : Obj) : Obj :=
  if op = .extract then obj else sourceOf env st obj

def touchedOf (env : Env) (st : St) (op : Op) (obj : Obj) : Obj → Prop :=
  if op = .extract then extractTouched env st obj else Only obj

theorem frame_step (env : Env) (st : St) (op : Op) (obj : Obj) :
    Frame (touchedOf env st op obj) (srcOfOp env st op obj) 0 st (step env st op obj).2 := by
  cases op
  · exact frame_ensureParsed env st obj
  · exact (doc_spec env st obj).1
  · exact (summary_spec env st obj).1
  · exact (toc_spec env st obj).1
  · exact (extract_spec env st obj).1

theorem loose_step (env : Env) (st : St) (op : Op) (obj : Obj) :
    Loose (fun x => touchedOf env st op obj x ∨ x = srcOfOp env st op obj) st (step env st op obj).2 :=
  ((frame_step env st op obj).mono fun _ => .inl).loose (.inr rfl)

theorem ensure_total (env : Env) (st : St) (obj : Obj) : (step env st .ensure obj).1.isOk = true := rfl

theorem doc_total (env : Env) (st : St) (obj : Obj) : (formatDocstring env st obj).1.isOk = true :=
  (doc_spec env st obj).2

theorem summary_total (env : Env) (st : St) (obj : Obj) : (formatSummary env st obj).1.isOk = true :=
  (summary_spec env st obj).2

theorem extract_total (env : Env) (st : St) (obj : Obj) (h : (st.objs obj).docstring ≠ none) :
    (extractFields env st obj).1.isOk = true :=
  (extract_spec env st obj).2 h

theorem toc_total (env : Env) (st : St) (obj : Obj) : (formatToc env st obj).1.isOk = true :=
  (toc_spec env st obj).2

/-- `Docstring.total`: every entry point returns — for EVERY behaviour of the parser, the
processtypes step, `to_stan`, `to_node`, the summary walk and the toc builder, every state, object
and docstring (`extract_fields` under its documented precondition that the object has a docstring) -/
theorem total (env : Env) (st : St) (op : Op) (obj : Obj)
    (hx : op = .extract → (st.objs obj).docstring ≠ none) : (step env st op obj).1.isOk = true := by
  cases op <;> simp only [step, Out.isOk]
  · exact doc_total env st obj
  · exact summary_total env st obj
  · exact toc_total env st obj
  · exact extract_total env st obj (hx rfl)

/-- witness environment: an epytext-like parser that succeeds, and a `to_node` that raises ValueError -/
def envCx : Env where
  processtypes := false
  tocDepth := 1
  systemDocformat := .epytext
  moduleDocformat := fun _ => none
  parent := fun _ => none
  inherited := fun _ => []
  parser := fun _ _ _ => .returns (.user 1 []) []
  toStan := fun k => .returns (.opaque k)
  typedToStan := fun k => .returns (.opaque k)
  toNode := fun _ => .raises (.other 0)
  plainToNode := fun _ => .returns
  mkTyped := fun _ _ => .returns []
  walk := fun _ => .nothing
  buildToc := fun _ _ => .empty
  nodeText := fun _ => []
  isAttribute := fun _ => false
  annotation := fun _ => none
  constPd := fun _ => 5
  sigOut := fun _ => none
  bases := fun _ => []
  decorators := fun _ => []

def stCx : St := ⟨fun _ => ⟨some ['x'], none, none, none⟩, [], [], false, []⟩

example : (formatToc envCx stCx 0).1.isOk = true ∧ (formatDocstring envCx stCx 0).1.isOk = true := by
  decide +kernel

/-- HISTORICAL counterexample (code before c422501, `formatTocOld`): `get_toc` was called outside
`safe_to_stan` and handles only `NotImplementedError`, so the `ValueError` of `to_node` came out of `format_toc` -/
theorem total_old_counterexample :
    (formatTocOld envCx stCx 0).1.isOk = false ∧ (formatToc envCx stCx 0).1.isOk = true := by
  decide +kernel

theorem parseDocstring_reported (env : Env) (st : St) (obj src : Obj) (doc : Text) (errs : List Err)
    (h : (parseResult doc (runParser env (getDocformat env src) obj doc)).2 = errs) (he : errs ≠ [])
    (hn : (0, src, Phase.parsing) ∉ st.reported) :
    (0, src) ∈ (parseDocstring env st obj doc src).2.errors ∧
    (parseDocstring env st obj doc src).2.reports = st.reports ++ errs.map fun e => ⟨src, 0, e.descr, e.offset⟩ := by
  obtain ⟨h1, h2, _⟩ := parseDocstring_RE env st obj src doc
  rw [h1, h2, h]
  exact ⟨reportErrors_fresh_mem he hn, (reportErrors_fresh st src errs 0 .parsing he hn).2.2⟩

def envMasked : Env :=
  { envCx with parser := fun _ _ _ => .returns (.user 1 []) [⟨.msg 7, some 2, false⟩],
               toStan := fun _ => .raises (.other 3) }

/-- markup problems the parser recovers from (it returns, having stored errors) are all reported
against the source object -/
theorem recovered_errors_reported (env : Env) (st : St) (obj src : Obj) (doc : Text) (pd : PD) (errs : List Err)
    (h : runParser env (getDocformat env src) obj doc = .returns pd errs)
    (he : errs ≠ []) (hn : (0, src, Phase.parsing) ∉ st.reported) :
    (parseDocstring env st obj doc src).1 = pd ∧
    (0, src) ∈ (parseDocstring env st obj doc src).2.errors ∧
    (parseDocstring env st obj doc src).2.reports =
      st.reports ++ errs.map fun e => ⟨src, 0, e.descr, e.offset⟩ :=
  ⟨by simp [parseDocstring, h, parseResult], parseDocstring_reported env st obj src doc errs (by rw [h]; rfl) he hn⟩

example : ∃ env, ∃ st : St, runParser env (getDocformat env 0) 0 ['a'] = .returns (.user 1 []) [⟨.msg 7, some 2, false⟩] ∧
    (0, 0, Phase.parsing) ∉ st.reported :=
  ⟨envMasked, stCx, by decide +kernel⟩

/-- `Docstring.fallback_full_text`, parser half: when the parser (or the processtypes step) raises —
a `ParseError` or anything else — the parsed form is the plaintext of the ENTIRE input; and if the
parser stored an error before raising `ParseError` and the source was not reported before, one
report group is opened, all of it against the source object -/
theorem parse_fallback_full_text (env : Env) (st : St) (obj src : Obj) (doc : Text) (errs : List Err) (e : Exc)
    (h : runParser env (getDocformat env src) obj doc = .raises errs e) :
    (parseDocstring env st obj doc src).1 = .plain doc ∧
    ((e.isParseError = true → errs ≠ []) → (0, src, Phase.parsing) ∉ st.reported →
      (0, src) ∈ (parseDocstring env st obj doc src).2.errors ∧
      ∃ new, new ≠ [] ∧ (parseDocstring env st obj doc src).2.reports = st.reports ++ new ∧
        ∀ r ∈ new, r.obj = src ∧ r.sec = 0) := by
  refine ⟨by simp only [parseDocstring, h, parseResult]; split <;> rfl, fun hc hn => ?_⟩
  have hne : (parseResult doc (.raises errs e)).2 ≠ [] := by
    simp only [parseResult]
    split
    · rename_i hp; exact hc hp
    · simp
  obtain ⟨hm, hr⟩ := parseDocstring_reported env st obj src doc _ (by rw [h]) hne hn
  refine ⟨hm, _, by simpa using hne, hr, fun r hr' => ?_⟩
  obtain ⟨_, _, rfl⟩ := List.mem_map.mp hr'
  exact ⟨rfl, rfl⟩

example : ∃ env st, runParser env (getDocformat env 0) 0 ['a'] = .raises [⟨.msg 1, some 0, true⟩] (.parseError 1) ∧
    (parseDocstring env st 0 ['a'] 0).1 = .plain ['a'] :=
  ⟨{ envCx with parser := fun _ _ _ => .raises [⟨.msg 1, some 0, true⟩] (.parseError 1) }, stCx, by decide +kernel⟩

/-- the hypothesis "the error is already stored in the errs list" (a comment in `parse_docstring`)
is needed: a parser that raises `ParseError` without storing anything degrades silently -/
theorem unreported_parse_error_counterexample :
    let env := { envCx with parser := fun _ _ _ => .raises [] (.parseError 1) }
    (ensureParsed env stCx 0).2.reports = [] ∧ (ensureParsed env stCx 0).2.errors = [] ∧
    ((ensureParsed env stCx 0).2.objs 0).parsed = some (.plain ['x']) := by
  decide +kernel

theorem ensure_fallback_full_text (env : Env) (st : St) (obj src : Obj) (d : Text) (errs : List Err) (e : Exc)
    (hg : getDocstring st (obj :: env.inherited obj) = .found d src)
    (hp : (st.objs obj).parsed = none)
    (h : runParser env (getDocformat env src) obj d = .raises errs e) :
    (ensureParsed env st obj).1 = some src ∧
    ((ensureParsed env st obj).2.objs obj).parsed = some (.plain d) := by
  simp [ensureParsed, hg, hp, (parse_fallback_full_text env st obj src d errs e h).1]

theorem render_fallback_full_text (env : Env) (st : St) (obj src : Obj) (pd : PD) (e : Exc) (d : Text)
    (hsrc : (ensureParsed env st obj).1 = some src)
    (hpd : ((ensureParsed env st obj).2.objs obj).parsed = some pd)
    (hraise : pdToStan env pd = .raises e)
    (hdoc : (st.objs src).docstring = some d) :
    ∃ out, (formatDocstring env st obj).1 = .ok out ∧ out.body = .pre d := by
  have hd := (frame_ensureParsed env st obj).docstring src
  rw [hdoc] at hd
  simp [formatDocstring, hsrc, hpd, safeToStan, safeToStanOut, hraise, applyFallback, hd]

example : ∃ env st, (ensureParsed env st 0).1 = some 0 ∧ pdToStan env (.user 1 []) = .raises (.other 3) ∧
    (formatDocstring env st 0).1.isOk = true :=
  ⟨{ envCx with toStan := fun _ => .raises (.other 3) }, stCx, by decide +kernel⟩

def bodyOf : Res DocOut → Option Stan
  | .ok out => some out.body
  | .raises _ => none

/-- `Docstring.fallback_full_text`: whichever way a parser gives up, the parsed form is the plaintext
of the whole input; whenever the renderer gives up, the body shown is the whole original docstring
of the source object -/
theorem fallback_full_text (env : Env) (st : St) (obj src : Obj) :
    (∀ d errs e, getDocstring st (obj :: env.inherited obj) = .found d src → (st.objs obj).parsed = none →
      runParser env (getDocformat env src) obj d = .raises errs e →
      ((ensureParsed env st obj).2.objs obj).parsed = some (.plain d)) ∧
    (∀ pd e d, (ensureParsed env st obj).1 = some src →
      ((ensureParsed env st obj).2.objs obj).parsed = some pd → pdToStan env pd = .raises e →
      (st.objs src).docstring = some d → bodyOf (formatDocstring env st obj).1 = some (.pre d)) := by
  refine ⟨fun d errs e hg hp h => (ensure_fallback_full_text env st obj src d errs e hg hp h).2, ?_⟩
  intro pd e d h1 h2 h3 h4
  obtain ⟨out, ho, hb⟩ := render_fallback_full_text env st obj src pd e d h1 h2 h3 h4
  simp [ho, bodyOf, hb]

/-- `Docstring.fallback_uses_source_text`: an object that INHERITS its docstring (`get_docstring`
finds the text `d` on `src`, possibly in another module) and whose rendering fails shows the entire
text `d` — `format_docstring` hands `source`, not `obj`, to `safe_to_stan` — and whatever this call
reports is reported against `src` -/
theorem fallback_uses_source_text (env : Env) (st : St) (obj src : Obj) (d : Text) (pd : PD) (e : Exc)
    (hg : getDocstring st (obj :: env.inherited obj) = .found d src)
    (hpd : ((ensureParsed env st obj).2.objs obj).parsed = some pd)
    (hraise : pdToStan env pd = .raises e) :
    bodyOf (formatDocstring env st obj).1 = some (.pre d) ∧
    ∃ new, (formatDocstring env st obj).2.reports = st.reports ++ new ∧ ∀ r ∈ new, r.obj = src := by
  have hsrc := ensureParsed_found hg
  refine ⟨(fallback_full_text env st obj src).2 pd e d hsrc hpd hraise (getDocstring_found st d src _ hg).1, ?_⟩
  obtain ⟨new, hn, hp⟩ := (doc_spec env st obj).1.reports
  exact ⟨new, hn, fun r hr => (ensureParsed_some env st obj src hsrc).2 ▸ (hp r hr).1⟩

/-- object 1 has no docstring and inherits object 0's; `to_stan` fails; object 1 shows object 0's text -/
example :
    bodyOf (formatDocstring { envCx with inherited := fun o => if o = 1 then [0] else [],
                                         toStan := fun _ => .raises (.other 3) }
              ⟨fun o => if o = 0 then ⟨some ['x', 'y'], none, none, none⟩ else ⟨none, none, none, none⟩, [], [], false, []⟩ 1).1
      = some (.pre ['x', 'y']) := by decide +kernel

/-- a renderer failure is reported against the source object (4690c0c: also when parsing the same
docstring already produced a warning), provided no RENDERING failure of that object was reported before
(`reportErrors` files at most one group per object, section and phase) -/
theorem render_failure_reported (env : Env) (st : St) (obj src : Obj) (pd : PD) (e : Exc)
    (hsrc : (ensureParsed env st obj).1 = some src)
    (hpd : ((ensureParsed env st obj).2.objs obj).parsed = some pd)
    (hraise : pdToStan env pd = .raises e)
    (hn : (0, src, Phase.rendering) ∉ (ensureParsed env st obj).2.reported) :
    (0, src) ∈ (formatDocstring env st obj).2.errors ∧
    ⟨src, 0, .exc e, 0⟩ ∈ (formatDocstring env st obj).2.reports := by
  simp only [formatDocstring, hsrc, hpd, safeToStan, safeToStanOut, hraise, applyFallback_snd _ .docstring _ nofun, if_true]
  have hf := frame_formatFields env obj src (pdFields pd)
    (reportErrors (ensureParsed env st obj).2 src [toStanError e] 0 .rendering)
  obtain ⟨new, hr, _⟩ := hf.reports
  refine ⟨hf.errors_mono _ (reportErrors_fresh_mem (by simp) hn), ?_⟩
  rw [hr, (reportErrors_fresh _ src [toStanError e] 0 .rendering (by simp) hn).2.2]
  simp [toStanError, Err.offset, Err.linenum]

/-- since 4690c0c the renderer failure is logged after the parser's warning, and the whole text is shown -/
theorem render_failure_after_warning_reported :
    (formatDocstring envMasked stCx 0).2.reports = [⟨0, 0, .msg 7, 2⟩, ⟨0, 0, .exc (.other 3), 0⟩] ∧
    bodyOf (formatDocstring envMasked stCx 0).1 = some (.pre ['x']) ∧
    (formatDocstring envMasked stCx 0).2.errors = [(0, 0)] := by
  decide +kernel

/-- HISTORICAL (before 4690c0c, `reportErrorsOld`): one report group per (section, object) — after the
parser's warning had been reported, the renderer's failure found the object already in `parse_errors`
and was dropped from the log; the phase-keyed `reportErrors` keeps it -/
theorem render_failure_masked_old_counterexample :
    let warn : Err := ⟨.msg 7, some 2, false⟩
    (reportErrorsOld (reportErrorsOld stCx 0 [warn] 0) 0 [toStanError (.other 3)] 0).reports = [⟨0, 0, .msg 7, 2⟩] ∧
    (reportErrors (reportErrors stCx 0 [warn] 0 .parsing) 0 [toStanError (.other 3)] 0 .rendering).reports
      = [⟨0, 0, .msg 7, 2⟩, ⟨0, 0, .exc (.other 3), 0⟩] := by
  decide +kernel

def fieldsOf : Res DocOut → List Stan
  | .ok out => out.fields
  | .raises _ => []

/-- since 46bdc37: the body of the docstring renders, the body of its one field does not — the field shows the
text of its node tree as plain text, and the failure is reported -/
theorem field_failure_shows_text :
    let env := { envCx with parser := fun _ _ _ => .returns (.user 1 [⟨.plain, none, .user 7, 3⟩]) [],
                            toNode := fun _ => .returns, nodeText := fun _ => ['s', 'e', 'p'],
                            toStan := fun k => if k = 7 then .raises (.other 3) else .returns (.opaque k) }
    bodyOf (formatDocstring env stCx 0).1 = some (.opaque 1) ∧
    fieldsOf (formatDocstring env stCx 0).1 = [.pre ['s', 'e', 'p']] ∧
    (formatDocstring env stCx 0).2.reports = [⟨0, 0, .exc (.other 3), 0⟩] := by
  decide +kernel

/-- in general: a field whose `to_stan` raises shows the text of its node tree whenever it has one with a
visible character — never the BROKEN placeholder then — and the failure is recorded against the source -/
theorem field_fallback_shows_text (env : Env) (st : St) (k : Nat) (src : Obj) (e : Exc)
    (hs : env.toStan k = .raises e) (hn : env.toNode k = .returns)
    (hv : (env.nodeText k).any (fun c => !pyIsSpace c) = true) :
    (fieldToStan env st (.user k) src).1 = .pre (env.nodeText k) ∧
    (0, src, Phase.rendering) ∈ (fieldToStan env st (.user k) src).2.reported := by
  simp only [fieldToStan, bodyToStan, hs, fieldFallback, bodyToNode, hn, hv, if_true]
  exact ⟨trivial, reportErrors_key (by simp)⟩

/-- HISTORICAL witness (before 46bdc37, `fieldToStanOld`) for the finding `field:render-failure-text-lost`: the
field was shown as the BROKEN placeholder, its text nowhere -/
theorem field_failure_text_lost_old_counterexample :
    let env := { envCx with toNode := fun _ => .returns, nodeText := fun _ => ['s', 'e', 'p'],
                            toStan := fun _ => .raises (.other 3) }
    (fieldToStanOld env stCx (.user 7) 0).1 = .broken ∧ (fieldToStan env stCx (.user 7) 0).1 = .pre ['s', 'e', 'p'] := by
  decide +kernel

/-- the reST role registry is restored after every parse (2732bb2).  `parseRestoring` is abstract: only the test
oracle ties it to the code. -/
theorem registry_restored {R α : Type} (reg : R) (parse : R → α × R) : (parseRestoring reg parse).2 = reg := rfl

/-- whatever docstring A does to docutils' registry — also when its parse fails half-way — docstring B is read
exactly as if it had been parsed alone -/
theorem parse_independent_of_previous {R α β : Type} (reg : R) (pA : R → α × R) (pB : R → β × R) :
    (parseRestoring (parseRestoring reg pA).2 pB).1 = (parseRestoring reg pB).1 := rfl

/-- HISTORICAL (before 2732bb2, `parseLeaking`): a parse that leaves `default-role = literal` behind (registry 1)
makes the next docstring read `name` as a literal (outcome 1) instead of a cross-reference (outcome 0) -/
theorem registry_leak_old_counterexample :
    let pA : Nat → Unit × Nat := fun _ => ((), 1)
    let pB : Nat → Nat × Nat := fun r => (r, r)
    (parseLeaking (parseLeaking 0 pA).2 pB).1 = 1 ∧ (parseLeaking 0 pB).1 = 0 ∧
    (parseRestoring (parseRestoring 0 pA).2 pB).1 = 0 := by
  decide +kernel

/-- the summary of a plain-text docstring whose `to_stan` raises (an XML-invalid character) -/
def envSummaryFails : Env :=
  { envCx with parser := fun _ _ d => .returns (.plain d) [], plainToNode := fun _ => .returns,
               walk := fun _ => .summary 2, toStan := fun _ => .raises (.other 3) }

def sumOf : Res Stan → Option Stan
  | .ok s => some s
  | .raises _ => none

/-- witness for the open finding `summary:render-failure-unreported`: the body renders, the summary
shows the BROKEN placeholder, and NOTHING is reported (`format_summary` passes `report=False`) -/
theorem summary_failure_unreported_counterexample :
    sumOf (formatSummary envSummaryFails stCx 0).1 = some .broken ∧
    (formatSummary envSummaryFails stCx 0).2.reports = [] ∧
    bodyOf (formatDocstring envSummaryFails (formatSummary envSummaryFails stCx 0).2 0).1 = some (.pre ['x']) ∧
    (formatDocstring envSummaryFails (formatSummary envSummaryFails stCx 0).2 0).2.reports = [] := by
  decide +kernel

/-- the wrappers' side of the finding `property:return-only-docstring:fallback-text-lost`: an object whose
`docstring` has been blanked to `''` while its `parsed_docstring` was set by hand (what `_handlePropertyDef`
did for a `@return:`-only docstring before 5a184d3) falls back to the EMPTY text when rendering fails —
`format_docstring_fallback` can only show `ctx.docstring`.  The failure itself is reported. -/
theorem blanked_docstring_fallback_counterexample :
    let st : St := ⟨fun _ => ⟨some [], some (.user 1 []), none, none⟩, [], [], false, []⟩
    let env := { envCx with toStan := fun _ => .raises (.other 3) }
    bodyOf (formatDocstring env st 0).1 = some (.pre []) ∧
    (formatDocstring env st 0).2.reports = [⟨0, 0, .exc (.other 3), 0⟩] := by
  decide +kernel

/-- `Docstring.reported_once`: an object whose parsing AND rendering problems have been reported in a
section is never reported again there, by any of the five calls of `step` on whatever object (the six further
calls: `x_reported_once`); what has been recorded (`parse_errors`, `reported_errors`) only grows -/
theorem reported_once (env : Env) (st : St) (op : Op) (obj : Obj) (sec : Sec) (o : Obj)
    (h : ∀ ph, (sec, o, ph) ∈ st.reported) :
    reportsOf (step env st op obj).2 sec o = reportsOf st sec o ∧
    (∀ p ∈ st.errors, p ∈ (step env st op obj).2.errors) ∧
    (∀ k ∈ st.reported, k ∈ (step env st op obj).2.reported) := by
  have hl := loose_step env st op obj
  exact ⟨hl.reportsOf_reported h, hl.errors_mono, hl.reported_mono⟩

/-- each phase on its own, as far as the log shows it (a `Report` does not carry its phase): every report a call
adds names a pair `(sec, o)` of which some key `(sec, o, ph)` was not recorded before the call and is after it -/
theorem reported_once_phase (env : Env) (st : St) (op : Op) (obj : Obj) :
    ∃ new, (step env st op obj).2.reports = st.reports ++ new ∧
      ∀ r ∈ new, ∃ ph, (r.sec, r.obj, ph) ∉ st.reported ∧ (r.sec, r.obj, ph) ∈ (step env st op obj).2.reported := by
  obtain ⟨new, e, p⟩ := (loose_step env st op obj).reports
  exact ⟨new, e, fun r hr => (p r hr).2.2⟩

/-- `Docstring.isolation`: one call on `obj` changes nothing about any other object `B`: not its
docstring, parsed form, summary or parsed type, not its reports, not whether it counts as reported.
"Other" = not `obj` (`touchedOf`; for `extract_fields` also not one of the attributes named by the
variable fields of `obj`'s docstring, whose documentation it IS) and not the source of `obj`'s
docstring (for that one see `isolation_source`). -/
theorem isolation (env : Env) (st : St) (op : Op) (obj B : Obj)
    (hB : ¬ touchedOf env st op obj B) (hS : B ≠ srcOfOp env st op obj) :
    (step env st op obj).2.objs B = st.objs B ∧
    (∀ sec, reportsOf (step env st op obj).2 sec B = reportsOf st sec B) ∧
    (∀ sec, (sec, B) ∈ (step env st op obj).2.errors ↔ (sec, B) ∈ st.errors) :=
  (loose_step env st op obj).isolated fun h => h.elim hB hS

theorem touchedOf_ne (env : Env) (st : St) (op : Op) (obj B : Obj) (hop : op ≠ .extract) (hB : B ≠ obj) :
    ¬ touchedOf env st op obj B := by
  simp [touchedOf, hop, Only, hB]

/-- the object the docstring was inherited from keeps its docstring and parsed form; it receives the
reports (it is its docstring); since c070c47 nothing cached on it is overwritten -/
theorem isolation_source (env : Env) (st : St) (op : Op) (obj B : Obj) (hB : ¬ touchedOf env st op obj B) :
    ((step env st op obj).2.objs B).docstring = (st.objs B).docstring ∧
    ((step env st op obj).2.objs B).parsed = (st.objs B).parsed ∧
    ((step env st op obj).2.objs B).parsedSummary = (st.objs B).parsedSummary ∧
    ((step env st op obj).2.objs B).ptype = (st.objs B).ptype :=
  ⟨(frame_step env st op obj).docstring B, (frame_step env st op obj).parsed B hB,
   (frame_step env st op obj).summary B hB, (frame_step env st op obj).ptype B hB⟩

/-- since c070c47: whatever happens while the summary of `obj` is produced — its renderer may fail —
everything cached on EVERY other object is left as it was, the object the docstring was inherited
from or is a field of included -/
theorem summary_failure_stays_local (env : Env) (st : St) (obj B : Obj) (hB : B ≠ obj) :
    (formatSummary env st obj).2.objs B = st.objs B :=
  (summary_spec env st obj).1.objs_eq hB

/-- object 1 inherits object 0's docstring; the summary's `to_stan` raises -/
def envInherit : Env :=
  { envCx with inherited := fun o => if o = 1 then [0] else [],
               toNode := fun _ => .returns,
               walk := fun _ => .summary 2,
               toStan := fun k => if k = 2 then .raises (.other 3) else .returns (.opaque k) }

def stInherit : St := ⟨fun o => if o = 0 then ⟨some ['x'], none, none, none⟩ else ⟨none, none, none, none⟩, [], [], false, []⟩

/-- HISTORICAL (before c070c47, `formatSummaryOld`): a failing summary of an INHERITED docstring marked the
summary of the object it was inherited from as broken (`format_summary_fallback` wrote to `ctx`, the
source), while the inheriting object kept its own cached summary; since then the inheriting object is
marked and the source is left alone -/
theorem summary_fallback_touches_source :
    ((formatSummaryOld envInherit stInherit 1).2.objs 0).parsedSummary = some (.stanOnly .broken) ∧
    ((formatSummaryOld envInherit stInherit 1).2.objs 1).parsedSummary = some (.user 2 []) ∧
    ((formatSummary envInherit stInherit 1).2.objs 0).parsedSummary = none ∧
    ((formatSummary envInherit stInherit 1).2.objs 1).parsedSummary = some (.stanOnly .broken) := by
  decide +kernel

/-- object 1 is a variable documented by an `@ivar` field of class 0's docstring (split field: no docstring of
its own, `parsed_docstring` preset, parent 0); its summary's `to_stan` raises -/
def envSplit : Env :=
  { envCx with parent := fun o => if o = 1 then some 0 else none,
               parser := fun _ _ d => .returns (.plain d) [], plainToNode := fun _ => .returns,
               toNode := fun _ => .returns,
               walk := fun pd => match pd with | .user 5 _ => .summary 6 | _ => .summary 2,
               toStan := fun k => if k = 6 then .raises (.other 3) else .returns (.opaque k) }

def stSplit : St :=
  ⟨fun o => if o = 0 then ⟨some ['x'], none, none, none⟩ else ⟨none, some (.user 5 []), none, none⟩, [], [], false, []⟩

/-- HISTORICAL witness (before c070c47, `formatSummaryOld`) for the finding `summary:fallback-overwrites-source-summary`:
the class's summary renders (`.opaque 2`); then the summary of the variable it documents by a field fails.
Before: the CLASS's cached summary was overwritten with BROKEN, the class showed 'Broken description' too.
Since: the class keeps its summary. -/
theorem summary_fallback_overwrites_class_summary :
    let s1 := (formatSummary envSplit stSplit 0).2
    let o2 := (formatSummaryOld envSplit s1 1).2
    let n2 := (formatSummary envSplit s1 1).2
    sumOf (formatSummary envSplit stSplit 0).1 = some (.opaque 2) ∧
    sumOf (formatSummaryOld envSplit s1 1).1 = some .broken ∧
    sumOf (formatSummaryOld envSplit o2 0).1 = some .broken ∧
    sumOf (formatSummary envSplit s1 1).1 = some .broken ∧
    sumOf (formatSummary envSplit n2 0).1 = some (.opaque 2) := by
  decide +kernel

/-- a state transformer that files reports only under the key `(0, src, ph)` through `reportErrors`,
never touches docstrings or parsed docstrings, and whose effect on the log depends on the log only -/
structure Rep (src : Obj) (ph : Phase) (f : St → St) : Prop where
  fresh : ∀ st, RE (f st) st ∨ (0, src, ph) ∈ (f st).reported
  noop : ∀ st, (0, src, ph) ∈ st.reported → RE (f st) st
  congr : ∀ a b, RE a b → RE (f a) (f b)
  keeps : ∀ st x, ((f st).objs x).docstring = (st.objs x).docstring ∧ ((f st).objs x).parsed = (st.objs x).parsed

theorem Rep.idem {src : Obj} {ph : Phase} {f : St → St} (h : Rep src ph f) (st : St) : RE (f (f st)) (f st) := by
  rcases h.fresh st with h1 | h1
  · exact h.congr _ _ h1
  · exact h.noop _ h1

theorem Rep.comp {src : Obj} {ph : Phase} {f g : St → St} (hf : Rep src ph f) (hg : Rep src ph g) :
    Rep src ph (fun st => g (f st)) := by
  refine ⟨fun st => ?_, fun st h => ?_, fun a b h => hg.congr _ _ (hf.congr _ _ h), fun st x =>
    ⟨(hg.keeps _ x).1.trans (hf.keeps _ x).1, (hg.keeps _ x).2.trans (hf.keeps _ x).2⟩⟩
  · rcases hf.fresh st with h1 | h1
    · -- `f` was silent: `g` sees the log of `st`
      have h2 := hg.congr _ _ h1
      exact (hg.fresh st).imp h2.trans fun h3 => h2.2.2 ▸ h3
    · exact .inr ((hg.noop _ h1).2.2 ▸ h1)
  · have h1 := hf.noop _ h
    exact (hg.noop _ (h1.2.2 ▸ h)).trans h1

theorem rep_id (src : Obj) (ph : Phase) : Rep src ph (fun st => st) :=
  ⟨fun _ => .inl (RE.refl _), fun _ _ => RE.refl _, fun _ _ h => h, fun _ _ => ⟨rfl, rfl⟩⟩

theorem rep_reportErrors (src : Obj) (errs : List Err) (ph : Phase) :
    Rep src ph (fun st => reportErrors st src errs 0 ph) := by
  refine ⟨fun st => ?_, fun st h => by rw [reportErrors_noop h]; exact RE.refl _,
          fun a b h => reportErrors_congr a b src errs 0 ph h, fun st x => by simp⟩
  by_cases he : errs = []
  · left; rw [he, reportErrors_nil]; exact RE.refl _
  · right; exact reportErrors_key he

theorem rep_setPType (src o : Obj) (ph : Phase) (b : Body) : Rep src ph (fun st => setPType st o b) :=
  ⟨fun st => .inl ⟨rfl, rfl, rfl⟩, fun st _ => ⟨rfl, rfl, rfl⟩, fun _ _ h => h, fun st x => by simp⟩

theorem rep_safeToStanOut (src : Obj) (out : StanOut) (fb : Fallback) (hfb : fb ≠ .summary) :
    Rep src .rendering (fun st => (safeToStanOut st out src fb true 0).2) := by
  simpa only [safeToStanOut_snd _ _ _ _ _ hfb] using rep_reportErrors src out.errs .rendering

theorem rep_formatFields (env : Env) (obj src : Obj) :
    ∀ fs : List Field, Rep src .rendering (fun st => (formatFields env st obj src fs).2) :=
  formatFields_snd_ind env obj src (rep_id src _) (fun _ _ => Rep.comp) (rep_setPType src obj _) fun b => by
    simpa only [fieldToStan_snd] using rep_reportErrors src (bodyToStan env b).errs .rendering

theorem doc_second_call (env : Env) (st : St) (obj : Obj) :
    RE (formatDocstring env (formatDocstring env st obj).2 obj).2 (formatDocstring env st obj).2 := by
  have hd := (doc_spec env st obj).1.docstring
  rcases ensureParsed_cases env st obj with hnone | ⟨pd, hsrc, hpd⟩
  · have h1 : (formatDocstring env st obj).2 = (ensureParsed env st obj).2 := by
      simp only [formatDocstring, hnone]
    rw [h1]
    simp only [formatDocstring, ensureParsed_idem, hnone]
    exact RE.refl _
  · -- body-then-fields as a state transformer: the second call runs it again on the state the first one left
    have hrep := (rep_safeToStanOut (sourceOf env st obj) (pdToStan env pd) .docstring nofun).comp
      (rep_formatFields env obj (sourceOf env st obj) (pdFields pd))
    have h1 := congrArg Prod.snd (formatDocstring_of (Prod.ext hsrc rfl) hpd)
    have hk := (hrep.keeps (ensureParsed env st obj).2 obj).2
    have h2 := ensureParsed_stable env st (formatDocstring env st obj).2 obj hd (by rw [h1]; exact hk)
    rw [congrArg Prod.snd (formatDocstring_of (hsrc ▸ h2) (by rw [h1]; exact hk.trans hpd)), h1]
    exact hrep.idem _

/-- `format_summary` never reports by itself (`report=False`) -/
theorem formatSummary_tail (env : Env) (st : St) (obj : Obj) :
    (formatSummary env st obj).2.reports = (ensureParsed env st obj).2.reports ∧
    (formatSummary env st obj).2.errors = (ensureParsed env st obj).2.errors ∧
    (∀ x, ((formatSummary env st obj).2.objs x).parsed = ((ensureParsed env st obj).2.objs x).parsed) :=
  (formatSummary_ind (P := fun s => s.reports = (ensureParsed env st obj).2.reports ∧
      s.errors = (ensureParsed env st obj).2.errors ∧
      ∀ x, (s.objs x).parsed = ((ensureParsed env st obj).2.objs x).parsed)
    env st obj ⟨rfl, rfl, fun _ => rfl⟩ fun _ _ h => by simpa using h).1

theorem splitFields_log : ∀ (fs : List Field) (st : St),
    RE (splitFields st fs) st ∧ ∀ x, ((splitFields st fs).objs x).docstring = (st.objs x).docstring :=
  fun fs st => splitFields_ind (T := fun _ => True)
    (P := fun s => RE s st ∧ ∀ x, (s.objs x).docstring = (st.objs x).docstring)
    (fun _ _ _ _ h => ⟨h.1, by simpa using h.2⟩) (fun _ _ _ _ h => ⟨h.1, by simpa using h.2⟩) fs st
    (fun _ _ => trivial) ⟨RE.refl _, fun _ => rfl⟩

theorem extractFields_log (env : Env) (s : St) (obj : Obj) (d : Text) (hd : (s.objs obj).docstring = some d) :
    RE (extractFields env s obj).2
      (reportErrors s obj (parseResult d (runParser env (getDocformat env obj) obj d)).2 0 .parsing) ∧
    ((extractFields env s obj).2.objs obj).docstring = some d := by
  simp only [extractFields, hd]
  obtain ⟨a, c⟩ := splitFields_log (pdFields (parseDocstring env s obj d obj).1)
    (setParsed (parseDocstring env s obj d obj).2 obj (parseDocstring env s obj d obj).1)
  exact ⟨a.trans (parseDocstring_RE env s obj obj d), by rw [c]; simp [hd]⟩

/-- `Docstring.reported_once`, second-call form: calling the same entry point again on the same
object adds no report and no reported object (parse results are cached; a renderer that fails
again finds its key already in `reported_errors`) -/
theorem second_call_silent (env : Env) (st : St) (op : Op) (obj : Obj) :
    (step env (step env st op obj).2 op obj).2.reports = (step env st op obj).2.reports ∧
    (step env (step env st op obj).2 op obj).2.errors = (step env st op obj).2.errors := by
  cases op <;> simp only [step]
  · rw [ensureParsed_idem]
    exact ⟨rfl, rfl⟩
  · exact ⟨(doc_second_call env st obj).2.1, (doc_second_call env st obj).1⟩
  · obtain ⟨_, _, c⟩ := formatSummary_tail env st obj
    obtain ⟨a2, b2, _⟩ := formatSummary_tail env (formatSummary env st obj).2 obj
    rw [a2, b2, ensureParsed_stable env st _ obj (summary_spec env st obj).1.docstring (c obj)]
    exact ⟨rfl, rfl⟩
  · rw [(formatToc_snd_ok env _ obj).1, (formatToc_snd_ok env st obj).1, ensureParsed_idem]
    exact ⟨rfl, rfl⟩
  · cases hd : (st.objs obj).docstring with
    | none => simp [extractFields, hd]
    | some d =>
      -- both logs are that of `reportErrors` with the same `errs`, which is idempotent on the log
      obtain ⟨hA, hd2⟩ := extractFields_log env st obj d hd
      obtain ⟨hB, _⟩ := extractFields_log env (extractFields env st obj).2 obj d hd2
      have h := (hB.trans (reportErrors_congr _ _ obj _ 0 .parsing hA)).trans
        ((rep_reportErrors obj _ .parsing).idem st)
      exact ⟨h.2.1.trans hA.2.1.symm, h.1.trans hA.1.symm⟩

/-- `safe_to_stan(…, fallback=colorized_pyval_fallback)` always returns (4caea46) -/
theorem pyval_total (env : Env) (st : St) (b : Body) (ctx : Obj) (sec : Sec) :
    (safeToStanPyval env st b ctx sec).1.isOk = true := by
  obtain ⟨s, h⟩ := safeToStanPyval_eq env st b ctx sec
  rw [h]; rfl

/-- HISTORICAL (before 4caea46): it raised exactly when BOTH `to_stan` and the `to_node` of the
fallback raised — and then it was `to_node`'s exception that escaped (that nothing was reported then: `safeToStanPyvalOld`
leaves the state alone on that branch; witness `type_old_counterexample`) -/
theorem pyval_old_raises_iff (env : Env) (st : St) (b : Body) (ctx : Obj) (sec : Sec) (e' : Exc) :
    (safeToStanPyvalOld env st b ctx sec).1 = .raises e' ↔
      (∃ e, bodyToStan env b = .raises e) ∧ bodyToNode env b = .raises e' := by
  unfold safeToStanPyvalOld
  cases hs : bodyToStan env b <;> cases hn : bodyToNode env b <;> simp

theorem frame_pyval {T : Obj → Prop} (env : Env) (st : St) (b : Body) (ctx : Obj) (sec : Sec) :
    Frame T ctx sec st (safeToStanPyval env st b ctx sec).2 :=
  (safeToStanPyval_eq env st b ctx sec).elim fun _ h => h ▸ frame_reportErrors ..

/-- a renderer failure inside the colorized value / the type is reported against the object, in the
wrapper's own section — whether or not the plain-text fallback could be built (then BROKEN is shown) -/
theorem pyval_failure_reported (env : Env) (st : St) (b : Body) (ctx : Obj) (sec : Sec) (e : Exc)
    (hs : bodyToStan env b = .raises e) :
    ((safeToStanPyval env st b ctx sec).1 = .ok .code ∨ (safeToStanPyval env st b ctx sec).1 = .ok .broken) ∧
    (sec, ctx, Phase.rendering) ∈ (safeToStanPyval env st b ctx sec).2.reported := by
  simp only [safeToStanPyval, hs]
  cases bodyToNode env b
  · exact ⟨.inl rfl, reportErrors_key (by simp)⟩
  · exact ⟨.inr rfl, reportErrors_key (by simp)⟩

/-- `format_signature` always returns: `(...)` and a report in section 'signature' on failure -/
theorem signature_total (env : Env) (st : St) (obj : Obj) :
    (formatSignature env st obj).1.isOk = true ∧ Frame (Only obj) obj secSignature st (formatSignature env st obj).2 := by
  fun_cases formatSignature env st obj
  case case3 e _ => exact ⟨rfl, frame_reportErrors st [toStanError e] .parsing⟩
  all_goals exact ⟨rfl, Frame.refl⟩

theorem signature_failure_reported (env : Env) (st : St) (obj : Obj) (e : Exc) (h : env.sigOut obj = some (.raises e)) :
    (formatSignature env st obj).1 = .ok .sigBroken ∧
    (secSignature, obj, Phase.parsing) ∈ (formatSignature env st obj).2.reported := by
  simp only [formatSignature, h]
  exact ⟨trivial, reportErrors_key (by simp)⟩

theorem frame_getParsedType (env : Env) (st : St) (obj : Obj) :
    Frame (Only obj) (sourceOf env st obj) 0 st (getParsedType env st obj).2 := by
  have hf := frame_ensureParsed env st obj
  fun_cases getParsedType env st obj
  · exact Frame.refl
  · exact hf
  · exact hf.trans (frame_setPType rfl)
  · exact hf
  · exact Frame.refl

theorem pyvalList_spec (T : Obj → Prop) (env : Env) (obj : Obj) (sec : Sec) :
    ∀ (ks : List Nat) (st : St), (pyvalList env obj sec st ks).1.isOk = true ∧ Frame T obj sec st (pyvalList env obj sec st ks).2
  | [], st => ⟨rfl, Frame.refl⟩
  | k :: ks, st => by
    obtain ⟨s, h⟩ := safeToStanPyval_eq env st (.user k) obj sec
    have ih := pyvalList_spec T env obj sec ks (reportErrors st obj (bodyToStan env (.user k)).errs sec .rendering)
    simp only [pyvalList, h]
    split
    · rename_i heq; rw [heq] at ih; cases ih.1
    · rename_i heq; rw [heq] at ih; exact ⟨rfl, (frame_reportErrors ..).trans ih.2⟩

def xTouched (env : Env) (st : St) (op : XOp) (obj : Obj) : Obj → Prop := fun x =>
  x = obj ∨ x = sourceOf env st obj ∨
    (op = .core .extract ∧ ∃ d, (st.objs obj).docstring = some d ∧
      x ∈ splitTargets (pdFields (parseDocstring env st obj d obj).1))

/-- `type2stan` may report under two keys — the parse against the docstring source in section 0, the rendering
against `obj` in section 'annotation' — so what it may change is a `Loose`, not a single `Frame` -/
theorem type_spec (env : Env) (st : St) (obj : Obj) :
    (type2stan env st obj).1.isOk = true ∧ Loose (xTouched env st .typ obj) st (type2stan env st obj).2 := by
  have h1 := ((frame_getParsedType env st obj).mono (T' := xTouched env st .typ obj) fun _ => .inl).loose (.inr (.inl rfl))
  simp only [type2stan]
  split
  · exact ⟨rfl, h1⟩
  · rename_i b _
    obtain ⟨s, h⟩ := safeToStanPyval_eq env (getParsedType env st obj).2 b obj secAnnotation
    rw [h]
    exact ⟨rfl, h1.trans ((frame_reportErrors ..).loose (.inl rfl))⟩

/-- `type2stan` always returns (since 4caea46; before: `typed_failure_escaped_old`) -/
theorem type_total (env : Env) (st : St) (obj : Obj) : (type2stan env st obj).1.isOk = true :=
  (type_spec env st obj).1

theorem constant_total (env : Env) (st : St) (obj : Obj) : (formatConstant env st obj).1.isOk = true :=
  pyval_total env st _ obj secConstant

theorem class_signature_total (env : Env) (st : St) (obj : Obj) : (formatClassSignature env st obj).1.isOk = true :=
  (pyvalList_spec (Only obj) env obj _ _ st).1

theorem decorators_total (env : Env) (st : St) (obj : Obj) : (formatDecorators env st obj).1.isOk = true :=
  (pyvalList_spec (Only obj) env obj _ _ st).1

/-- HISTORICAL (before 4caea46): whenever the type shown for an object was a ParsedTypeDocstring
(`Body.typed`) and its `to_stan` raised, `type2stan` let NotImplementedError out -/
theorem typed_failure_escaped_old (env : Env) (st : St) (obj : Obj) (k : Nat) (e : Exc)
    (hb : (getParsedType env st obj).1 = some (.typed k)) (hs : env.typedToStan k = .raises e) :
    (type2stanOld env st obj).1 = .raises .notImplemented := by
  simp [type2stanOld, hb, safeToStanPyvalOld, bodyToStan, bodyToNode, hs]

/-- an Attribute whose docstring has a `type` field, with --process-types on, whose type renderer fails -/
def envType : Env :=
  { envCx with processtypes := true, isAttribute := fun _ => true, toNode := fun _ => .returns,
               parser := fun _ _ _ => .returns (.user 1 [⟨.typ, none, .user 7, 0⟩]) [],
               typedToStan := fun _ => .raises (.other 3) }

def excOf {α : Type} : Res α → Option Exc
  | .ok _ => none
  | .raises e => some e

def typOf : Res (Option Stan) → Option Stan
  | .ok s => s
  | .raises _ => none

/-- HISTORICAL counterexample (code before 4caea46, `type2stanOld`); since then: the BROKEN placeholder,
and the failure reported in section 'annotation' -/
theorem type_old_counterexample :
    excOf (type2stanOld envType stCx 0).1 = some .notImplemented ∧ (type2stanOld envType stCx 0).2.reports = [] ∧
    typOf (type2stan envType stCx 0).1 = some .broken ∧
    (type2stan envType stCx 0).2.reports = [⟨0, secAnnotation, .exc (.other 3), 0⟩] := by
  decide +kernel

/-- `get_parsed_type` looks at the cache first: once `parsed_type` is set on the object — before the call, or by
it (an Attribute whose own docstring has a `type` field: the LAST one is stored) — a further call returns it and
leaves the state alone.  Nothing is said of a call that leaves it unset. -/
theorem getParsedType_cached (env : Env) (st : St) (obj : Obj) (b : Body)
    (hp : ((getParsedType env st obj).2.objs obj).ptype = some b) :
    getParsedType env (getParsedType env st obj).2 obj = (some b, (getParsedType env st obj).2) := by
  generalize (getParsedType env st obj).2 = S at hp ⊢
  simp [getParsedType, hp]

/-- the search-index text of an object is always produced (e1378c4) -/
theorem search_total (env : Env) (st : St) (obj : Obj) : (searchDocstring env st obj).1.isOk = true := by
  rcases ensureParsed_cases env st obj with hnone | ⟨pd, hsrc, hpd⟩
  · simp only [searchDocstring, hnone]; rfl
  · simp only [searchDocstring, hsrc, hpd]; split <;> rfl

/-- HISTORICAL (before e1378c4): the old code raised exactly when `to_node` raised something else than
NotImplementedError — the whole run aborted while building the index -/
theorem search_old_raises_iff (env : Env) (st : St) (obj : Obj) :
    (searchDocstringOld env st obj).1.isOk = false ↔
      ∃ src pd e, (ensureParsed env st obj).1 = some src ∧
        ((ensureParsed env st obj).2.objs obj).parsed = some pd ∧ pdToNode env pd = .raises e ∧ e ≠ .notImplemented := by
  rcases ensureParsed_cases env st obj with hnone | ⟨pd, hsrc, hpd⟩
  · simp [searchDocstringOld, hnone, Res.isOk]
  · simp only [searchDocstringOld, hsrc, hpd, Option.some.injEq, exists_and_left, exists_eq_left']
    cases pdToNode env pd with
    | returns => simp [Res.isOk]
    | raises e => by_cases he : e = .notImplemented <;> simp [he, Res.isOk]

/-- HISTORICAL counterexample (`searchDocstringOld`): the parser succeeds, `to_node` raises ValueError -/
theorem search_old_counterexample :
    (searchDocstringOld envCx stCx 0).1.isOk = false ∧ (searchDocstring envCx stCx 0).1.isOk = true := by
  decide +kernel

/-- what `Docstring.x_isolation` and `x_reported_once` are read off: every rendering call — the five of `step` and type2stan, constant value,
signature, class signature, decorators, search text — leaves every object other than `obj`, its
docstring source and (extract_fields) the named attributes completely unchanged, files reports only
against those, and never un-reports anything -/
theorem loose_xstep (env : Env) (st : St) (op : XOp) (obj : Obj) :
    Loose (xTouched env st op obj) st (xstep env st op obj).2 := by
  cases op with
  | core o =>
    refine ((frame_step env st o obj).mono fun x hx => ?_).loose ?_
    · unfold touchedOf at hx
      split at hx
      · rename_i ho; subst ho
        exact hx.elim .inl fun h => .inr (.inr ⟨rfl, h⟩)
      · exact .inl hx
    · unfold srcOfOp
      split
      · exact .inl rfl
      · exact .inr (.inl rfl)
  | typ => exact (type_spec env st obj).2
  | const => exact (frame_pyval env st _ obj secConstant).loose (.inl rfl)
  | sig => exact ((signature_total env st obj).2.mono fun _ => .inl).loose (.inl rfl)
  | classSig => exact (pyvalList_spec _ env obj _ _ st).2.loose (.inl rfl)
  | decorators => exact (pyvalList_spec _ env obj _ _ st).2.loose (.inl rfl)
  | search =>
    have hf := ((frame_ensureParsed env st obj).mono (T' := xTouched env st .search obj) fun _ => .inl).loose (.inr (.inl rfl))
    simp only [xstep]
    fun_cases searchDocstring env st obj <;> exact hf

/-- a failure while rendering anything about `obj` never changes what is shown or reported for an
unrelated object `B` -/
theorem x_isolation (env : Env) (st : St) (op : XOp) (obj B : Obj) (hB : ¬ xTouched env st op obj B) :
    (xstep env st op obj).2.objs B = st.objs B ∧
    (∀ sec, reportsOf (xstep env st op obj).2 sec B = reportsOf st sec B) ∧
    (∀ sec, (sec, B) ∈ (xstep env st op obj).2.errors ↔ (sec, B) ∈ st.errors) :=
  (loose_xstep env st op obj).isolated hB

/-- an (object, section) pair whose parsing and rendering problems have both been reported is never
reported again, by any of these calls -/
theorem x_reported_once (env : Env) (st : St) (op : XOp) (obj : Obj) (sec : Sec) (o : Obj)
    (hm : ∀ ph, (sec, o, ph) ∈ st.reported) :
    reportsOf (xstep env st op obj).2 sec o = reportsOf st sec o :=
  (loose_xstep env st op obj).reportsOf_reported hm

/-- `Docstring.xtotal`: EVERY rendering entry point returns — the five of `total` and type2stan, the
constant value, the signature, the class signature, the decorators and the search text — for every
behaviour of every parameter, every state and object (`extract_fields` under its precondition) -/
theorem xtotal (env : Env) (st : St) (op : XOp) (obj : Obj)
    (hx : op = .core .extract → (st.objs obj).docstring ≠ none) : (xstep env st op obj).1.isOk = true := by
  cases op with
  | core o => exact total env st o obj (fun h => hx (by rw [h]))
  | typ => exact type_total env st obj
  | const => exact constant_total env st obj
  | sig => exact (signature_total env st obj).1
  | classSig => exact class_signature_total env st obj
  | decorators => exact decorators_total env st obj
  | search => exact search_total env st obj

/-- a whole run of such calls returns from every one of them -/
theorem xrun_total (env : Env) : ∀ (ops : List (XOp × Obj)) (st : St),
    (∀ p ∈ ops, p.1 = .core .extract → (st.objs p.2).docstring ≠ none) →
    ∀ o ∈ (xrun env st ops).1, o.isOk = true
  | [], st, _ => by simp [xrun]
  | (op, obj) :: rest, st, hx => by
    intro o ho
    simp only [xrun, List.mem_cons] at ho
    rcases ho with rfl | ho
    · exact xtotal env st op obj (fun h => hx (op, obj) (by simp) h)
    · refine xrun_total env rest (xstep env st op obj).2 ?_ o ho
      intro p hp hpe
      rw [(loose_xstep env st op obj).docstring p.2]
      exact hx p (List.mem_cons_of_mem _ hp) hpe

/-- the `while s in self._section_slugs` loop is a search for the first unused candidate -/
theorem slugLoop_eq_find (cand : Nat → Slug) (used : List Slug) : ∀ fuel i,
    slugLoop cand used fuel i = ((List.range' i fuel).find? fun k => !used.contains (cand k)).map cand
  | 0, _ => rfl
  | fuel + 1, i => by
    rw [slugLoop, List.range'_succ, List.find?_cons, slugLoop_eq_find cand used fuel (i + 1)]
    cases used.contains (cand i) <;> rfl

/-- `Docstring.slugify_terminates`: if the candidates `slugify(text), slugify(text-1), slugify(text-2), …`
are pairwise distinct (ASSUMPTION on `slugify`, checked on the real function by the harness), the
`while s in self._section_slugs` loop ends within `len(_section_slugs) + 1` iterations, with the
first candidate that is not used yet. -/
theorem slugify_terminates (cand : Nat → Slug) (hinj : ∀ i j, cand i = cand j → i = j) (used : List Slug) :
    ∃ s, slugLoop cand used (used.length + 1) 0 = some s ∧ s ∉ used ∧
      ∃ j, s = cand j ∧ ∀ k, k < j → cand k ∈ used := by
  rw [slugLoop_eq_find]
  cases h : (List.range' 0 (used.length + 1)).find? fun k => !used.contains (cand k) with
  | none =>
    -- pigeonhole: `used.length + 1` distinct candidates cannot all be in `used`
    have hnd : ((List.range (used.length + 1)).map cand).Nodup :=
      List.nodup_range.map cand fun a b hab h => hab (hinj a b h)
    have := hnd.length_le_of_subset (l₂ := used) fun s hs => by
      obtain ⟨k, hk, rfl⟩ := List.mem_map.mp hs
      simpa using List.find?_range'_eq_none.mp h k (Nat.zero_le _) (by simpa using hk)
    rw [List.length_map, List.length_range] at this
    omega
  | some j =>
    obtain ⟨hp, _, hall⟩ := List.find?_range'_eq_some.mp h
    exact ⟨_, rfl, by simpa using hp, j, rfl, fun k hk => by simpa using hall k (Nat.zero_le _) hk⟩

/-- the assumption is needed: when appending `-i` does not change the slug (a slugify that cuts
its result to a fixed length does that to long headings) and the slug is already used, the loop
never ends, whatever the fuel -/
theorem slugify_loops_without_distinct_candidates (c : Slug) (used : List Slug) (h : c ∈ used) :
    ∀ fuel i, slugLoop (fun _ => c) used fuel i = none := fun fuel i => by
  rw [slugLoop_eq_find, Option.map_eq_none_iff, List.find?_range'_eq_none]
  simp [h]

example : slugLoop (fun i => if i = 0 then ['a'] else 'a' :: '-' :: (toString i).toList) [['a'], ['a', '-', '1']] 3 0
    = some ['a', '-', '2'] := by decide +kernel

theorem epytextSignal_eq_find (errs : List Err) : epytextSignal errs = errs.find? (·.fatal) := by
  induction errs with
  | nil => rfl
  | cons e es ih => rw [epytextSignal, List.find?_cons, ih]; cases e.fatal <;> rfl

/-- the tail of epytext's `parse` raises exactly when a fatal error was stored, and what it raises is such an error -/
theorem epytext_raises_iff_fatal (errs : List Err) :
    ((epytextSignal errs).isSome = true ↔ ∃ e ∈ errs, e.fatal = true) ∧
    (∀ e, epytextSignal errs = some e → e ∈ errs ∧ e.fatal = true) := by
  rw [epytextSignal_eq_find]
  exact ⟨List.find?_isSome, fun e h => ⟨List.mem_of_find?_eq_some h, List.find?_some h⟩⟩

example : epytextSignal [⟨.msg 1, some 0, false⟩, ⟨.msg 2, none, true⟩] = some ⟨.msg 2, none, true⟩ := by decide +kernel

end Docstring
