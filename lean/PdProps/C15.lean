/-
C15 — a displayed value or expression means the same as the source expression.

Over `PdModel.Pyval` (the model of pydoctor/epydoc/markup/_pyval_repr.py), with the operator
precedences of the astor installed next to the code under test (`Generated.Tables`, re-extracted on
every run; `Pyval.liveTable`).  The reference is Python's own grammar, `Pyval.parseDoc` (levels and
associativity read off python.gram; compared with CPython's parser by the check's `grammar` stream).
-/
import PdModel.Pyval
import PdModel.PyvalIO
import PdProps.Codec

namespace Pyval

abbrev LT : PrecTable := liveTable

/-- the generated table covers every operator class of `ast`: a new class, or a renamed one, breaks
this theorem -/
theorem table_covers :
    Generated.PyvalPrec.unaryOps = [UOp.invert, .not, .uadd, .usub].map (fun o => (o.name, LT.unary o)) ∧
    Generated.PyvalPrec.binOps =
      [BOp.add, .bitAnd, .bitOr, .bitXor, .div, .floorDiv, .lShift, .matMult, .mod, .mult, .pow, .rShift, .sub].map
        (fun o => (o.name, LT.bin o)) ∧
    Generated.PyvalPrec.boolOps = [LOp.and, .or].map (fun o => (o.name, LT.bool o)) ∧
    Generated.PyvalPrec.cmpOps =
      [COp.eq, .gt, .gtE, .in, .is, .isNot, .lt, .ltE, .notEq, .notIn].map (fun o => (o.name, LT.cmp o)) :=
  ⟨rfl, rfl, rfl, rfl⟩

theorem UOp.mem_all (o : UOp) : o ∈ UOp.all := by cases o <;> decide
theorem BOp.mem_all (o : BOp) : o ∈ BOp.all := by cases o <;> decide
theorem LOp.mem_all (o : LOp) : o ∈ LOp.all := by cases o <;> decide
theorem COp.mem_all (o : COp) : o ∈ COp.all := by cases o <;> decide

/-! ## 1. the parenthesis table

A *slot* is an operand position of a native operator node (the parents `_OperatorDelimiter`
special-cases); a *kid* is a native operator node standing in it. -/

inductive Slot | unary (op : UOp) | binL (op : BOp) | binR (op : BOp) | boolArg (op : LOp)
  deriving DecidableEq, Repr

inductive Kid | unary (op : UOp) | bin (op : BOp) | bool (op : LOp)
  deriving DecidableEq, Repr

def Slot.all : List Slot :=
  UOp.all.map .unary ++ BOp.all.map .binL ++ BOp.all.map .binR ++ LOp.all.map .boolArg
def Kid.all : List Kid := UOp.all.map .unary ++ BOp.all.map .bin ++ LOp.all.map .bool

theorem Slot.mem_all (s : Slot) : s ∈ Slot.all := by
  cases s <;> simp [Slot.all, UOp.mem_all, BOp.mem_all, LOp.mem_all]
theorem Kid.mem_all (k : Kid) : k ∈ Kid.all := by
  cases k <;> simp [Kid.all, UOp.mem_all, BOp.mem_all, LOp.mem_all]

/-- the parent precedence `compile` hands to the operand in this slot (`_OperatorDelimiter`:
`get_op_precedence(parent.op)`, `+1` under `**` and under `and`/`or`, and — since b6b97a7 — `+1`
for the right operand of every other binary operator) -/
def Slot.pp (T : PrecTable) : Slot → Nat
  | .unary op => T.unary op
  | .binL op => T.bin op + (if op = .pow then 1 else 0)
  | .binR op => T.bin op + 1
  | .boolArg op => T.bool op + 1

/-- HISTORICAL (before b6b97a7): no distinction between the left and the right operand -/
def Slot.ppOld (T : PrecTable) : Slot → Nat
  | .unary op => T.unary op
  | .binL op => T.bin op + (if op = .pow then 1 else 0)
  | .binR op => T.bin op + (if op = .pow then 1 else 0)
  | .boolArg op => T.bool op + 1

def Kid.prec (T : PrecTable) : Kid → Nat
  | .unary op => T.unary op
  | .bin op => T.bin op
  | .bool op => T.bool op

/-- does the colourizer put the kid in parentheses? -/
def decision (T : PrecTable) (s : Slot) (k : Kid) : Bool := needParen (some (s.pp T)) (k.prec T)

def decisionOld (T : PrecTable) (s : Slot) (k : Kid) : Bool := needParen (some (s.ppOld T)) (k.prec T)

namespace Grammar
/-- the non-terminal the operand of this slot must be derivable from -/
def slotMin : Slot → Nat
  | .unary op => op.level
  | .binL op => op.leftMin
  | .binR op => op.rightMin
  | .boolArg op => op.level + 1
/-- the non-terminal an unparenthesised operator expression belongs to -/
def kidLevel : Kid → Nat
  | .unary op => op.level
  | .bin op => op.level
  | .bool op => op.level
/-- without parentheses the text would be read with another grouping (or not at all) -/
def needsParens (s : Slot) (k : Kid) : Bool := kidLevel k < slotMin s
end Grammar

/-- right operand of a left-associative binary operator, kid a binary operator of the same
precedence (`a-(b-c)`, `a/(b*c)`, `a-(b+c)`) -/
def rightEqual (T : PrecTable) (s : Slot) (k : Kid) : Bool :=
  match s, k with
  | .binR p, .bin c => p ≠ .pow && T.bin p == T.bin c
  | _, _ => false

/-- the right operand of `**` being a unary `+ - ~` or another `**`: parentheses are written although
`a**-b` and `a**b**c` would read the same -/
def powRightTight (s : Slot) (k : Kid) : Bool :=
  match s, k with
  | .binR .pow, .unary op => op ≠ .not
  | .binR .pow, .bin .pow => true
  | _, _ => false

/-- The whole generated table (32 operand slots × 19 operator kids) in one statement: the colourizer
writes parentheses exactly where Python's grammar needs them to keep the grouping and, besides, in
the `powRightTight` entries, where it does not. -/
theorem decision_eq : ∀ s ∈ Slot.all, ∀ k ∈ Kid.all,
    decision LT s k = (Grammar.needsParens s k || powRightTight s k) ∧
    (Grammar.needsParens s k && powRightTight s k) = false := by
  decide +kernel

/-- **Pyval.paren_table** — over the WHOLE generated table (32 operand slots × 19 operator kids):
wherever Python's grammar needs parentheses to keep the grouping, the colourizer writes them. -/
theorem paren_table (s : Slot) (k : Kid) :
    Grammar.needsParens s k = true → decision LT s k = true := fun hn => by
  rw [(decision_eq s (Slot.mem_all s) k (Kid.mem_all k)).1, hn]; rfl

/-- non-vacuity: parentheses are needed in 300 of the 608 entries -/
example : ((Slot.all.flatMap fun s => Kid.all.map fun k => (s, k)).filter
    fun p => Grammar.needsParens p.1 p.2).length = 300 := by decide +kernel

/-- the converse, exactly: the only parentheses the grammar does not need are around the right
operand of `**` (4 entries: `a**(-b)`, `a**(+b)`, `a**(~b)`, `a**(b**c)`) — harmless for the property -/
theorem paren_table_extra :
    ∀ s ∈ Slot.all, ∀ k ∈ Kid.all,
      (decision LT s k && !Grammar.needsParens s k) = powRightTight s k := fun s hs k hk => by
  obtain ⟨hd, hx⟩ := decision_eq s hs k hk
  rw [hd]
  cases hn : Grammar.needsParens s k
  · simp
  · rw [hn, Bool.true_and] at hx
    rw [hx]; rfl

/-- HISTORICAL (the code before b6b97a7): the entries where parentheses were needed and not written
were exactly the `rightEqual` ones … -/
theorem paren_table_old_exact :
    ∀ s ∈ Slot.all, ∀ k ∈ Kid.all,
      (Grammar.needsParens s k && !decisionOld LT s k) = rightEqual LT s k := by
  decide +kernel

/-- … three of them (HISTORICAL; with the fix all three are parenthesised) -/
theorem paren_table_old_counterexample :
    (Grammar.needsParens (.binR .sub) (.bin .sub) = true ∧ decisionOld LT (.binR .sub) (.bin .sub) = false ∧
      decision LT (.binR .sub) (.bin .sub) = true) ∧
    (Grammar.needsParens (.binR .div) (.bin .mult) = true ∧ decisionOld LT (.binR .div) (.bin .mult) = false ∧
      decision LT (.binR .div) (.bin .mult) = true) ∧
    (Grammar.needsParens (.binR .sub) (.bin .add) = true ∧ decisionOld LT (.binR .sub) (.bin .add) = false ∧
      decision LT (.binR .sub) (.bin .add) = true) := by
  decide +kernel

/-- every other expression parent (tuple/list/set element, call argument, keyword value, starred
operand, subscript value and index, dict key, `**` operand) hands down `Precedence.highest`: a
native operator is always parenthesised there; a dict value gets `Precedence.Comma`: never. -/
theorem paren_table_oversound :
    ∀ k ∈ Kid.all, needParen (some LT.highest) (k.prec LT) = true ∧
                   needParen (some LT.comma) (k.prec LT) = false ∧
                   needParen none (k.prec LT) = false := by
  decide +kernel

/-! ## 2. strings and bytes: the quoted, escaped form lexes back to the value

`unescapeStr` is Python's lexing of the body of a single-quoted `str` literal restricted to the
escape sequences `_str_escape` can emit; a raw quote, a raw line end, a raw NUL, or any other
backslash sequence is `none`. -/

def unhex (c : Char) : Option Nat :=
  if '0' ≤ c ∧ c ≤ '9' then some (c.toNat - 48)
  else if 'a' ≤ c ∧ c ≤ 'f' then some (c.toNat - 87)
  else none

def unescChar (d : Char) : Option Char :=
  if d = '\'' then some '\''
  else if d = 't' then some '\t'
  else if d = 'r' then some '\r'
  else if d = 'n' then some '\n'
  else if d = 'f' then some (Char.ofNat 12)
  else if d = 'v' then some (Char.ofNat 11)
  else if d = '\\' then some '\\'
  else none

/-- `tri = true`: body of a triple-quoted literal (a raw newline is part of the value) -/
def unescapeStr (tri : Bool) : List Char → Option (List Char)
  | [] => some []
  | c :: rest =>
    if c = '\\' then
      match rest with
      | [] => none
      | d :: rest' =>
        if d = 'x' then
          match rest' with
          | h1 :: h2 :: rest'' =>
            match unhex h1, unhex h2, unescapeStr tri rest'' with
            | some a, some b, some xs => some (Char.ofNat (a * 16 + b) :: xs)
            | _, _, _ => none
          | _ => none
        else
          match unescChar d, unescapeStr tri rest' with
          | some x, some xs => some (x :: xs)
          | _, _ => none
    else if c = '\'' ∨ (c = '\n' ∧ tri = false) ∨ c = '\r' ∨ c = Char.ofNat 0 then none
    else (unescapeStr tri rest).map (c :: ·)

theorem unescapeStr_esc (tri : Bool) (d : Char) (rest : List Char) (hd : d ≠ 'x') :
    unescapeStr tri ('\\' :: d :: rest) =
      (unescChar d).bind fun x => (unescapeStr tri rest).map (x :: ·) := by
  rw [unescapeStr.eq_def]
  simp only [if_true, if_neg hd]
  cases unescChar d <;> cases unescapeStr tri rest <;> rfl

theorem unescapeStr_raw (tri : Bool) (c : Char) (rest : List Char) (h1 : c ≠ '\\')
    (h2 : ¬(c = '\'' ∨ (c = '\n' ∧ tri = false) ∨ c = '\r' ∨ c = Char.ofNat 0)) :
    unescapeStr tri (c :: rest) = (unescapeStr tri rest).map (c :: ·) := by
  rw [unescapeStr.eq_def]; simp only [if_neg h1, if_neg h2]

theorem strEscapeChar_cases (c : Char) :
    (∃ d, (d ≠ 'x' ∧ d ≠ Char.ofNat 0 ∧ unescChar d = some c) ∧ strEscapeChar c = ['\\', d]) ∨
    (c = Char.ofNat 0 ∧ strEscapeChar c = ['\\', 'x', '0', '0']) ∨
    ((c ≠ '\\' ∧ c ≠ '\'' ∧ c ≠ '\n' ∧ c ≠ '\r' ∧ c ≠ Char.ofNat 0) ∧ strEscapeChar c = [c]) := by
  fun_cases strEscapeChar c
  case case9 h1 _ h3 h4 _ _ h7 h8 => exact .inr (.inr ⟨⟨h7, h1, h4, h3, h8⟩, rfl⟩)
  case case8 h => exact .inr (.inl ⟨h, rfl⟩)
  all_goals subst_vars; exact .inl ⟨_, by decide, rfl⟩
theorem unescapeStr_escapeChar (tri : Bool) (c : Char) (rest : List Char) :
    unescapeStr tri (strEscapeChar c ++ rest) = (unescapeStr tri rest).map (c :: ·) := by
  rcases strEscapeChar_cases c with ⟨d, ⟨hx, _, hd⟩, e⟩ | ⟨rfl, e⟩ | ⟨h, e⟩ <;> rw [e]
  · rw [List.cons_append, List.cons_append, List.nil_append, unescapeStr_esc tri d rest hx, hd]; rfl
  · simp only [List.cons_append, List.nil_append]
    rw [unescapeStr]
    cases unescapeStr tri rest <;> rfl
  · exact unescapeStr_raw tri c rest h.1 (by simp [h])

/-- **Pyval.str_roundtrip**: for every string, Python's lexing of `'` + `_str_escape(s)` + `'`
gives back `s` (value preserved; only the quote style may differ from the source). -/
theorem str_roundtrip (s : List Char) : unescapeStr false (strEscape s) = some s :=
  List.flatMap_lex (unescapeStr false) rfl fun c _ => unescapeStr_escapeChar false c

example : unescapeStr false (strEscape "it's\n\\".toList) = some "it's\n\\".toList := by decide +kernel

/-! ### the multi-line form (`linebreakok`): every line escaped on its own, raw newlines between
the lines, inside triple quotes -/

theorem splitNl_eq : ∀ s, splitNl s = s.splitOn '\n' :=
  List.eq_splitOn rfl fun c cs l ls h => by rw [splitNl, h]

theorem splitNl_ne_nil (s : List Char) : splitNl s ≠ [] := splitNl_eq s ▸ List.splitOn_ne_nil _ _

theorem joinSep_eq (sep : List Char) (ls : List (List Char)) : joinSep sep ls = sep.intercalate ls := by
  induction ls with
  | nil => rfl
  | cons x xs ih => cases xs <;> simp_all [joinSep, List.intercalate_cons_cons, List.intercalate_singleton]

theorem joinSep_cons_cons (sep x y : List Char) (rest : List (List Char)) :
    joinSep sep (x :: y :: rest) = x ++ sep ++ joinSep sep (y :: rest) :=
  rfl

/-- what `_colorize_str` writes between the triple quotes -/
def triBody (s : List Char) : List Char := joinSep ['\n'] ((splitNl s).map strEscape)

theorem triBody_eq (s : List Char) :
    triBody s = s.flatMap (fun c => if c = '\n' then ['\n'] else strEscapeChar c) := by
  rw [triBody, splitNl_eq, joinSep_eq]
  exact List.intercalate_map_splitOn '\n' ['\n'] strEscapeChar s

theorem triBody_reads (tri : Bool) (s : List Char) (h : '\n' ∈ s → tri = true) :
    unescapeStr tri (triBody s) = some s := by
  rw [triBody_eq]
  refine List.flatMap_lex (unescapeStr tri) rfl fun c hc rest => ?_
  by_cases hn : c = '\n'
  · subst hn; cases h hc; exact unescapeStr_raw true '\n' rest (by decide) (by decide)
  · rw [if_neg hn]; exact unescapeStr_escapeChar tri c rest

theorem str_roundtrip_lines (s : List Char) : unescapeStr true (triBody s) = some s :=
  triBody_reads true s fun _ => rfl

example : triBody "a'\nb".toList = "a\\'\nb".toList := by decide +kernel

/-! ### bytes: the same for `_bytes_escape` (`repr(b)[2:-1]`, with the single quotes escaped) -/

def unescByteChar (d : Char) : Option Nat :=
  if d = '\'' then some 39 else if d = '\\' then some 92 else if d = 't' then some 9
  else if d = 'n' then some 10 else if d = 'r' then some 13 else none

/-- Python's lexing of the body of a single-quoted (`tri = false`) or triple-quoted `bytes` literal,
for the escapes `repr(bytes)` emits; a raw quote, a raw non-printable (other than the newline of the
triple-quoted form) or non-ASCII character is `none` -/
def unescapeBytes (tri : Bool) : List Char → Option (List Nat)
  | [] => some []
  | c :: rest =>
    if c = '\\' then
      match rest with
      | [] => none
      | d :: rest' =>
        if d = 'x' then
          match rest' with
          | h1 :: h2 :: rest'' =>
            match unhex h1, unhex h2, unescapeBytes tri rest'' with
            | some a, some b, some xs => some ((a * 16 + b) :: xs)
            | _, _, _ => none
          | _ => none
        else
          match unescByteChar d, unescapeBytes tri rest' with
          | some x, some xs => some (x :: xs)
          | _, _ => none
    else if c = '\n' ∧ tri = true then (unescapeBytes tri rest).map (10 :: ·)
    else if c = '\'' ∨ c.toNat < 32 ∨ c.toNat ≥ 127 then none
    else (unescapeBytes tri rest).map (c.toNat :: ·)

theorem unhex_hexDigit (k : Nat) : unhex (hexDigit (k % 16)) = some (k % 16) :=
  (by decide +kernel : ∀ k : Fin 16, unhex (hexDigit k.val) = some k.val) ⟨k % 16, Nat.mod_lt _ (by decide)⟩

theorem unescapeBytes_esc (tri : Bool) (d : Char) (rest : List Char) (hd : d ≠ 'x') :
    unescapeBytes tri ('\\' :: d :: rest) =
      (unescByteChar d).bind fun x => (unescapeBytes tri rest).map (x :: ·) := by
  rw [unescapeBytes.eq_def]
  simp only [if_true, if_neg hd]
  cases unescByteChar d <;> cases unescapeBytes tri rest <;> rfl

theorem unescapeBytes_hex (tri : Bool) (h1 h2 : Char) (rest : List Char) {a b : Nat}
    (ha : unhex h1 = some a) (hb : unhex h2 = some b) :
    unescapeBytes tri ('\\' :: 'x' :: h1 :: h2 :: rest) =
      (unescapeBytes tri rest).map ((a * 16 + b) :: ·) := by
  rw [unescapeBytes.eq_def]
  simp only [if_true, ha, hb]
  cases unescapeBytes tri rest <;> rfl

theorem unescapeBytes_rawNl (rest : List Char) :
    unescapeBytes true ('\n' :: rest) = (unescapeBytes true rest).map (10 :: ·) := by
  rw [unescapeBytes.eq_def]; simp

theorem ofNat_printable : ∀ c : Fin 256, 32 ≤ c.val → c.val < 127 → c.val ≠ 39 → c.val ≠ 92 →
    (Char.ofNat c.val ≠ '\\' ∧ Char.ofNat c.val ≠ '\'' ∧ (Char.ofNat c.val).toNat = c.val ∧
      Char.ofNat c.val ≠ '\n') := by
  decide +kernel

theorem unescapeBytes_escapeByte (tri : Bool) (c : Nat) (hc : c < 256) (rest : List Char) :
    unescapeBytes tri (bytesEscapeByte 39 c ++ rest) = (unescapeBytes tri rest).map (c :: ·) := by
  fun_cases bytesEscapeByte 39 c
  case case1 h =>
    simp only [Bool.or_eq_true, decide_eq_true_eq] at h
    rcases h with rfl | rfl <;> exact unescapeBytes_esc tri _ rest (by decide)
  case case5 =>
    rw [List.cons_append, List.cons_append, List.cons_append, List.cons_append, List.nil_append,
      unescapeBytes_hex tri _ _ rest (unhex_hexDigit _) (unhex_hexDigit _),
      show c / 16 % 16 * 16 + c % 16 = c by omega]
  case case6 h1 _ _ _ h5 =>
    simp only [Bool.or_eq_true, decide_eq_true_eq, not_or] at h1 h5
    obtain ⟨p1, p2, p3, p4⟩ := ofNat_printable ⟨c, hc⟩ (show 32 ≤ c by omega) (show c < 127 by omega) h1.1 h1.2
    simp only at p1 p2 p3 p4
    rw [List.cons_append, List.nil_append, unescapeBytes.eq_def]
    simp [p1, p2, p3, p4, h5]
  all_goals subst_vars; exact unescapeBytes_esc tri _ rest (by decide)
theorem escapeQuotes_escapeByte : ∀ c : Fin 256, c.val ≠ 34 →
    escapeQuotes (bytesEscapeByte 34 c.val) = bytesEscapeByte 39 c.val := by
  decide +kernel

/-- whatever quote `repr()` picks, `_bytes_escape` produces the body of the single-quoted literal -/
theorem bytesEscape_eq (b : List Nat) (hb : ∀ x ∈ b, x < 256) :
    bytesEscape b = b.flatMap (bytesEscapeByte 39) := by
  unfold bytesEscape bytesQuote
  by_cases hq : (b.contains 39 && !b.contains 34) = true
  · simp only [hq, if_true]
    rw [escapeQuotes, List.flatMap_assoc, List.flatMap_def, List.flatMap_def]
    refine congrArg _ (List.map_congr_left fun c hc => escapeQuotes_escapeByte ⟨c, hb c hc⟩ fun e => ?_)
    simp [← show c = 34 from e, hc] at hq
  · simp only [hq]; rfl

/-- **Pyval.bytes_roundtrip**: for every bytes value, Python's lexing of `b'` + `_bytes_escape(b)` +
`'` gives back the value (full since 257fc5a) -/
theorem bytes_roundtrip (b : List Nat) (hb : ∀ x ∈ b, x < 256) :
    unescapeBytes false (bytesEscape b) = some b := by
  rw [bytesEscape_eq b hb]
  exact List.flatMap_lex (unescapeBytes false) rfl fun c hc => unescapeBytes_escapeByte false c (hb c hc)

example : unescapeBytes false (bytesEscape [97, 34, 39, 0, 255, 10]) = some [97, 34, 39, 0, 255, 10] := by
  decide +kernel
example : bytesEscape [105, 116, 39, 115] = "it\\'s".toList := by decide +kernel

/-- HISTORICAL (before 257fc5a): `b"it's"` was displayed as `b'it's'` -/
theorem bytes_roundtrip_old_counterexample :
    bytesEscapeOld [105, 116, 39, 115] = "it's".toList ∧
    unescapeBytes false (bytesEscapeOld [105, 116, 39, 115]) = none := by decide +kernel

theorem splitOnNat_eq (sep : Nat) : ∀ b, splitOnNat sep b = b.splitOn sep :=
  List.eq_splitOn rfl fun c cs l ls h => by rw [splitOnNat, h]

/-- what `_colorize_str` writes between the triple quotes of a bytes value -/
def bytesTriBody (b : List Nat) : List Char := joinSep ['\n'] ((splitOnNat 10 b).map bytesEscape)

theorem bytesTriBody_eq (b : List Nat) (hb : ∀ x ∈ b, x < 256) :
    bytesTriBody b = b.flatMap (fun c => if c = 10 then ['\n'] else bytesEscapeByte 39 c) := by
  rw [bytesTriBody, splitOnNat_eq, List.map_congr_left fun l hl =>
    bytesEscape_eq l fun x hx => hb x (List.mem_splitOn hl hx).1, joinSep_eq]
  exact List.intercalate_map_splitOn 10 ['\n'] (bytesEscapeByte 39) b

/-- the multi-line (triple-quoted, per-line escaped) form of a bytes value lexes back to the value -/
theorem bytes_roundtrip_lines (b : List Nat) (hb : ∀ x ∈ b, x < 256) :
    unescapeBytes true (bytesTriBody b) = some b := by
  rw [bytesTriBody_eq b hb]
  refine List.flatMap_lex (unescapeBytes true) rfl fun c hc rest => ?_
  by_cases h10 : c = 10
  · subst h10; exact unescapeBytes_rawNl rest
  · rw [if_neg h10]; exact unescapeBytes_escapeByte true c (hb c hc) rest

example : bytesTriBody [34, 10, 39] = "\"\n\\'".toList := by decide +kernel

/-- docutils removes NUL characters from `Text` nodes; since e938da2 `_str_escape` never emits one … -/
theorem strEscape_no_nul (s : List Char) : Char.ofNat 0 ∉ strEscape s := by
  intro h
  obtain ⟨c, _, hc⟩ := List.mem_flatMap.1 h
  rcases strEscapeChar_cases c with ⟨d, ⟨_, hd, _⟩, e⟩ | ⟨_, e⟩ | ⟨hn, e⟩ <;> rw [e] at hc
  · simp [hd.symm] at hc
  · revert hc; decide
  · exact hn.2.2.2.2 (List.mem_singleton.1 hc).symm
/-- … and `repr(bytes)` never did -/
theorem bytesEscape_no_nul (b : List Nat) (hb : ∀ x ∈ b, x < 256) : Char.ofNat 0 ∉ bytesEscape b := by
  rw [bytesEscape_eq b hb]
  intro h
  rw [List.mem_flatMap] at h
  obtain ⟨c, hc, hm⟩ := h
  have : ∀ c : Fin 256, Char.ofNat 0 ∉ bytesEscapeByte 39 c.val := by decide +kernel
  exact this ⟨c, hb c hc⟩ hm

/-- HISTORICAL (before e938da2): `'\x00'` was displayed as `''` -/
theorem nul_dropped_old_counterexample :
    astext (strEscapeOld [Char.ofNat 0]) = [] ∧ astext (strEscape [Char.ofNat 0]) = "\\x00".toList := by
  decide +kernel

/-! ## 3. the displayed text as a concrete syntax tree

`toDoc` retraces `compile` and records *where* the colourizer writes parentheses, commas and
stars, as a `Doc`; by `toDoc_flatten` the `Doc` spells exactly the colourizer's text (`render`).
`canon` is the abstract tree of the source expression in the normal form `parseDoc` returns.  The
grouping theorem is then `parseDoc 1 (toDoc e) = some (canon e)`: read back with Python's grammar,
the displayed text is the source expression. -/

def wrapIf (b : Bool) (d : Doc) : Doc := if b then .group d else d

/-- which of the context-sensitive shapes a `Doc` / an `Expr` is: 0 absent, 1 starred, 2 keyword,
3 bare index list, 4 anything else -/
def Doc.tag : Doc → Nat
  | .absent => 0 | .starred _ => 1 | .keyword _ _ => 2 | .bare _ => 3 | _ => 4
def Expr.tag : Expr → Nat
  | .absent => 0 | .starred _ => 1 | .keyword _ _ => 2 | _ => 4

mutual
def toDocA (T : PrecTable) (pp : Nat) : AExpr → Doc
  | .name s => .atom s
  | .unary op x => wrapIf (!decide (T.unary op ≥ pp)) (.unary op (toDocA T (T.unary op) x))
  | .binary op l r =>
    wrapIf (!decide (T.bin op ≥ pp))
      (.binary true op (toDocA T (if op = .pow then T.bin .pow + 1 else T.bin op) l)
        (toDocA T (if op = .pow then T.powRHS else T.bin op + 1) r))
  | .boolop op xs => wrapIf (!decide (T.bool op ≥ pp)) (.boolop op (toDocAList T (T.bool op + 1) xs))
  | .compare l ops rights =>
    match ops with
    | [] => .junk "??".toList
    | op0 :: _ =>
      wrapIf (!decide (T.cmp op0 ≥ pp))
        (.compare (toDocA T (T.cmp op0 + 1) l) ops (toDocAList T (T.cmp op0 + 1) rights))
  | .ifExp b t o =>
    wrapIf (!decide (T.ifExp ≥ pp))
      (.ifExp (toDocA T (T.ifExp + 1) b) (toDocA T (T.ifExp + 1) t) (toDocA T T.ifExp o))
def toDocAList (T : PrecTable) (pp : Nat) : List AExpr → List Doc
  | [] => []
  | x :: xs => toDocA T pp x :: toDocAList T pp xs
end

/-- value `i` of a dict: compiled under `Precedence.Comma` when key `i` is present, else under the default -/
def pickDocs : List Expr → List Doc → List Doc → List Doc
  | k :: ks, c :: cs, h :: hs =>
    (match k with
     | .absent => h
     | _ => c) :: pickDocs ks cs hs
  | _, _, _ => []

mutual
def toDoc (T : PrecTable) (pp : Option Nat) : Expr → Doc
  | .name s => .atom s
  | .dotted parts => .atom (joinDots parts)
  | .constInt n => .atom (intText n)
  | .constNum t => .atom (replaceInf T.infExp t)
  | .constStr s => .atom ('\'' :: (strEscape s ++ ['\'']))
  | .constBytes b => .atom ('b' :: '\'' :: (bytesEscape b ++ ['\'']))
  | .constName k => .atom k.text
  | .ellipsis => .atom "...".toList
  | .absent => .absent
  | .unary op x => wrapIf (needParen pp (T.unary op)) (.unary op (toDoc T (some (T.unary op)) x))
  | .binary op l r =>
    wrapIf (needParen pp (T.bin op))
      (.binary false op (toDoc T (some (T.bin op + (if op = .pow then 1 else 0))) l)
        (toDoc T (some (T.bin op + 1)) r))
  | .boolop op xs =>
    wrapIf (needParen pp (T.bool op)) (.boolop op (toDocList T (some (T.bool op + 1)) xs))
  | .list xs => .list (toDocList T (some T.highest) xs)
  | .tuple xs => .tuple (toDocList T (some T.highest) xs) false
  | .set xs => .setCall (toDocList T (some T.highest) xs)
  | .dict ks vs =>
    .dict (toDocList T (some T.highest) ks)
      (pickDocs ks (toDocList T (some T.comma) vs) (toDocList T (some T.highest) vs))
  | .subscript v (.tuple elts) =>
    .subscript (toDoc T (some T.highest) v) (.bare (toDocList T (some T.highest) elts))
  | .subscript v s => .subscript (toDoc T (some T.highest) v) (toDoc T (some T.highest) s)
  | .call f args kws =>
    .call (toDoc T (some T.highest) f)
      (toDocList T (some T.highest) args ++ toDocList T (some T.highest) kws)
  | .keyword a v => .keyword a (toDoc T (some T.highest) v)
  | .starred x => .starred (toDoc T (some T.highest) x)
  | .astor a =>
    match renderA T T.highest a with
    | some _ => toDocA T T.highest a
    | none => .junk "??".toList
  | .opaque t _ => .atom t
  | .unknown => .junk "??".toList
  | .unlinked e =>
    -- rendered as if at top level; (a starred / keyword / absent node cannot be spliced in: spelled as is)
    if (toDoc T none e).tag = 4 then toDoc T none e else .junk (toDoc T none e).flatten
def toDocList (T : PrecTable) (pp : Option Nat) : List Expr → List Doc
  | [] => []
  | x :: xs => toDoc T pp x :: toDocList T pp xs
end

mutual
def canonA : AExpr → Doc
  | .name s => .atom s
  | .unary op x => .unary op (canonA x)
  | .binary op l r => .binary false op (canonA l) (canonA r)
  | .boolop op xs => .boolop op (canonAList xs)
  | .compare l ops rights => .compare (canonA l) ops (canonAList rights)
  | .ifExp b t o => .ifExp (canonA b) (canonA t) (canonA o)
def canonAList : List AExpr → List Doc
  | [] => []
  | x :: xs => canonA x :: canonAList xs
end

mutual
/-- the source expression as an abstract tree (atoms by their displayed spelling; what a string
atom *means* is `str_roundtrip`). For the live table `LT` only (`LT.infExp`), like the read-back theorem
`derives_core`, whose parentheses are those `paren_table` checks on `LT` -/
def canon : Expr → Doc
  | .name s => .atom s
  | .dotted parts => .atom (joinDots parts)
  | .constInt n => .atom (intText n)
  | .constNum t => .atom (replaceInf LT.infExp t)
  | .constStr s => .atom ('\'' :: (strEscape s ++ ['\'']))
  | .constBytes b => .atom ('b' :: '\'' :: (bytesEscape b ++ ['\'']))
  | .constName k => .atom k.text
  | .ellipsis => .atom "...".toList
  | .absent => .absent
  | .unary op x => .unary op (canon x)
  | .binary op l r => .binary false op (canon l) (canon r)
  | .boolop op xs => .boolop op (canonList xs)
  | .list xs => .list (canonList xs)
  | .tuple xs => .tuple (canonList xs) false
  | .set xs => .setCall (canonList xs)
  | .dict ks vs => .dict (canonList ks) (canonList vs)
  | .subscript v s => .subscript (canon v) (canon s)
  | .call f args kws => .call (canon f) (canonList args ++ canonList kws)
  | .keyword a v => .keyword a (canon v)
  | .starred x => .starred (canon x)
  | .astor a => canonA a
  | .opaque t _ => .atom t
  | .unknown => .junk "??".toList
  | .unlinked e => canon e
def canonList : List Expr → List Doc
  | [] => []
  | x :: xs => canon x :: canonList xs
end

/-! ### `toDoc` spells the colourizer's text -/

theorem flat_parenIf (b : Bool) (p : Prog) :
    flat (parenIf b p) = if b then '(' :: (flat p ++ [')']) else flat p := by
  cases b <;> rfl

theorem flatten_wrapIf (b : Bool) (d : Doc) :
    (wrapIf b d).flatten = if b then '(' :: (d.flatten ++ [')']) else d.flatten := by
  cases b <;> rfl

theorem flatList_map (ps : List Prog) : flatList ps = (ps.map flat).flatten := by
  induction ps with
  | nil => simp [flatList]
  | cons p ps ih => simp [flatList, ih]

theorem flatList_append (a b : List Prog) : flatList (a ++ b) = flatList a ++ flatList b := by
  simp [flatList_map]

theorem flatList_iterBody (first : Bool) (ps : List Prog) :
    flatList (iterBody first ps) =
      (if first || ps.isEmpty then [] else [',', ' ']) ++ joinSep [',', ' '] (ps.map flat) := by
  induction ps generalizing first with
  | nil => simp [iterBody, flatList, joinSep]
  | cons p ps ih =>
    rw [iterBody, flatList_append, flatList_append, ih false]
    cases ps with
    | nil => cases first <;> simp [flatList, flat, joinSep]
    | cons q qs => cases first <;> simp [flatList, flat, joinSep]

theorem flat_iterProg (pre suf : Option (List Char)) (ps : List Prog) :
    flat (iterProg pre suf ps) =
      (pre.getD []) ++ joinSep [',', ' '] (ps.map flat) ++ (suf.getD []) := by
  cases pre <;> cases suf <;>
    simp [iterProg, flat, flatList, flatList_iterBody]

theorem flatList_boolBody (sep : List Char) (ps : List Prog) :
    flatList (boolBody sep ps) = joinSep sep (ps.map flat) := by
  induction ps with
  | nil => simp [boolBody, flatList, joinSep]
  | cons p ps ih =>
    cases ps with
    | nil => simp [boolBody, flatList, joinSep]
    | cons q qs =>
      simp only [boolBody, List.map_cons, joinSep_cons_cons] at ih ⊢
      simp [flatList, flat, ih]

theorem asym_eq (op : UOp) : op.asym ++ (if op = .not then [' '] else []) = op.sym := by
  cases op <;> decide

theorem delimit_eq (p pp : Nat) (d : Doc) :
    (wrapIf (!decide (p ≥ pp)) d).flatten = delimit p pp d.flatten := by
  unfold delimit
  by_cases h : p ≥ pp <;> simp [h, flatten_wrapIf]

mutual
theorem renderA_toDocA (T : PrecTable) :
    ∀ (a : AExpr) (pp : Nat) (t : List Char), renderA T pp a = some t → (toDocA T pp a).flatten = t
  | .name s, pp, t, h => by
    simp [renderA] at h; simp [toDocA, Doc.flatten, h]
  | .unary op x, pp, t, h => by
    simp only [renderA, Option.map_eq_some_iff] at h
    obtain ⟨tx, hx, rfl⟩ := h
    rw [toDocA, delimit_eq]
    simp only [Doc.flatten, renderA_toDocA T x _ _ hx, ← asym_eq op, List.append_assoc]
  | .binary op l r, pp, t, h => by
    simp only [renderA] at h
    split at h <;> simp only [Option.some.injEq, reduceCtorEq] at h
    next tl tr hl hr =>
    rw [toDocA, delimit_eq, ← h]
    simp [Doc.flatten, renderA_toDocA T l _ _ hl, renderA_toDocA T r _ _ hr]
  | .boolop op xs, pp, t, h => by
    simp only [renderA, Option.map_eq_some_iff] at h
    obtain ⟨ts, hx, rfl⟩ := h
    rw [toDocA, delimit_eq]
    simp [Doc.flatten, renderAList_toDocAList T xs _ _ hx]
  | .compare l [] rs, pp, t, h => by simp [renderA] at h
  | .compare l (op0 :: ops) rs, pp, t, h => by
    simp only [renderA] at h
    split at h <;> simp only [Option.some.injEq, reduceCtorEq] at h
    next tl trs hl hr =>
    rw [toDocA, delimit_eq, ← h]
    simp [Doc.flatten, renderA_toDocA T l _ _ hl, renderAList_toDocAList T _ _ _ hr]
  | .ifExp b t' o, pp, t, h => by
    simp only [renderA] at h
    split at h <;> simp only [Option.some.injEq, reduceCtorEq] at h
    next tb tt te hb ht ho =>
    rw [toDocA, delimit_eq, ← h]
    simp [Doc.flatten, renderA_toDocA T b _ _ hb, renderA_toDocA T t' _ _ ht, renderA_toDocA T o _ _ ho]
theorem renderAList_toDocAList (T : PrecTable) :
    ∀ (xs : List AExpr) (pp : Nat) (ts : List (List Char)),
      renderAList T pp xs = some ts → Doc.flattenList (toDocAList T pp xs) = ts
  | [], pp, ts, h => by
    simp [renderAList] at h; simp [toDocAList, Doc.flattenList, h]
  | x :: xs, pp, ts, h => by
    simp only [renderAList] at h
    split at h <;> simp only [Option.some.injEq, reduceCtorEq] at h
    next t ts' hx hxs =>
    simp [toDocAList, Doc.flattenList, renderA_toDocA T x _ _ hx, renderAList_toDocAList T xs _ _ hxs, ← h]
end

theorem joinSep_append (sep : List Char) (a b : List (List Char)) :
    joinSep sep (a ++ b) =
      joinSep sep a ++ (if b.isEmpty then [] else (if a.isEmpty then [] else sep) ++ joinSep sep b) := by
  induction a with
  | nil => cases b <;> simp [joinSep]
  | cons x xs ih =>
    cases xs with
    | nil => cases b <;> simp [joinSep]
    | cons y ys =>
      simp only [List.cons_append, joinSep_cons_cons] at ih ⊢
      rw [ih]
      simp

theorem tag_wrapIf (b : Bool) (d : Doc) (h : d.tag = 4) : (wrapIf b d).tag = 4 := by
  cases b
  · simpa [wrapIf] using h
  · simp [wrapIf, Doc.tag]

theorem tag_toDocA (T : PrecTable) (pp : Nat) (a : AExpr) : (toDocA T pp a).tag = 4 := by
  cases a with
  | name s => rfl
  | compare l ops rs =>
    cases ops with
    | nil => rfl
    | cons o os => rw [toDocA]; exact tag_wrapIf _ _ rfl
  | _ => rw [toDocA]; exact tag_wrapIf _ _ rfl

theorem tag_toDoc (T : PrecTable) (pp : Option Nat) (e : Expr) : (toDoc T pp e).tag = e.tag := by
  cases e with
  | unary _ _ | binary _ _ _ | boolop _ _ => rw [toDoc]; exact tag_wrapIf _ _ rfl
  | subscript v s => cases s <;> rfl
  | astor a =>
    rw [toDoc]
    cases renderA T T.highest a with
    | none => rfl
    | some t => exact tag_toDocA T _ a
  | unlinked e =>
    rw [toDoc]
    by_cases h : (toDoc T none e).tag = 4
    · rw [if_pos h]; exact h
    · rw [if_neg h]; rfl
  | _ => rfl

theorem pickDocs_cons (k : Expr) (ks : List Expr) (c h : Doc) (cs hs : List Doc) :
    pickDocs (k :: ks) (c :: cs) (h :: hs) = (if k.tag = 0 then h else c) :: pickDocs ks cs hs := by
  cases k <;> rfl

theorem dictTexts_cons (k : Doc) (ks : List Doc) (kt vt : List Char) (kts vts : List (List Char)) :
    dictTexts (k :: ks) (kt :: kts) (vt :: vts) =
      (if k.tag = 0 then ['*', '*'] ++ vt else kt ++ [':', ' '] ++ vt) :: dictTexts ks kts vts := by
  cases k <;> rfl

theorem dictItems_cons (k : Expr) (ks : List Expr) (kp vc vh : Prog) (kps vcs vhs : List Prog) :
    dictItems (k :: ks) (kp :: kps) (vc :: vcs) (vh :: vhs) =
      (if k.tag = 0 then Prog.seq [Prog.out ['*', '*'] .plain, vh]
        else Prog.seq [kp, Prog.out [':', ' '] .plain, vc]) :: dictItems ks kps vcs vhs := by
  cases k <;> rfl

theorem dict_flat (T : PrecTable) : ∀ (ks vs : List Expr),
    Doc.flattenList (toDocList T (some T.highest) ks) = (compileList T (some T.highest) ks).map flat →
    Doc.flattenList (toDocList T (some T.comma) vs) = (compileList T (some T.comma) vs).map flat →
    Doc.flattenList (toDocList T (some T.highest) vs) = (compileList T (some T.highest) vs).map flat →
    dictTexts (toDocList T (some T.highest) ks) (Doc.flattenList (toDocList T (some T.highest) ks))
        (Doc.flattenList (pickDocs ks (toDocList T (some T.comma) vs) (toDocList T (some T.highest) vs)))
      = (dictItems ks (compileList T (some T.highest) ks) (compileList T (some T.comma) vs)
          (compileList T (some T.highest) vs)).map flat
  | [], vs, _, _, _ => by cases vs <;> rfl
  | k :: ks, [], _, _, _ => rfl
  | k :: ks, v :: vs, hk, hc, hh => by
    simp only [toDocList, compileList, Doc.flattenList, List.map_cons, List.cons.injEq] at hk hc hh
    simp only [toDocList, compileList, pickDocs_cons, Doc.flattenList, dictTexts_cons, dictItems_cons,
      tag_toDoc, List.map_cons, dict_flat T ks vs hk.2 hc.2 hh.2]
    by_cases h0 : k.tag = 0 <;> simp [h0, flat, flatList, hk.1, hc.1, hh.1]

theorem flattenList_append (a b : List Doc) :
    Doc.flattenList (a ++ b) = Doc.flattenList a ++ Doc.flattenList b := by
  induction a with
  | nil => simp [Doc.flattenList]
  | cons d ds ih => simp [Doc.flattenList, ih]

theorem toDoc_subscript_plain (T : PrecTable) (pp : Option Nat) (v s : Expr)
    (h : ∀ elts, s ≠ .tuple elts) :
    toDoc T pp (.subscript v s) = .subscript (toDoc T (some T.highest) v) (toDoc T (some T.highest) s) := by
  cases s <;> first | rfl | exact absurd rfl (h _)

theorem compile_subscript_plain (T : PrecTable) (pp : Option Nat) (v s : Expr)
    (h : ∀ elts, s ≠ .tuple elts) :
    compile T pp (.subscript v s) =
      .seq [compile T (some T.highest) v, .out ['['] .plain, .wbr, compile T (some T.highest) s,
        .out [']'] .plain] := by
  cases s <;> first | rfl | exact absurd rfl (h _)

theorem subscript_flat {T : PrecTable} {pp : Option Nat} {v s : Expr} (h : ∀ elts, s ≠ .tuple elts)
    (hv : (toDoc T (some T.highest) v).flatten = flat (compile T (some T.highest) v))
    (hs : (toDoc T (some T.highest) s).flatten = flat (compile T (some T.highest) s)) :
    (toDoc T pp (.subscript v s)).flatten = flat (compile T pp (.subscript v s)) := by
  rw [toDoc_subscript_plain T pp v s h, compile_subscript_plain T pp v s h]
  simp [Doc.flatten, flat, flatList, hv, hs]

section
attribute [local simp] toDoc compile Doc.flatten flat flatList flat_iterProg flatten_wrapIf flat_parenIf

mutual
theorem toDoc_flatten (T : PrecTable) :
    ∀ (e : Expr) (pp : Option Nat), (toDoc T pp e).flatten = flat (compile T pp e)
  | .name _, _ | .dotted _, _ | .constInt _, _ | .constNum _, _ | .constName _, _ | .ellipsis, _
  | .absent, _ | .opaque _ _, _ | .unknown, _ => by simp
  | .constStr s, pp => by simp [strProg]
  | .constBytes b, pp => by simp [bytesProg]
  | .unary op x, pp => by simp [toDoc_flatten T x (some (T.unary op))]
  | .binary op l r, pp => by
    simp [toDoc_flatten T l (some (T.bin op + (if op = .pow then 1 else 0))),
      toDoc_flatten T r (some (T.bin op + 1))]
  | .boolop op xs, pp => by simp [flatList_boolBody, toDocList_flatten T xs (some (T.bool op + 1))]
  | .list xs, pp | .tuple xs, pp | .set xs, pp => by simp [toDocList_flatten T xs (some T.highest)]
  | .dict ks vs, pp => by
    simp [dict_flat T ks vs (toDocList_flatten T ks _) (toDocList_flatten T vs _) (toDocList_flatten T vs _)]
  | .subscript v s, pp => by
    cases s with
    | tuple elts => simp [toDoc_flatten T v (some T.highest), toDocList_flatten T elts (some T.highest)]
    | _ => exact subscript_flat nofun (toDoc_flatten T v _) (toDoc_flatten T _ _)
  | .call f args kws, pp => by
    have hA : (Doc.flattenList (toDocList T (some T.highest) args)).isEmpty = args.isEmpty := by
      cases args <;> rfl
    have hK : (Doc.flattenList (toDocList T (some T.highest) kws)).isEmpty = kws.isEmpty := by
      cases kws <;> rfl
    simp only [toDoc, compile, Doc.flatten, flattenList_append, joinSep_append, hA, hK]
    cases kws.isEmpty <;> cases args.isEmpty <;>
      simp [toDoc_flatten T f (some T.highest), toDocList_flatten T args (some T.highest),
        toDocList_flatten T kws (some T.highest)]
  | .keyword (some _) v, pp | .keyword none v, pp | .starred v, pp => by
    simp [toDoc_flatten T v (some T.highest)]
  | .astor a, pp => by
    simp only [toDoc, compile]
    cases h : renderA T T.highest a with
    | none => simp
    | some t => simp [renderA_toDocA T a _ _ h]
  | .unlinked e, pp => by
    simp only [toDoc, compile]
    split <;> simp [toDoc_flatten T e none]
theorem toDocList_flatten (T : PrecTable) :
    ∀ (xs : List Expr) (pp : Option Nat),
      Doc.flattenList (toDocList T pp xs) = (compileList T pp xs).map flat
  | [], pp => rfl
  | x :: xs, pp => by
    simp [toDocList, compileList, Doc.flattenList, toDoc_flatten T x pp, toDocList_flatten T xs pp]
end

end

/-! ### reading the `Doc` back: the delegated (astor) fragment

astor hands every operand the precedence the grammar position requires (`p` to the left, `p + 1`
to the right, `Pow + 1` / `PowRHS` around `**`, `p + 1` to the operands of `and`/`or`/comparisons,
…): `Rel pp n` says that a parent precedence `pp` is at least as demanding as grammar level `n`. -/

/-- (astor precedence, grammar level) of every operator form -/
def kinds (T : PrecTable) : List (Nat × Nat) :=
  UOp.all.map (fun o => (T.unary o, o.level)) ++ BOp.all.map (fun o => (T.bin o, o.level)) ++
  LOp.all.map (fun o => (T.bool o, o.level)) ++ COp.all.map (fun o => (T.cmp o, 5)) ++ [(T.ifExp, 1)]

def Rel (T : PrecTable) (pp n : Nat) : Bool :=
  (kinds T).all fun k => !decide (k.1 ≥ pp) || decide (n ≤ k.2)

theorem rel_use {T : PrecTable} {pp n : Nat} (h : Rel T pp n = true) {p l : Nat}
    (hm : (p, l) ∈ kinds T) (hb : (!decide (p ≥ pp)) = false) : n ≤ l := by
  have := List.all_eq_true.1 h (p, l) hm
  simpa only [hb, Bool.false_or, decide_eq_true_eq] using this

theorem mem_kinds_unary (T : PrecTable) (o : UOp) : (T.unary o, o.level) ∈ kinds T := by
  simp only [kinds, List.mem_append, List.mem_map]
  exact .inl (.inl (.inl (.inl ⟨o, UOp.mem_all o, rfl⟩)))
theorem mem_kinds_bin (T : PrecTable) (o : BOp) : (T.bin o, o.level) ∈ kinds T := by
  simp only [kinds, List.mem_append, List.mem_map]
  exact .inl (.inl (.inl (.inr ⟨o, BOp.mem_all o, rfl⟩)))
theorem mem_kinds_bool (T : PrecTable) (o : LOp) : (T.bool o, o.level) ∈ kinds T := by
  simp only [kinds, List.mem_append, List.mem_map]
  exact .inl (.inl (.inr ⟨o, LOp.mem_all o, rfl⟩))
theorem mem_kinds_cmp (T : PrecTable) (o : COp) : (T.cmp o, 5) ∈ kinds T := by
  simp only [kinds, List.mem_append, List.mem_map]
  exact .inl (.inr ⟨o, COp.mem_all o, rfl⟩)
theorem mem_kinds_ifExp (T : PrecTable) : (T.ifExp, 1) ∈ kinds T := by
  simp only [kinds, List.mem_append]
  exact .inr (List.mem_singleton.2 rfl)

theorem one_le_kidLevel (k : Kid) : 1 ≤ Grammar.kidLevel k := by
  cases k with
  | unary o => cases o <;> decide
  | bin o => cases o <;> decide
  | bool o => cases o <;> decide

theorem parse_wrapIf {b : Bool} {d t : Doc} {n lvl : Nat} (h1 : 1 ≤ lvl)
    (hfit : b = false → n ≤ lvl) (hd : ∀ m, m ≤ lvl → parseDoc m d = some t) :
    parseDoc n (wrapIf b d) = some t := by
  cases b
  · simpa [wrapIf] using hd n (hfit rfl)
  · simpa [wrapIf, parseDoc] using hd 1 h1

theorem sequence_map_some {α} (l : List α) : sequence (l.map some) = some l := by
  induction l with
  | nil => rfl
  | cons x xs ih => simp [sequence, ih]

mutual
/-- well-formedness that CPython's parser guarantees: `and`/`or` have two operands or more, a
comparison has as many operators as right operands and at least one -/
def okA : AExpr → Bool
  | .name _ => true
  | .unary _ x => okA x
  | .binary _ l r => okA l && okA r
  | .boolop _ xs => decide (2 ≤ xs.length) && okAList xs
  | .compare l ops rs => decide (1 ≤ ops.length) && decide (ops.length = rs.length) && okA l && okAList rs
  | .ifExp b t o => okA b && okA t && okA o
def okAList : List AExpr → Bool
  | [] => true
  | x :: xs => okA x && okAList xs
end

theorem length_toDocAList (T : PrecTable) (pp : Nat) (xs : List AExpr) :
    (toDocAList T pp xs).length = xs.length := by
  induction xs with
  | nil => simp [toDocAList]
  | cons x xs ih => simp [toDocAList, ih]

-- the operand precedences astor hands down meet the grammar positions, for the live table
theorem rel_unary : ∀ o : UOp, Rel LT (LT.unary o) o.level = true := by
  intro o; cases o <;> decide +kernel
theorem rel_binL (o : BOp) : Rel LT (if o = .pow then LT.bin .pow + 1 else LT.bin o) o.leftMin = true :=
  (by decide +kernel : ∀ o ∈ BOp.all,
    Rel LT (if o = .pow then LT.bin .pow + 1 else LT.bin o) o.leftMin = true) o (BOp.mem_all o)
theorem rel_binR (o : BOp) : Rel LT (if o = .pow then LT.powRHS else LT.bin o + 1) o.rightMin = true :=
  (by decide +kernel : ∀ o ∈ BOp.all,
    Rel LT (if o = .pow then LT.powRHS else LT.bin o + 1) o.rightMin = true) o (BOp.mem_all o)
theorem rel_bool : ∀ o : LOp, Rel LT (LT.bool o + 1) (o.level + 1) = true := by
  intro o; cases o <;> decide +kernel
theorem rel_cmp (o : COp) : Rel LT (LT.cmp o + 1) 6 = true :=
  (by decide +kernel : ∀ o ∈ COp.all, Rel LT (LT.cmp o + 1) 6 = true) o (COp.mem_all o)
theorem rel_ifExp : Rel LT (LT.ifExp + 1) 2 = true ∧ Rel LT LT.ifExp 1 = true := by decide +kernel
theorem rel_highest (n : Nat) : Rel LT LT.highest n = true := by
  have hall : ∀ k ∈ kinds LT, k.1 < LT.highest := by decide +kernel
  exact List.all_eq_true.2 fun k hk => by simp [Nat.not_le.2 (hall k hk)]

mutual
/-- the delegated fragment reads back as the source tree: astor's parentheses are sufficient -/
theorem parseA_ok :
    ∀ (a : AExpr) (pp n : Nat), okA a = true → Rel LT pp n = true →
      parseDoc n (toDocA LT pp a) = some (canonA a)
  | .name s, pp, n, _, _ => rfl
  | .unary op x, pp, n, hok, hrel => by
    simp only [okA] at hok
    rw [toDocA, canonA]
    refine parse_wrapIf (lvl := op.level) (one_le_kidLevel (.unary op))
      (rel_use hrel (mem_kinds_unary LT op)) fun m hm => ?_
    simp [parseDoc, hm, parseA_ok x (LT.unary op) op.level hok (rel_unary op)]
  | .binary op l r, pp, n, hok, hrel => by
    simp only [okA, Bool.and_eq_true] at hok
    rw [toDocA, canonA]
    refine parse_wrapIf (lvl := op.level) (one_le_kidLevel (.bin op))
      (rel_use hrel (mem_kinds_bin LT op)) fun m hm => ?_
    simp [parseDoc, hm, parseA_ok l _ op.leftMin hok.1 (rel_binL op),
      parseA_ok r _ op.rightMin hok.2 (rel_binR op)]
  | .boolop op xs, pp, n, hok, hrel => by
    simp only [okA, Bool.and_eq_true, decide_eq_true_eq] at hok
    rw [toDocA, canonA]
    refine parse_wrapIf (lvl := op.level) (one_le_kidLevel (.bool op))
      (rel_use hrel (mem_kinds_bool LT op)) fun m hm => ?_
    simp [parseDoc, hm, parseAList_ok xs _ (op.level + 1) hok.2 (rel_bool op), length_toDocAList, hok.1,
      sequence_map_some]
  | .compare l ops rs, pp, n, hok, hrel => by
    simp only [okA, Bool.and_eq_true, decide_eq_true_eq] at hok
    obtain ⟨⟨⟨h1, h2⟩, hl⟩, hrs⟩ := hok
    cases ops with
    | nil => simp at h1
    | cons op0 ops' =>
      rw [toDocA, canonA]
      refine parse_wrapIf (lvl := 5) (by decide) (rel_use hrel (mem_kinds_cmp LT op0)) fun m hm => ?_
      simp [parseDoc, hm, parseA_ok l _ 6 hl (rel_cmp op0), parseAList_ok rs _ 6 hrs (rel_cmp op0),
        length_toDocAList, sequence_map_some, ← h2]
  | .ifExp b t o, pp, n, hok, hrel => by
    simp only [okA, Bool.and_eq_true] at hok
    rw [toDocA, canonA]
    refine parse_wrapIf (lvl := 1) (by decide) (rel_use hrel (mem_kinds_ifExp LT)) fun m hm => ?_
    simp [parseDoc, hm, parseA_ok b _ 2 hok.1.1 rel_ifExp.1, parseA_ok t _ 2 hok.1.2 rel_ifExp.1,
      parseA_ok o _ 1 hok.2 rel_ifExp.2]
theorem parseAList_ok :
    ∀ (xs : List AExpr) (pp n : Nat), okAList xs = true → Rel LT pp n = true →
      parseEach n (toDocAList LT pp xs) = (canonAList xs).map some
  | [], pp, n, _, _ => rfl
  | x :: xs, pp, n, hok, hrel => by
    simp only [okAList, Bool.and_eq_true] at hok
    simp [toDocAList, canonAList, parseEach, parseA_ok x pp n hok.1 hrel,
      parseAList_ok xs pp n hok.2 hrel]
end

mutual
theorem renderA_some (T : PrecTable) : ∀ (a : AExpr) (pp : Nat), okA a = true → ∃ t, renderA T pp a = some t
  | .name s, pp, _ => ⟨s, by simp [renderA]⟩
  | .unary op x, pp, h => by
    simp only [okA] at h
    obtain ⟨t, ht⟩ := renderA_some T x (T.unary op) h
    simp [renderA, ht]
  | .binary op l r, pp, h => by
    simp only [okA, Bool.and_eq_true] at h
    obtain ⟨tl, hl⟩ := renderA_some T l (if op = .pow then T.bin .pow + 1 else T.bin op) h.1
    obtain ⟨tr, hr⟩ := renderA_some T r (if op = .pow then T.powRHS else T.bin op + 1) h.2
    simp [renderA, hl, hr]
  | .boolop op xs, pp, h => by
    simp only [okA, Bool.and_eq_true] at h
    obtain ⟨ts, hts⟩ := renderAList_some T xs (T.bool op + 1) h.2
    simp [renderA, hts]
  | .compare l ops rs, pp, h => by
    simp only [okA, Bool.and_eq_true, decide_eq_true_eq] at h
    obtain ⟨⟨⟨h1, _⟩, hl⟩, hrs⟩ := h
    cases ops with
    | nil => simp at h1
    | cons op0 ops' =>
      obtain ⟨tl, htl⟩ := renderA_some T l (T.cmp op0 + 1) hl
      obtain ⟨ts, hts⟩ := renderAList_some T rs (T.cmp op0 + 1) hrs
      simp [renderA, htl, hts]
  | .ifExp b t o, pp, h => by
    simp only [okA, Bool.and_eq_true] at h
    obtain ⟨tb, hb⟩ := renderA_some T b (T.ifExp + 1) h.1.1
    obtain ⟨tt, ht⟩ := renderA_some T t (T.ifExp + 1) h.1.2
    obtain ⟨to, ho⟩ := renderA_some T o T.ifExp h.2
    simp [renderA, hb, ht, ho]
theorem renderAList_some (T : PrecTable) :
    ∀ (xs : List AExpr) (pp : Nat), okAList xs = true → ∃ ts, renderAList T pp xs = some ts
  | [], pp, _ => ⟨[], by simp [renderAList]⟩
  | x :: xs, pp, h => by
    simp only [okAList, Bool.and_eq_true] at h
    obtain ⟨t, ht⟩ := renderA_some T x pp h.1
    obtain ⟨ts, hts⟩ := renderAList_some T xs pp h.2
    simp [renderAList, ht, hts]
end

/-! ### reading the `Doc` back: the natively coloured forms -/

def kidOf : Expr → Option Kid
  | .unary op _ => some (.unary op)
  | .binary op _ _ => some (.bin op)
  | .boolop op _ => some (.bool op)
  | _ => none

/-- an expression rendered under parent precedence `pp` can be read at grammar level `n`: either it
gets parentheses or its own level is high enough -/
def fits (T : PrecTable) (pp : Option Nat) (n : Nat) (e : Expr) : Bool :=
  match kidOf e with
  | none => true
  | some k => needParen pp (k.prec T) || decide (n ≤ Grammar.kidLevel k)

theorem fits_iff {T : PrecTable} {pp : Option Nat} {n : Nat} {e : Expr} :
    fits T pp n e = true ↔
      ∀ k, kidOf e = some k → needParen pp (k.prec T) = false → n ≤ Grammar.kidLevel k := by
  unfold fits
  cases kidOf e with
  | none => simp
  | some k => cases h : needParen pp (k.prec T) <;> simp [h]

/-- an operand slot: where the grammar would need parentheses, `paren_table` says they are written -/
theorem fits_slot (s : Slot) (e : Expr) :
    fits LT (some (s.pp LT)) (Grammar.slotMin s) e = true :=
  fits_iff.2 fun k _ hb => Nat.le_of_not_lt fun hl =>
    Bool.false_ne_true (hb.symm.trans (paren_table s k (decide_eq_true hl)))

theorem fits_highest (n : Nat) (e : Expr) : fits LT (some LT.highest) n e = true :=
  fits_iff.2 fun k _ hb =>
    (Bool.false_ne_true (hb.symm.trans (paren_table_oversound k (Kid.mem_all k)).1)).elim

theorem fits_one (pp : Option Nat) (e : Expr) : fits LT pp 1 e = true :=
  fits_iff.2 fun k _ _ => one_le_kidLevel k

mutual
/-- The trees for which the read-back theorem is proved: the shape CPython's parser guarantees
(operand counts, equal list lengths, `*x` only as an element or argument, keywords only in calls)
WITHOUT the inputs on which the current colourizer is wrong: a one-element tuple (also as subscript
index), an empty tuple as subscript index, a delegated node on which astor raised (`??`).
(`unlinked` is a historical constructor that no longer occurs: see `unstring_counterexample_old`.) -/
def okTree (T : PrecTable) (star : Bool) : Expr → Bool
  | .name _ => true
  | .dotted _ => true
  | .constNum _ => true
  | .constStr _ => true
  | .constBytes _ => true
  | .constName _ => true
  | .ellipsis => true
  | .opaque _ _ => true
  | .constInt _ => true
  | .unary _ x => okTree T false x
  | .binary _ l r => okTree T false l && okTree T false r
  | .boolop _ xs => decide (2 ≤ xs.length) && okList T false xs
  | .tuple xs => decide (xs.length ≠ 1) && okList T true xs
  | .list xs => okList T true xs
  | .set xs => okList T true xs
  | .dict ks vs => decide (ks.length = vs.length) && okKeys T ks && okList T false vs
  | .call f args kws => okTree T false f && okList T true args && okKws T kws
  | .keyword _ _ => false
  | .subscript v (.tuple elts) => okTree T false v && decide (2 ≤ elts.length) && okList T true elts
  | .subscript v s => okTree T false v && okTree T false s
  | .starred x => star && okTree T false x
  | .astor a => okA a
  | .unknown => false
  | .absent => false
  | .unlinked _ => false
def okList (T : PrecTable) (star : Bool) : List Expr → Bool
  | [] => true
  | x :: xs => okTree T star x && okList T star xs
def okKeys (T : PrecTable) : List Expr → Bool
  | [] => true
  | .absent :: ks => okKeys T ks
  | k :: ks => okTree T false k && okKeys T ks
def okKws (T : PrecTable) : List Expr → Bool
  | [] => true
  | .keyword _ v :: ks => okTree T false v && okKws T ks
  | _ :: _ => false
end

theorem length_toDocList (T : PrecTable) (pp : Option Nat) (xs : List Expr) :
    (toDocList T pp xs).length = xs.length := by
  induction xs with
  | nil => simp [toDocList]
  | cons x xs ih => simp [toDocList, ih]

theorem tag_of_ok {T : PrecTable} {star : Bool} {e : Expr} (h : okTree T star e = true) :
    e.tag = 4 ∨ (star = true ∧ e.tag = 1) := by
  cases e with
  | starred x => exact .inr ⟨(Bool.and_eq_true_iff.1 h).1, rfl⟩
  | keyword _ _ | absent => cases h
  | _ => exact .inl rfl

theorem tag_plain {T : PrecTable} {e : Expr} (h : okTree T false e = true) : e.tag = 4 :=
  (tag_of_ok h).resolve_right (by simp)

/-- the side condition of `derives_core` is void where no star is allowed -/
theorem no_star {T : PrecTable} {e : Expr} {n : Nat} (h : okTree T false e = true) (ht : e.tag = 1) :
    n = 0 := by
  rw [tag_plain h] at ht; exact absurd ht (by decide)

theorem Expr.tag_eq_zero {e : Expr} (h : e.tag = 0) : e = .absent := by
  cases e <;> first | rfl | cases h

theorem isKeyword_eq (d : Doc) : d.isKeyword = decide (d.tag = 2) := by
  cases d <;> rfl

theorem parseArgEach_cons_plain (d : Doc) (ds : List Doc) (h : d.tag = 4) :
    parseArgEach (d :: ds) = parseDoc 1 d :: parseArgEach ds := by
  cases d <;> first | rfl | cases h

theorem parseKeyEach_cons (d : Doc) (ds : List Doc) :
    parseKeyEach (d :: ds) = (if d.tag = 0 then some .absent else parseDoc 1 d) :: parseKeyEach ds := by
  cases d <;> rfl

theorem pickVals_cons (d : Doc) (ds : List Doc) (a b : Option Doc) (as bs : List (Option Doc)) :
    pickVals (d :: ds) (a :: as) (b :: bs) = (if d.tag = 0 then a else b) :: pickVals ds as bs := by
  cases d <;> rfl

theorem okKeys_cons (T : PrecTable) (k : Expr) (ks : List Expr) :
    okKeys T (k :: ks) = ((k.tag == 0 || okTree T false k) && okKeys T ks) := by
  cases k <;> rfl

theorem parse_subscript_plain (n : Nat) (v idx : Doc) (h : idx.tag = 4) :
    parseDoc n (.subscript v idx) =
      match parseDoc 15 v, parseDoc 1 idx with
      | some v', some i' => some (.subscript v' i')
      | _, _ => none := by
  cases idx <;> first | rfl | cases h

theorem parse_subscript_bare (n : Nat) (v : Doc) {ds : List Doc} (h : 2 ≤ ds.length) :
    parseDoc n (.subscript v (.bare ds)) =
      if ds.all (!·.isKeyword) then
        match parseDoc 15 v, sequence (parseArgEach ds) with
        | some v', some ds' => some (.subscript v' (.tuple ds' false))
        | _, _ => none
      else none := by
  match ds, h with
  | d1 :: _ :: _, _ => cases d1 <;> rfl

theorem parse_tuple (n : Nat) {ds : List Doc} (h : ds.length ≠ 1) :
    parseDoc n (.tuple ds false) = (sequence (parseEach 0 ds)).map (Doc.tuple · false) := by
  match ds, h with
  | [], _ | _ :: _ :: _, _ => rfl
  | [_], h => exact absurd rfl h

theorem okTree_subscript_plain (T : PrecTable) (star : Bool) (v s : Expr)
    (h : ∀ elts, s ≠ .tuple elts) :
    okTree T star (.subscript v s) = (okTree T false v && okTree T false s) := by
  cases s <;> first | rfl | exact absurd rfl (h _)

theorem length_pickDocs (ks : List Expr) (cs hs : List Doc) :
    (pickDocs ks cs hs).length = min ks.length (min cs.length hs.length) := by
  induction ks generalizing cs hs with
  | nil => simp [pickDocs]
  | cons k ks ih =>
    match cs, hs with
    | [], _ | _ :: _, [] => simp [pickDocs]
    | c :: cs, h :: hs => simp [pickDocs_cons, ih, Nat.add_min_add_right]

theorem parseArgEach_append (a b : List Doc) :
    parseArgEach (a ++ b) = parseArgEach a ++ parseArgEach b := by
  induction a with
  | nil => simp [parseArgEach]
  | cons d ds ih =>
    cases d <;> simp [parseArgEach, ih]

theorem argsOrdered_append (a b : List Doc) (ha : a.all (!·.isKeyword) = true)
    (hb : b.all Doc.isKeyword = true) : argsOrdered (a ++ b) = true := by
  induction a with
  | nil => cases b <;> simp_all [argsOrdered]
  | cons d ds ih => simp_all [argsOrdered]

theorem toDocList_args_nokw (xs : List Expr) (hok : okList LT true xs = true) :
    (toDocList LT (some LT.highest) xs).all (!·.isKeyword) = true := by
  induction xs with
  | nil => rfl
  | cons x xs ih =>
    simp only [okList, Bool.and_eq_true] at hok
    rw [toDocList, List.all_cons, ih hok.2, isKeyword_eq, tag_toDoc]
    rcases tag_of_ok hok.1 with h | ⟨_, h⟩ <;> rw [h] <;> rfl

theorem toDocList_kws_allkw (ks : List Expr) (hok : okKws LT ks = true) :
    (toDocList LT (some LT.highest) ks).all Doc.isKeyword = true := by
  induction ks with
  | nil => rfl
  | cons k ks ih =>
    cases k <;> simp [okKws] at hok
    rw [toDocList, List.all_cons, ih hok.2]; rfl

theorem derives_subscript_plain {pp : Option Nat} {n : Nat} {star : Bool} {v s : Expr} (h : ∀ elts, s ≠ .tuple elts)
    (hok : okTree LT star (.subscript v s) = true)
    (ihv : okTree LT false v = true → parseDoc 15 (toDoc LT (some LT.highest) v) = some (canon v))
    (ihs : okTree LT false s = true → parseDoc 1 (toDoc LT (some LT.highest) s) = some (canon s)) :
    parseDoc n (toDoc LT pp (.subscript v s)) = some (canon (.subscript v s)) := by
  rw [okTree_subscript_plain _ _ _ _ h, Bool.and_eq_true] at hok
  rw [toDoc_subscript_plain _ _ _ _ h, parse_subscript_plain _ _ _ ((tag_toDoc ..).trans (tag_plain hok.2)),
    ihv hok.1, ihs hok.2, canon]

theorem derives_args_plain {x : Expr} {xs : List Expr} (h4 : x.tag = 4)
    (ih1 : parseDoc 1 (toDoc LT (some LT.highest) x) = some (canon x))
    (ih2 : parseArgEach (toDocList LT (some LT.highest) xs) = (canonList xs).map some) :
    parseArgEach (toDocList LT (some LT.highest) (x :: xs)) = (canonList (x :: xs)).map some := by
  rw [toDocList, parseArgEach_cons_plain _ _ ((tag_toDoc ..).trans h4), ih1, ih2]; rfl

section
attribute [local simp] toDoc toDocList canon canonList parseDoc parseEach parseArgEach sequence_map_some

mutual
/-- core of the read-back theorem: an expression coloured under parent precedence `pp`, read at a
grammar level `n` it `fits`, is the source tree. `star`: `*x` may stand here (element, argument); Python reads a
starred element at level 0 only (`star_named_expression`), which is `htag` -/
theorem derives_core (e : Expr) (pp : Option Nat) (n : Nat) (star : Bool)
    (hok : okTree LT star e = true) (htag : e.tag = 1 → n = 0) (hfit : fits LT pp n e = true) :
    parseDoc n (toDoc LT pp e) = some (canon e) := by
  match e, hok, htag, hfit with
  | .name _, _, _, _ | .dotted _, _, _, _ | .constNum _, _, _, _ | .constStr _, _, _, _
  | .constBytes _, _, _, _ | .constName _, _, _, _ | .ellipsis, _, _, _ | .opaque _ _, _, _, _
  | .constInt _, _, _, _ => rfl
  | .unknown, hok, _, _ | .absent, hok, _, _ | .keyword _ _, hok, _, _ | .unlinked _, hok, _, _ => cases hok
  | .unary op x, hok, _, hfit =>
    simp only [okTree] at hok
    rw [toDoc, canon]
    refine parse_wrapIf (lvl := op.level) (one_le_kidLevel (.unary op)) (fits_iff.1 hfit _ rfl) fun m hm => ?_
    simp [hm, derives_core x (some (LT.unary op)) op.level false hok (no_star hok) (fits_slot (.unary op) x)]
  | .binary op l r, hok, _, hfit =>
    simp only [okTree, Bool.and_eq_true] at hok
    rw [toDoc, canon]
    refine parse_wrapIf (lvl := op.level) (one_le_kidLevel (.bin op)) (fits_iff.1 hfit _ rfl) fun m hm => ?_
    simp [hm,
      derives_core l (some (LT.bin op + (if op = .pow then 1 else 0))) op.leftMin false hok.1
        (no_star hok.1) (fits_slot (.binL op) l),
      derives_core r (some (LT.bin op + 1)) op.rightMin false hok.2 (no_star hok.2)
        (fits_slot (.binR op) r)]
  | .boolop op xs, hok, _, hfit =>
    simp only [okTree, Bool.and_eq_true, decide_eq_true_eq] at hok
    rw [toDoc, canon]
    refine parse_wrapIf (lvl := op.level) (one_le_kidLevel (.bool op)) (fits_iff.1 hfit _ rfl) fun m hm => ?_
    simp [hm, length_toDocList, hok.1,
      derives_each xs (some (LT.bool op + 1)) (op.level + 1) false hok.2 nofun
        fun x _ => fits_slot (.boolArg op) x]
  | .list xs, hok, _, _ | .set xs, hok, _, _ =>
    simp only [okTree] at hok
    simp [derives_each xs (some LT.highest) 0 true hok (fun _ => rfl) fun x _ => fits_highest 0 x]
  | .tuple xs, hok, _, _ =>
    simp only [okTree, Bool.and_eq_true, decide_eq_true_eq] at hok
    rw [toDoc, parse_tuple _ (by rw [length_toDocList]; exact hok.1),
      derives_each xs (some LT.highest) 0 true hok.2 (fun _ => rfl) fun x _ => fits_highest 0 x,
      sequence_map_some]; rfl
  | .dict ks vs, hok, _, _ =>
    simp only [okTree, Bool.and_eq_true, decide_eq_true_eq] at hok
    obtain ⟨⟨hlen, hks⟩, hvs⟩ := hok
    simp [length_pickDocs, length_toDocList, hlen, derives_keys ks hks, derives_vals ks vs hlen hvs]
  | .call f args kws, hok, _, _ =>
    simp only [okTree, Bool.and_eq_true] at hok
    obtain ⟨⟨hf, hargs⟩, hkws⟩ := hok
    simp [argsOrdered_append _ _ (toDocList_args_nokw args hargs) (toDocList_kws_allkw kws hkws),
      derives_core f (some LT.highest) 15 false hf (no_star hf) (fits_highest 15 f),
      parseArgEach_append, derives_args args hargs, derives_kws kws hkws, ← List.map_append]
  | .subscript v s, hok, _, _ =>
    -- the recursion is structural: a component has to be reached by `cases`, not through an equation `s = .tuple elts`
    cases s with
    | tuple elts =>
      simp only [okTree, Bool.and_eq_true, decide_eq_true_eq] at hok
      obtain ⟨⟨hv, hlen⟩, helts⟩ := hok
      rw [toDoc, parse_subscript_bare _ _ (by rwa [length_toDocList]), if_pos (toDocList_args_nokw elts helts),
        derives_core v (some LT.highest) 15 false hv (no_star hv) (fits_highest 15 v), derives_args elts helts,
        sequence_map_some]; rfl
    | _ =>
      exact derives_subscript_plain nofun hok
        (fun h => derives_core v (some LT.highest) 15 false h (no_star h) (fits_highest 15 v))
        (fun h => derives_core _ (some LT.highest) 1 false h (no_star h) (fits_highest 1 _))
  | .starred x, hok, htag, _ =>
    simp only [okTree, Bool.and_eq_true] at hok
    cases htag rfl
    simp [derives_core x (some LT.highest) 6 false hok.2 (no_star hok.2) (fits_highest 6 x)]
  | .astor a, hok, _, _ =>
    simp only [okTree] at hok
    obtain ⟨t, ht⟩ := renderA_some LT a LT.highest hok
    simp [ht, parseA_ok a LT.highest n hok (rel_highest n)]

theorem derives_each (xs : List Expr) (pp : Option Nat) (n : Nat) (star : Bool)
    (hok : okList LT star xs = true) (hst : star = true → n = 0)
    (hfit : ∀ x ∈ xs, fits LT pp n x = true) :
    parseEach n (toDocList LT pp xs) = (canonList xs).map some := by
  match xs, hok, hfit with
  | [], _, _ => rfl
  | x :: xs, hok, hfit =>
    simp only [okList, Bool.and_eq_true] at hok
    have ih1 := derives_core x pp n star hok.1
      (fun h => by
        cases star with
        | true => exact hst rfl
        | false => exact no_star hok.1 h)
      (hfit x (by simp))
    simp [ih1, derives_each xs pp n star hok.2 hst fun y hy => hfit y (by simp [hy])]

theorem derives_args (xs : List Expr) (hok : okList LT true xs = true) :
    parseArgEach (toDocList LT (some LT.highest) xs) = (canonList xs).map some := by
  match xs, hok with
  | [], _ => rfl
  | x :: xs, hok =>
    simp only [okList, Bool.and_eq_true] at hok
    have ih2 := derives_args xs hok.2
    cases x with
    | starred y =>
      simp only [okTree, Bool.true_and] at hok
      simp [ih2, derives_core y (some LT.highest) 1 false hok.1 (no_star hok.1) (fits_highest 1 y)]
    | keyword _ _ | absent => cases hok.1
    | _ => exact derives_args_plain rfl (derives_core _ (some LT.highest) 1 true hok.1 nofun (fits_highest 1 _)) ih2

theorem derives_kws (ks : List Expr) (hok : okKws LT ks = true) :
    parseArgEach (toDocList LT (some LT.highest) ks) = (canonList ks).map some := by
  match ks, hok with
  | [], _ => rfl
  | k :: ks, hok =>
    cases k with
    | keyword a v =>
      simp only [okKws, Bool.and_eq_true] at hok
      simp [derives_core v (some LT.highest) 1 false hok.1 (no_star hok.1) (fits_highest 1 v),
        derives_kws ks hok.2]
    | _ => cases hok

theorem derives_keys (ks : List Expr) (hok : okKeys LT ks = true) :
    parseKeyEach (toDocList LT (some LT.highest) ks) = (canonList ks).map some := by
  match ks, hok with
  | [], _ => rfl
  | k :: ks, hok =>
    simp only [okKeys_cons, Bool.and_eq_true, Bool.or_eq_true, beq_iff_eq] at hok
    rw [toDocList, parseKeyEach_cons, tag_toDoc, derives_keys ks hok.2, canonList, List.map_cons]
    rcases hok.1 with h0 | hk
    · cases Expr.tag_eq_zero h0; rfl
    · rw [if_neg (by rw [tag_plain hk]; decide),
        derives_core k (some LT.highest) 1 false hk (no_star hk) (fits_highest 1 k)]

theorem derives_vals (ks vs : List Expr) (hlen : ks.length = vs.length)
    (hok : okList LT false vs = true) :
    pickVals (toDocList LT (some LT.highest) ks)
      (parseEach 6 (pickDocs ks (toDocList LT (some LT.comma) vs) (toDocList LT (some LT.highest) vs)))
      (parseEach 1 (pickDocs ks (toDocList LT (some LT.comma) vs) (toDocList LT (some LT.highest) vs)))
      = (canonList vs).map some := by
  match ks, vs, hlen, hok with
  | [], [], _, _ => rfl
  | [], _ :: _, hlen, _ => simp at hlen
  | _ :: _, [], hlen, _ => simp at hlen
  | k :: ks, v :: vs, hlen, hok =>
    simp only [okList, Bool.and_eq_true] at hok
    simp only [List.length_cons, Nat.add_right_cancel_iff] at hlen
    simp only [toDocList, pickDocs_cons, parseEach, pickVals_cons, tag_toDoc, canonList, List.map_cons,
      derives_vals ks vs hlen hok.2]
    by_cases hk : k.tag = 0
    · rw [if_pos hk, if_pos hk,
        derives_core v (some LT.highest) 6 false hok.1 (no_star hok.1) (fits_highest 6 v)]
    · rw [if_neg hk, if_neg hk, derives_core v (some LT.comma) 1 false hok.1 (no_star hok.1) (fits_one _ v)]
end

end

/-! ## 4. the read-back theorems -/

/- Full statement, FALSE for the current code (`render_groups_counterexample`): for every tree `e` of
the shape CPython's parser produces, the displayed text, read by Python's grammar, is the source tree:

    ∃ d : Doc, d.flatten = render LT e ∧ parseDoc 1 d = some (canon e)

It holds on `okTree`, which is that shape minus the exclusions listed there. -/

/-- **Pyval.render_groups_partial**: the text `colorize_inline_pyval` shows is the spelling of a
concrete syntax tree that Python's grammar reads back as the source expression — operator
grouping, tuple-ness, argument order, stars and keywords included — for every tree in `okTree`. -/
theorem render_groups_partial (e : Expr) (h : okTree LT false e = true) :
    ∃ d : Doc, d.flatten = render LT e ∧ parseDoc 1 d = some (canon e) :=
  ⟨toDoc LT none e, toDoc_flatten LT e none,
    derives_core e none 1 false h (no_star h) (fits_one none e)⟩

section examples
private def a : Expr := .name ['a']
private def b : Expr := .name ['b']
private def c : Expr := .name ['c']
private def one : Expr := .constInt 1

/-- non-vacuity: nested operators of every kind, a call with `*`/`**`/keyword arguments, a dict with
`**`, a two-element tuple, a subscript with an index list, a delegated comparison -/
example : okTree LT false
    (.binary .mult (.binary .add a (.unary .usub b))
      (.call (.name ['f']) [.tuple [a, .boolop .or [b, c]], .starred c]
        [.keyword (some ['k']) (.dict [a, .absent] [.binary .pow b c, c]),
         .keyword none (.subscript a (.tuple [b, .astor (.compare (.name ['x']) [.lt] [.name ['y']])]))])) = true := by
  decide +kernel

example : render LT
    (.binary .mult (.binary .add a (.unary .usub b))
      (.call (.name ['f']) [.tuple [a, .boolop .or [b, c]], .starred c]
        [.keyword (some ['k']) (.dict [a, .absent] [.binary .pow b c, c]),
         .keyword none (.subscript a (.tuple [b, .astor (.compare (.name ['x']) [.lt] [.name ['y']])]))]))
    = "(a+-b)*f((a, (b or c)), *c, k={a: b**c, **c}, **a[b, (x < y)])".toList := by
  -- the kernel decodes a string literal slowly; the lemma turns it into its character list first
  rw [String.toList_ofList]
  decide +kernel

/-- since b6b97a7 `a-(b-c)`, `a/(b*c)`, `a-(b+c)` keep their parentheses (before:
`paren_table_old_counterexample`) and are inside `okTree` -/
example :
    render LT (.binary .sub a (.binary .sub b c)) = "a-(b-c)".toList ∧
    render LT (.binary .sub (.binary .sub a b) c) = "a-b-c".toList ∧
    render LT (.binary .div a (.binary .mult b c)) = "a/(b*c)".toList ∧
    render LT (.binary .sub a (.binary .add b c)) = "a-(b+c)".toList ∧
    render LT (.binary .pow a (.binary .pow b c)) = "a**(b**c)".toList ∧
    okTree LT false (.binary .sub a (.binary .sub b c)) = true := by
  refine ⟨?_, ?_, ?_, ?_, ?_, ?_⟩ <;> (repeat rw [String.toList_ofList]) <;> decide +kernel

/-- what keeps the full statement false: a one-element tuple has the text of a parenthesised group
(`(a,)` is displayed as `(a)`, which reads back as `a`), and an empty tuple index leaves `x[]` -/
theorem render_groups_counterexample :
    render LT (.tuple [a]) = "(a)".toList ∧
    parseDoc 1 (toDoc LT none (.tuple [a])) = some (.atom ['a']) ∧
    okTree LT false (.tuple [a]) = false ∧
    render LT (.subscript (.name ['x']) (.tuple [])) = "x[]".toList ∧
    parseDoc 1 (toDoc LT none (.subscript (.name ['x']) (.tuple []))) = none ∧
    okTree LT false (.subscript (.name ['x']) (.tuple [])) = false := by
  refine ⟨?_, ?_, ?_, ?_, ?_, ?_⟩ <;> (repeat rw [String.toList_ofList]) <;> first | decide +kernel | rfl

/- Full statement (FALSE for the current code): a tuple is displayed as a tuple in every context:

theorem tuple_kept (xs : List Expr) (pp : Option Nat) (n : Nat) (h : okList LT true xs = true) :
    parseDoc n (toDoc LT pp (.tuple xs)) = some (.tuple (canonList xs) false) -/

/-- **Pyval.tuple_kept_partial**: holds for every tuple whose length is not one -/
theorem tuple_kept_partial (xs : List Expr) (pp : Option Nat) (n : Nat)
    (hlen : xs.length ≠ 1) (h : okList LT true xs = true) :
    parseDoc n (toDoc LT pp (.tuple xs)) = some (.tuple (canonList xs) false) := by
  have := derives_core (.tuple xs) pp n false (by simp [okTree, hlen, h]) (by simp [Expr.tag])
    (by simp [fits, kidOf])
  simpa [canon] using this

example : parseDoc 0 (toDoc LT (some LT.highest) (.tuple [a, .tuple [], .starred b])) =
    some (.tuple [.atom ['a'], .tuple [] false, .starred (.atom ['b'])] false) :=
  tuple_kept_partial _ _ _ (by decide) (by decide +kernel)

/-- `(a,)` is displayed as `(a)`, `x[1,]` as `x[1]`, `f((1,))` as `f((1))`, `x[()]` as `x[]`,
`(*a,)` as `(*a)`: the comma is never written, and Python reads a group / a plain index / nothing. -/
theorem tuple_kept_counterexample :
    render LT (.tuple [a]) = "(a)".toList ∧
    parseDoc 1 (toDoc LT none (.tuple [a])) = some (.atom ['a']) ∧
    render LT (.subscript (.name ['x']) (.tuple [one])) = "x[1]".toList ∧
    parseDoc 1 (toDoc LT none (.subscript (.name ['x']) (.tuple [one]))) =
      some (.subscript (.atom ['x']) (.atom ['1'])) ∧
    render LT (.call (.name ['f']) [.tuple [one]] []) = "f((1))".toList ∧
    parseDoc 1 (toDoc LT none (.call (.name ['f']) [.tuple [one]] [])) =
      some (.call (.atom ['f']) [.atom ['1']]) ∧
    render LT (.subscript (.name ['x']) (.tuple [])) = "x[]".toList ∧
    parseDoc 1 (toDoc LT none (.subscript (.name ['x']) (.tuple []))) = none ∧
    render LT (.tuple [.starred a]) = "(*a)".toList ∧
    parseDoc 1 (toDoc LT none (.tuple [.starred a])) = none := by
  refine ⟨?_, ?_, ?_, ?_, ?_, ?_, ?_, ?_, ?_, ?_⟩ <;> (repeat rw [String.toList_ofList]) <;> first | decide +kernel | rfl

/-- HISTORICAL (before a1c047d, when `unstring_annotation` spliced parsed strings in without parent
links): `"a | b" & c` was displayed as `a|b&c`, the text of `a | (b & c)`; `-"a + b"` as `-a+b`;
`"a or b" and c` as `a or b and c`.  With the links restored the same trees keep their parentheses. -/
theorem unstring_counterexample_old :
    render LT (.binary .bitAnd (.unlinked (.binary .bitOr a b)) c) = "a|b&c".toList ∧
    render LT (.binary .bitOr a (.binary .bitAnd b c)) = "a|b&c".toList ∧
    render LT (.unary .usub (.unlinked (.binary .add a b))) = "-a+b".toList ∧
    render LT (.boolop .and [.unlinked (.boolop .or [a, b]), c]) = "a or b and c".toList ∧
    render LT (.binary .bitAnd (.binary .bitOr a b) c) = "(a|b)&c".toList ∧
    render LT (.unary .usub (.binary .add a b)) = "-(a+b)".toList ∧
    okTree LT false (.binary .bitAnd (.binary .bitOr a b) c) = true := by
  refine ⟨?_, ?_, ?_, ?_, ?_, ?_, ?_⟩ <;> (repeat rw [String.toList_ofList]) <;> decide +kernel

end examples

/-- what a documentation run shows for a list of uses (annotations, defaults, … in any order) -/
def renderUses (T : PrecTable) (uses : List Expr) : List (List Char) := uses.map (render T)

/-- **Pyval.render_use_independent**: in the model every use is its own tree, so what is displayed
for one use depends neither on the other uses nor on the order in which they are rendered (the
`sequence` stream holds the real pipeline to that: shared, mutated sub-trees — e.g. a cached parse
of a string annotation whose parent link is that of its last use — show up as a disagreement) -/
theorem render_use_independent (T : PrecTable) (before after before' after' : List Expr) (e : Expr) :
    (renderUses T (before ++ e :: after))[before.length]? = some (render T e) ∧
    (renderUses T (before ++ e :: after))[before.length]? =
      (renderUses T (before' ++ e :: after'))[before'.length]? := by
  simp [renderUses]

example : renderUses LT [.binary .bitAnd (.name ['F']) (.binary .bitOr (.name ['R']) (.name ['W'])),
      .binary .bitOr (.name ['R']) (.name ['W'])] = ["F&(R|W)".toList, "R|W".toList] := by decide +kernel

/-! ## 4b. values assembled by the builder: `X = first; X op= rhs; …` -/

/-- the expression Python computes for `X = first` followed by `X op= rhs` statements -/
def augFold (first : Expr) (steps : List (BOp × Expr)) : Expr :=
  steps.foldl (fun acc s => .binary s.1 acc s.2) first

/-- `_storeAttrValue` over a plain assignment followed by augmented assignments stores exactly that
expression (left-nested `BinOp`s, in statement order) -/
theorem storeAll_aug (first : Expr) (steps : List (BOp × Expr)) :
    storeAll none ((none, first) :: steps.map (fun s => (some s.1, s.2))) = some (augFold first steps) := by
  simp only [storeAll, storeAttrValue]
  induction steps generalizing first with
  | nil => simp [storeAll, augFold]
  | cons s rest ih =>
    simp only [List.map_cons, storeAll, storeAttrValue, augFold, List.foldl_cons]
    exact ih (.binary s.1 first s.2)

theorem okTree_augFold (first : Expr) (steps : List (BOp × Expr))
    (h1 : okTree LT false first = true) (h2 : ∀ s ∈ steps, okTree LT false s.2 = true) :
    okTree LT false (augFold first steps) = true := by
  induction steps generalizing first with
  | nil => simpa [augFold] using h1
  | cons s rest ih =>
    simp only [augFold, List.foldl_cons]
    exact ih (.binary s.1 first s.2) (by simp [okTree, h1, h2 s (by simp)])
      (fun x hx => h2 x (by simp [hx]))

/-- **Pyval.aug_value_reads_back**: the value the builder stores for `X = first; X op₁= r₁; …` is
displayed as a text that Python reads back as `((first op₁ r₁) op₂ r₂) …` — the parentheses the
statement boundaries stood for are written (`SIZE = BASE + 1; SIZE *= 2` → `(BASE+1)*2`) -/
theorem aug_value_reads_back (first : Expr) (steps : List (BOp × Expr))
    (h1 : okTree LT false first = true) (h2 : ∀ s ∈ steps, okTree LT false s.2 = true) :
    ∃ v, storeAll none ((none, first) :: steps.map (fun s => (some s.1, s.2))) = some v ∧
      ∃ d : Doc, d.flatten = render LT v ∧ parseDoc 1 d = some (canon (augFold first steps)) := by
  refine ⟨_, storeAll_aug first steps, ?_⟩
  exact render_groups_partial _ (okTree_augFold first steps h1 h2)

example :
    (storeAll none [(none, .binary .add (.name "BASE".toList) (.constInt 1)), (some .mult, .constInt 2)]).map (render LT)
      = some "(BASE+1)*2".toList ∧
    (storeAll none [(none, .constInt 100), (some .sub, .binary .sub (.name ['a']) (.name ['b']))]).map (render LT)
      = some "100-(a-b)".toList ∧
    storeAll none [(some .add, .constInt 1)] = none := by
  refine ⟨?_, ?_, ?_⟩ <;> (repeat rw [String.toList_ofList]) <;> decide +kernel

/-! ## 5. line wrapping and truncation are marked

`unwrap` removes the continuation markers from a result list: every `LINEWRAP` item together with
the `NEWLINE` that follows it.  What remains are the characters the colourizer handed to `_output`. -/

def Item.raw : Item → List Char
  | .text s => s
  | .elem _ s => s
  | .wbr => []
  | .newline => ['\n']

/-- the flag: the previous item was a `LINEWRAP` (the `NEWLINE` after it goes with it) -/
def unwrapAux : Bool → List Item → List Char
  | _, [] => []
  | _, .elem .linewrap _ :: rest => unwrapAux true rest
  | true, .newline :: rest => unwrapAux false rest
  | false, .newline :: rest => '\n' :: unwrapAux false rest
  | _, it :: rest => it.raw ++ unwrapAux false rest

def unwrap (l : List Item) : List Char := unwrapAux false l

def pendingAux : Bool → List Item → Bool
  | b, [] => b
  | _, .elem .linewrap _ :: rest => pendingAux true rest
  | _, _ :: rest => pendingAux false rest

/-- the list ends in a `LINEWRAP` whose `NEWLINE` has not been written yet (a dangling marker) -/
def pending (l : List Item) : Bool := pendingAux false l

theorem aux_append (b : Bool) (l m : List Item) :
    unwrapAux b (l ++ m) = unwrapAux b l ++ unwrapAux (pendingAux b l) m ∧
    pendingAux b (l ++ m) = pendingAux (pendingAux b l) m := by
  induction l generalizing b with
  | nil => simp [unwrapAux, pendingAux]
  | cons it rest ih =>
    cases it with
    | elem k s => cases k <;> cases b <;> simp [unwrapAux, pendingAux, ih]
    | _ => cases b <;> simp [unwrapAux, pendingAux, ih]

theorem unwrap_append (l m : List Item) : unwrap (l ++ m) = unwrap l ++ unwrapAux (pending l) m :=
  (aux_append false l m).1
theorem pending_append (l m : List Item) : pending (l ++ m) = pendingAux (pending l) m :=
  (aux_append false l m).2

/-- what `_output`'s loop adds for these segments, markers removed: a newline before every segment
but the first (`first`); none before the next one either where a dangling marker (`p`) takes it -/
def segsText : Bool → Bool → List (List Char) → List Char
  | _, _, [] => []
  | first, p, s :: rest => (if first || p then [] else ['\n']) ++ s ++ segsText false false rest

theorem pySplit_append (n cp : Nat) (seg : List Char) :
    (pySplit n cp seg).1 ++ (pySplit n cp seg).2 = seg := by
  unfold pySplit
  split <;> simp

def Extends (st st' : St) : Prop := ∃ m, st'.result = st.result ++ m

theorem Extends.refl (st : St) : Extends st st := ⟨[], by simp⟩
theorem Extends.trans {a b c : St} (h1 : Extends a b) (h2 : Extends b c) : Extends a c := by
  obtain ⟨m1, e1⟩ := h1; obtain ⟨m2, e2⟩ := h2
  exact ⟨m1 ++ m2, by rw [e2, e1, List.append_assoc]⟩

theorem nlStep_spec (cfg : Cfg) (first : Bool) (st : St) :
    match nlStep cfg first st with
    | .ok st1 =>
      unwrap st1.result = unwrap st.result ++ (if first || pending st.result then [] else ['\n']) ∧
      Extends st st1 ∧ st1.lbok = st.lbok
    | .error (_, st1) => st1 = st := by
  fun_cases nlStep cfg first st
  case case1 h => simp [h, Extends.refl]
  case case2 | case3 => rfl
  case case4 h _ _ =>
    refine ⟨?_, ⟨[.newline], rfl⟩, rfl⟩
    rw [unwrap_append]
    cases pending st.result <;> simp [unwrapAux, h]
theorem unwrap_push (r : List Item) (k : OKind) (s : List Char) (tail : List Item) :
    unwrap (r ++ mkElem k s :: tail) = unwrap r ++ (s ++ unwrapAux false tail) ∧
    pending (r ++ mkElem k s :: tail) = pendingAux false tail := by
  rw [unwrap_append, pending_append]
  cases k <;> cases pending r <;> exact ⟨rfl, rfl⟩

/-- the invariant of the wrapping loop started in `st0` that is to write `txt`; `pend'`: whether a
marker dangles at the end -/
def SegClaim (st0 : St) (txt : List Char) (pend' : Bool) (r : Res) : Prop :=
  match r with
  | .ok st' =>
    unwrap st'.result = unwrap st0.result ++ txt ∧ pending st'.result = pend' ∧
    Extends st0 st' ∧ st'.lbok = st0.lbok
  | .error (_, st') =>
    Extends st0 st' ∧ st'.lbok = st0.lbok ∧ ∃ p, p <+: txt ∧ unwrap st'.result = unwrap st0.result ++ p

theorem SegClaim.lift {st0 st2 : St} {pre txt : List Char} {pd : Bool} {r : Res}
    (hu : unwrap st2.result = unwrap st0.result ++ pre) (hext : Extends st0 st2) (hlb : st2.lbok = st0.lbok)
    (h : SegClaim st2 txt pd r) : SegClaim st0 (pre ++ txt) pd r := by
  unfold SegClaim at h ⊢
  match r, h with
  | .ok st', ⟨h1, h2, h3, h4⟩ =>
    exact ⟨by rw [h1, hu, List.append_assoc], h2, hext.trans h3, h4.trans hlb⟩
  | .error (e, st'), ⟨h1, h2, p, hp, h3⟩ =>
    refine ⟨hext.trans h1, h2.trans hlb, pre ++ p, ?_, by rw [h3, hu, List.append_assoc]⟩
    exact List.prefix_append_right_inj pre |>.2 hp

/-- the wrapping loop, from any state: the appended items spell the segments joined by newlines, cut
pieces rejoined (a leading newline is absorbed by a dangling marker) -/
theorem outSegs_claim (cfg : Cfg) (k : OKind) :
    ∀ (fuel : Nat) (first : Bool) (segs : List (List Char)) (st : St),
      SegClaim st (segsText first (pending st.result) segs)
        (if segs.isEmpty then pending st.result else false) (outSegs cfg k fuel first segs st)
  | fuel, first, [], st => by cases fuel <;> simp [outSegs, SegClaim, segsText, Extends.refl]
  | 0, first, seg :: rest, st => ⟨Extends.refl st, rfl, [], List.nil_prefix, by simp⟩
  | fuel + 1, first, seg :: rest, st => by
    rw [outSegs]
    match nlStep cfg first st, nlStep_spec cfg first st with
    | .error (e, _), rfl => exact ⟨Extends.refl _, rfl, [], List.nil_prefix, by simp⟩
    | .ok st1, ⟨hu, hext, hlb⟩ =>
      simp only [segsText, List.isEmpty_cons, Bool.false_eq_true, if_false, List.append_assoc]
      refine SegClaim.lift hu hext hlb ?_
      -- the loop goes on from `st2`, which is `st1` with `piece` (and `tail`) appended
      have push : ∀ (piece : List Char) (tail : List Item) (segs' : List (List Char)) (st2 : St),
          st2.result = st1.result ++ mkElem k piece :: tail → st2.lbok = st1.lbok →
          SegClaim st1 (piece ++ (unwrapAux false tail ++ segsText false (pendingAux false tail) segs'))
            (if segs'.isEmpty then pendingAux false tail else false)
            (outSegs cfg k fuel false segs' st2) := by
        intro piece tail segs' st2 hr hl
        have hp := unwrap_push st1.result k piece tail
        rw [← hr] at hp
        have ih := outSegs_claim cfg k fuel false segs' st2
        rw [hp.2] at ih
        simpa only [List.append_assoc] using SegClaim.lift hp.1 ⟨_, hr⟩ hl ih
      have fit := push seg [] rest (pushSeg k seg st1) rfl rfl
      simp only [unwrapAux, pendingAux, List.nil_append, ite_self] at fit
      cases cfg.linelen with
      | none => exact fit
      | some n =>
        simp only
        by_cases hfit : (decide (st1.charpos + seg.length ≤ n) || k = .link || k = .quote) = true
        · rw [if_pos hfit]; exact fit
        · rw [if_neg hfit]
          have := push (pySplit n st1.charpos seg).1 [linewrapItem] ((pySplit n st1.charpos seg).2 :: rest)
            (pushWrap k (pySplit n st1.charpos seg).1 st1) rfl rfl
          simpa [unwrapAux, pendingAux, linewrapItem, segsText, ← List.append_assoc, pySplit_append] using this

/-- `outSegs_claim` under a hypothesis it does not need (a dangling marker only before a later segment) -/
theorem outSegs_spec (cfg : Cfg) (k : OKind) :
    ∀ (fuel : Nat) (first : Bool) (segs : List (List Char)) (st : St),
      (pending st.result = true → first = false) →
      SegClaim st (segsText first (pending st.result) segs)
        (if segs.isEmpty then pending st.result else false) (outSegs cfg k fuel first segs st) :=
  fun fuel first segs st _ => outSegs_claim cfg k fuel first segs st

theorem segsText_eq (first p : Bool) (ls : List (List Char)) :
    segsText first p ls = (if first || p || ls.isEmpty then [] else ['\n']) ++ ['\n'].intercalate ls := by
  induction ls generalizing first p with
  | nil => simp [segsText]
  | cons l ls ih =>
    rw [segsText, ih]
    cases ls <;> simp [List.intercalate_cons_cons, List.intercalate_singleton]

theorem segsText_splitNl (p : Bool) (s : List Char) : segsText true p (splitNl s) = s := by
  simp [segsText_eq, splitNl_eq, List.intercalate_splitOn]

theorem output_spec (cfg : Cfg) (s : List Char) (k : OKind) (st : St) :
    SegClaim st s false (output cfg s k st) := by
  have h := outSegs_claim cfg k (3 * s.length + 4) true (splitNl s) st
  rwa [segsText_splitNl, List.isEmpty_eq_false_iff.2 (splitNl_ne_nil s)] at h

/-! ### the whole colourizer: a run appends a spelling of its program -/

mutual
/-- `Spells lb p t`: `t` is a complete spelling of program `p` started with `linebreakok = lb` — every
`_output` string in order; a comma in multi-line mode is `,` + newline + some indentation; a
`_multiline` body is spelled on one line, or (when line breaks are allowed) in multi-line mode -/
def Spells (lb : Bool) : Prog → List Char → Prop
  | .out s _, t => t = s
  | .wbr, t => t = []
  | .unknown, t => t = "??".toList
  | .comma, t => if lb then ∃ n, t = ',' :: '\n' :: List.replicate n ' ' else t = [',', ' ']
  | .fail _, _ => False
  | .seq ps, t => SpellsL lb ps t
  | .group ps, t => SpellsL lb ps t
  | .paren p, t => ∃ u, Spells lb p u ∧ t = '(' :: (u ++ [')'])
  | .multiline p, t => Spells false p t ∨ (lb = true ∧ Spells true p t)
  | .ifLb a b, t => if lb then Spells true a t else Spells false b t
def SpellsL (lb : Bool) : List Prog → List Char → Prop
  | [], t => t = []
  | p :: ps, t => ∃ u v, Spells lb p u ∧ SpellsL lb ps v ∧ t = u ++ v
end

mutual
theorem spells_false_flat : ∀ (p : Prog) (t : List Char), Spells false p t → t = flat p
  | .out _ _, t, h | .wbr, t, h | .unknown, t, h | .comma, t, h => h
  | .fail e, t, h => h.elim
  | .seq ps, t, h | .group ps, t, h => spellsL_false_flat ps t h
  | .paren p, t, ⟨u, hu, e⟩ => by rw [e, spells_false_flat p u hu]; rfl
  | .multiline p, t, .inl h => spells_false_flat p t h
  | .ifLb a b, t, h => spells_false_flat b t h
theorem spellsL_false_flat : ∀ (ps : List Prog) (t : List Char), SpellsL false ps t → t = flatList ps
  | [], t, h => h
  | p :: ps, t, ⟨u, v, hu, hv, e⟩ => by
    rw [e, spells_false_flat p u hu, spellsL_false_flat ps v hv]; rfl
end

theorem restore_eq (mark st1 : St) (m : List Item) (h : st1.result = mark.result ++ m) :
    restore mark st1 = mark ∧ st1.result.drop mark.result.length = m := by
  simp [restore, h]

/-- the invariant of a run from `st`: it only appends; returned, no marker dangles and the appended
items, markers removed, spell a text of which `sp` holds -/
def ExecClaim (st : St) (sp : List Char → Prop) (r : Res) : Prop :=
  match r with
  | .ok st' =>
    pending st'.result = false ∧ st'.lbok = st.lbok ∧ Extends st st' ∧
    ∃ t, sp t ∧ unwrap st'.result = unwrap st.result ++ t
  | .error (_, st') => Extends st st'

theorem output_claim (cfg : Cfg) (s : List Char) (k : OKind) (st : St) :
    ExecClaim st (fun t => t = s) (output cfg s k st) := by
  match output cfg s k st, output_spec cfg s k st with
  | .ok st', ⟨h1, h2, h3, h4⟩ => exact ⟨h2, h4, h3, s, rfl, h1⟩
  | .error (e, st'), ⟨h1, _⟩ => exact h1

theorem ExecClaim.lift {st st1 : St} {t1 : List Char} {sp2 sp : List Char → Prop} {r : Res}
    (h : ExecClaim st1 sp2 r) (hlb : st1.lbok = st.lbok) (hext : Extends st st1)
    (hu : unwrap st1.result = unwrap st.result ++ t1) (hsp : ∀ v, sp2 v → sp (t1 ++ v)) :
    ExecClaim st sp r := by
  match r, h with
  | .error (e, st'), h => exact hext.trans h
  | .ok st2, ⟨hp2, hlb2, hext2, t2, ht2, hu2⟩ =>
    exact ⟨hp2, hlb2.trans hlb, hext.trans hext2, t1 ++ t2, hsp _ ht2, by rw [hu2, hu, List.append_assoc]⟩

theorem ExecClaim.mono {st : St} {sp sp' : List Char → Prop} {r : Res} (h : ExecClaim st sp r)
    (himp : ∀ t, sp t → sp' t) : ExecClaim st sp' r :=
  h.lift rfl (Extends.refl st) (List.append_nil _).symm himp

def ResExt (st : St) (r : Res) : Prop :=
  match r with
  | .ok st' => Extends st st'
  | .error (_, st') => Extends st st'

theorem ExecClaim.ext {st : St} {sp : List Char → Prop} {r : Res} (h : ExecClaim st sp r) : ResExt st r := by
  match r, h with
  | .ok st', ⟨_, _, h3, _⟩ => exact h3
  | .error (e, st'), h => exact h

theorem output_extends (cfg : Cfg) (s : List Char) (k : OKind) (st : St) :
    ResExt st (output cfg s k st) :=
  (output_claim cfg s k st).ext

/-- `_OperatorDelimiter.__exit__`, whatever the body left behind: it only appends to the mark; it returns
only if the body did, and then the body's text stands between parentheses -/
theorem exitParen_claim (cfg : Cfg) (mark st1 : St) (pe : Option Exc) (m : List Item)
    (h : st1.result = mark.result ++ m) :
    ExecClaim mark (fun t => pe = none ∧ t = '(' :: (unwrapAux false m ++ [')']))
      (exitParen cfg mark st1 pe) := by
  unfold exitParen
  obtain ⟨hr, hd⟩ := restore_eq mark st1 m h
  simp only [hr, hd]
  match output cfg ['('] .plain mark, output_claim cfg ['('] .plain mark with
  | .error (e, st'), o1 => exact o1
  | .ok st2, ⟨p2, l2, e2, _, rfl, u2⟩ =>
    have e2' : Extends mark { st2 with result := st2.result ++ m } := e2.trans ⟨m, rfl⟩
    simp only
    match output cfg [')'] .plain { st2 with result := st2.result ++ m }, output_claim cfg [')'] .plain _ with
    | .error (e, st'), o2 => exact e2'.trans o2
    | .ok st3, ⟨p3, l3, e3, _, rfl, u3⟩ =>
      cases pe with
      | some e => exact e2'.trans e3
      | none =>
        refine ⟨p3, l3.trans l2, e2'.trans e3, _, ⟨rfl, rfl⟩, ?_⟩
        rw [u3]
        simp [unwrap_append, p2, u2]

theorem exitParen_extends (cfg : Cfg) (mark st1 : St) (pe : Option Exc) (m : List Item)
    (h : st1.result = mark.result ++ m) : ResExt mark (exitParen cfg mark st1 pe) :=
  (exitParen_claim cfg mark st1 pe m h).ext

/-- `exitParen_claim` for a body that returned; the two marker hypotheses are not needed -/
theorem exitParen_ok (cfg : Cfg) (mark st1 : St) (m : List Item)
    (h : st1.result = mark.result ++ m) (hpm : pending mark.result = false)
    (hp1 : pending st1.result = false) :
    ExecClaim mark (fun t => t = '(' :: (unwrapAux false m ++ [')'])) (exitParen cfg mark st1 none) :=
  (exitParen_claim cfg mark st1 none m h).mono fun _ ht => ht.2

theorem insertComma_spec (cfg : Cfg) (indent : Nat) (st : St) (hp : pending st.result = false) :
    ExecClaim st (Spells st.lbok .comma) (insertComma cfg indent st) := by
  unfold insertComma
  cases hlb : st.lbok with
  | false => simpa [Spells] using output_claim cfg [',', ' '] .plain st
  | true =>
    simp only [if_true]
    match output cfg [','] .plain st, output_claim cfg [','] .plain st with
    | .error (e, st'), o1 => exact o1
    | .ok st2, ⟨_, l2, e2, _, rfl, u2⟩ =>
      exact (output_claim cfg _ .plain st2).lift l2 e2 u2 fun v hv => hv ▸ ⟨indent, rfl⟩

mutual
/-- **every helper of the colourizer only ever adds marked line breaks**: running the program of an
expression from a state without a dangling marker appends, marker pairs removed, a complete
spelling of the program (or raises, having only appended) -/
theorem exec_spec (cfg : Cfg) :
    ∀ (p : Prog) (indent : Nat) (st : St), pending st.result = false →
      ExecClaim st (Spells st.lbok p) (exec cfg indent p st)
  | .out s k, indent, st, hp => by
    simpa [exec, Spells] using output_claim cfg s k st
  | .wbr, indent, st, hp => by
    simp only [exec]
    exact ⟨by simp [pending_append, pendingAux], rfl, ⟨[.wbr], rfl⟩, [], rfl,
      by simp [unwrap_append, unwrapAux, Item.raw]⟩
  | .unknown, indent, st, hp => by
    simp only [exec]
    exact ⟨by simp [pending_append, pendingAux, unknownItem], rfl, ⟨[unknownItem], rfl⟩, "??".toList, rfl,
      by simp [unwrap_append, unwrapAux, Item.raw, unknownItem]⟩
  | .comma, indent, st, hp => by
    simpa [exec] using insertComma_spec cfg indent st hp
  | .fail e, indent, st, hp => Extends.refl st
  | .seq ps, indent, st, hp => by
    simpa [exec, Spells] using execList_spec cfg ps indent st hp
  | .group ps, indent, st, hp => by
    simpa [exec, Spells] using execList_spec cfg ps st.charpos st hp
  | .paren p, indent, st, hp => by
    simp only [exec]
    match exec cfg indent p st, exec_spec cfg p indent st hp with
    | .error (e, st1), ⟨m, hm⟩ => exact (exitParen_claim cfg st st1 (some e) m hm).mono fun _ ht => nomatch ht.1
    | .ok st1, ⟨hp1, hlb, ⟨m, hm⟩, t, ht, hu⟩ =>
      rw [hm, unwrap_append, hp] at hu
      cases List.append_cancel_left hu
      exact (exitParen_ok cfg st st1 m hm hp hp1).mono fun t' ht' => ⟨_, ht, ht'⟩
  | .multiline p, indent, st, hp => by
    simp only [exec]
    match exec cfg indent p { st with lbok := false },
      exec_spec cfg p indent { st with lbok := false } hp with
    | .ok st1, ⟨hp1, hlb, hext, t, ht, hu⟩ => exact ⟨hp1, rfl, hext, t, .inl ht, hu⟩
    | .error (e, st1), hext =>
      cases e with
      | linebreak =>
        simp only
        cases hlb : st.lbok with
        | false => exact hext
        | true =>
          obtain ⟨m, hm⟩ := (hext : Extends st st1)
          simp only [Bool.not_true, Bool.false_eq_true, if_false, (restore_eq st st1 m hm).1]
          have ih := exec_spec cfg p indent st hp
          rw [hlb] at ih
          exact ih.mono fun t ht => .inr ⟨rfl, ht⟩
      | _ => exact hext
  | .ifLb a b, indent, st, hp => by
    cases hlb : st.lbok with
    | true => simpa [exec, Spells, hlb] using exec_spec cfg a indent st hp
    | false => simpa [exec, Spells, hlb] using exec_spec cfg b indent st hp
theorem execList_spec (cfg : Cfg) :
    ∀ (ps : List Prog) (indent : Nat) (st : St), pending st.result = false →
      ExecClaim st (SpellsL st.lbok ps) (execList cfg indent ps st)
  | [], indent, st, hp => ⟨hp, rfl, Extends.refl st, [], rfl, by simp⟩
  | p :: ps, indent, st, hp => by
    rw [execList]
    match exec cfg indent p st, exec_spec cfg p indent st hp with
    | .error (e, st'), h => exact h
    | .ok st1, ⟨hp1, hlb, hext, t, ht, hu⟩ =>
      exact (hlb ▸ execList_spec cfg ps indent st1 hp1).lift hlb hext hu fun v hv => ⟨t, v, ht, hv, rfl⟩
end

/-- **Pyval.output_marked**: for every configuration and every state without a dangling marker,
`_output(s, …)` appends items that — once each `↵` marker is removed together with the newline that
follows it — spell exactly `s`; if it raises `_Maxlines`/`_Linebreak`, a prefix of `s`.  Every line
break that is not in `s` is therefore marked as a continuation. -/
theorem output_marked (cfg : Cfg) (s : List Char) (k : OKind) (st : St)
    (hp : pending st.result = false) :
    match output cfg s k st with
    | .ok st' => unwrap st'.result = unwrap st.result ++ s ∧ pending st'.result = false
    | .error (_, st') => ∃ p, p <+: s ∧ unwrap st'.result = unwrap st.result ++ p := by
  match output cfg s k st, output_spec cfg s k st with
  | .ok st', ⟨h1, h2, _⟩ => exact ⟨h1, h2⟩
  | .error (_, st'), ⟨_, _, h⟩ => exact h

/-- non-vacuity / the markers at work: `12345678` at line length 4 -/
example : (match output (Cfg.make 4 0 true) "12345678".toList .plain ⟨[], 0, 1, true⟩ with
    | .ok st' => (st'.result.flatMap Item.raw, unwrap st'.result)
    | .error _ => ([], [])) = ("1234↵\n5678".toList, "12345678".toList) := by
  repeat rw [String.toList_ofList]
  decide +kernel

/-- FALSE: "the cut output, markers removed, is a prefix of the full text".  A cut inside a
parenthesised operator still gets its closing parenthesis (`_OperatorDelimiter.__exit__` runs while
the exception propagates). -/
theorem wrap_prefix_counterexample :
    (match colorize LT (Cfg.make 4 1 true)
        (.binary .mult (.binary .add (.constInt 111) (.constInt 222)) (.constInt 333)) with
      | .ok r => (r.isComplete, unwrap r.items)
      | .error _ => (true, [])) = (false, "(111+)\n...".toList) ∧
    render LT (.binary .mult (.binary .add (.constInt 111) (.constInt 222)) (.constInt 333))
      = "(111+222)*333".toList := by
  constructor <;> (repeat rw [String.toList_ofList]) <;> decide +kernel

/-- **Pyval.wrap_marked**: for every line length, every line count, both `linebreakok` settings
and every expression: if the result is not complete it ends with the `...` truncation marker; if it
is complete then, continuation markers removed, it is a complete spelling of the expression —
nothing was shortened silently — and in the mode without line breaks (defaults, annotations,
decorators, bases) it is exactly `render e`. -/
theorem wrap_marked (T : PrecTable) (linelen maxlines : Nat) (lb : Bool) (e : Expr) (r : Colorized)
    (h : colorize T (Cfg.make linelen maxlines lb) e = .ok r) :
    (r.isComplete = false → r.items.getLast? = some ellipsisItem) ∧
    (r.isComplete = true →
      Spells lb (compile T none e) (unwrap r.items) ∧ pending r.items = false ∧
      (lb = false → unwrap r.items = render T e)) := by
  unfold colorize at h
  revert h
  fun_cases colorizeProg (Cfg.make linelen maxlines lb) (compile T none e)
  case case1 st0 st he =>
    rintro ⟨⟩
    have := exec_spec (Cfg.make linelen maxlines lb) (compile T none e) 0 st0 rfl
    rw [he] at this
    obtain ⟨hp, _, _, t, ht, hu⟩ := this
    cases (List.nil_append t ▸ hu : unwrap st.result = t)
    exact ⟨nofun, fun _ => ⟨ht, hp, fun hf => by subst hf; exact spells_false_flat _ _ ht⟩⟩
  case case3 | case6 => nofun
  -- every other branch that returns appends the marker
  all_goals rintro ⟨⟩; simp
/-- **what is NOT claimed: a line budget.**  `_OperatorDelimiter.__exit__` restores `charpos` and
`lineno` to their values at the opening parenthesis (then adds 2 for the parentheses), so after a
parenthesised sub-expression the colourizer under-counts: a line can be longer than `linelen`
(`(111+222)*333` at line length 7 is ONE line of 13 characters) and a complete result can have more
lines than `maxlines` (three at `maxlines = 2`).  `wrap_marked`, `exec_spec`, `cut_shows_written`
only say that every break the colourizer introduces is marked and that nothing is lost or silently
cut. -/
theorem line_budget_counterexample :
    (match colorize LT (Cfg.make 7 0 true)
        (.binary .mult (.binary .add (.constInt 111) (.constInt 222)) (.constInt 333)) with
      | .ok r => (r.isComplete, r.items.flatMap Item.raw)
      | .error _ => (false, [])) = (true, "(111+222)*333".toList) ∧
    (match colorize LT (Cfg.make 4 2 true)
        (.binary .mult (.binary .add (.constInt 111) (.constInt 222)) (.constInt 333)) with
      | .ok r => (r.isComplete, r.items.flatMap Item.raw)
      | .error _ => (false, [])) = (true, "(111+↵\n222)*3↵\n33".toList) := by
  constructor <;> (repeat rw [String.toList_ofList]) <;> decide +kernel

/-- the text of a result as the reader sees it, markers included -/
def visible (items : List Item) : List Char := items.flatMap Item.raw

/-- non-vacuity of `wrap_marked`: a complete wrapped result (two continuations), a cut one with line
breaks allowed, and a cut one in summary mode (three characters trimmed for the marker) -/
example :
    (match colorize LT (Cfg.make 4 2 true)
        (.binary .mult (.binary .add (.constInt 111) (.constInt 222)) (.constInt 333)) with
      | .ok r => (r.isComplete, visible r.items, unwrap r.items)
      | .error _ => (false, [], [])) =
      (true, "(111+↵\n222)*3↵\n33".toList, "(111+222)*333".toList) ∧
    (match colorize LT (Cfg.make 6 1 true) (.list [.constInt 1, .constStr "ab".toList]) with
      | .ok r => (r.isComplete, visible r.items)
      | .error _ => (true, [])) = (false, "[1, 'a↵\n...".toList) ∧
    (match colorize LT (Cfg.make 9 1 false) (.list [.constInt 1, .constStr "abcdef".toList]) with
      | .ok r => (r.isComplete, visible r.items)
      | .error _ => (true, [])) = (false, "[1, 'a...".toList) := by
  refine ⟨?_, ?_, ?_⟩ <;> (repeat rw [String.toList_ofList]) <;> decide +kernel

theorem dropPair_id (a b : Char) (s : List Char) (h : a ∉ s) : dropPair a b s = s := by
  induction s using dropPair.induct a b with
  | case1 => rfl
  | case2 x => rfl
  | case3 x y rest hxy ih => simp at h; exact absurd hxy.1 (by intro e; exact h.1 e.symm)
  | case4 x y rest hxy ih =>
    simp only [dropPair, hxy, if_false]
    rw [ih (by simp at h ⊢; exact h.2)]

theorem astext_id (s : List Char) (h : Char.ofNat 0 ∉ s) : astext s = s := by
  rw [astext, dropPair_id _ _ s h, dropPair_id _ _ s h, List.filter_eq_self]
  exact fun c hc => decide_eq_true fun e => h (e ▸ hc)

/-- **Pyval.display_eq_render**: what `gettext(to_node())` returns is the raw item text, provided no
item holds a NUL character (docutils' `Text.astext` removes them) -/
theorem display_eq_render (items : List Item) (h : ∀ it ∈ items, Char.ofNat 0 ∉ it.raw) :
    itemsText items = visible items := by
  unfold itemsText visible
  rw [List.flatMap_def, List.flatMap_def]
  refine congrArg _ (List.map_congr_left fun it hit => ?_)
  cases it with
  | text s | elem k s => exact astext_id s (h _ hit)
  | wbr | newline => rfl

/-- since e938da2 / 257fc5a the text of a string or bytes constant reaches the page unchanged:
docutils has no NUL to drop (the HISTORICAL witness is `nul_dropped_old_counterexample`) -/
theorem display_const_full (s : List Char) (b : List Nat) (hb : ∀ x ∈ b, x < 256) :
    astext (strEscape s) = strEscape s ∧ astext (bytesEscape b) = bytesEscape b :=
  ⟨astext_id _ (strEscape_no_nul s), astext_id _ (bytesEscape_no_nul b hb)⟩

example :
    (match colorize LT (Cfg.make 0 1 false) (.constStr [Char.ofNat 0, 'a']) with
      | .ok r => (r.isComplete, itemsText r.items)
      | .error _ => (false, [])) = (true, "'\\x00a'".toList) := by decide +kernel

/-! ## 6. what a cut result shows (`_trim_result`, the `...` marker) -/

theorem astext_no_nul (s : List Char) : Char.ofNat 0 ∉ astext s := by
  unfold astext
  intro h
  simp [List.mem_filter] at h

theorem dropLastPy_prefix (t : Nat) (l : List Char) : dropLastPy t l <+: l := by
  unfold dropLastPy
  split
  · exact List.nil_prefix
  · exact List.take_prefix _ _

theorem astext_dropLastPy (t : Nat) (s : List Char) : astext (dropLastPy t (astext s)) <+: astext s := by
  rw [astext_id _ fun h => astext_no_nul s ((dropLastPy_prefix t _).subset h)]
  exact dropLastPy_prefix _ _

def textRev (rev : List Item) : List Char := itemsText rev.reverse

theorem textRev_cons (it : Item) (rev : List Item) : textRev (it :: rev) = textRev rev ++ it.astext := by
  simp [textRev, itemsText]

/-- `_trim_result` only removes characters from the end of what is displayed -/
theorem trimResult_prefix : ∀ (fuel : Nat) (rev : List Item) (n : Nat),
    textRev (trimResult fuel rev n) <+: textRev rev
  | 0, rev, n => by simp [trimResult]
  | fuel + 1, rev, 0 => by simp [trimResult]
  | fuel + 1, [], n + 1 => by simp [trimResult]
  | fuel + 1, it :: rev, n + 1 => by
    -- the last item is dropped …
    have pre : ∀ m, textRev (trimResult fuel rev m) <+: textRev (it :: rev) := fun m =>
      (trimResult_prefix fuel rev m).trans (by rw [textRev_cons]; exact List.prefix_append _ _)
    -- … or replaced by one that shows a prefix of its text
    have repl : ∀ it' m, it'.astext <+: it.astext →
        textRev (trimResult fuel (it' :: rev) m) <+: textRev (it :: rev) := fun it' m h =>
      (trimResult_prefix fuel _ m).trans (by
        rw [textRev_cons, textRev_cons]; exact (List.prefix_append_right_inj _).2 h)
    cases it with
    | wbr => simpa [trimResult] using pre (n + 1)
    | newline => simpa [trimResult] using pre n
    | elem k s =>
      simp only [trimResult]
      split
      · exact pre _
      · split
        · exact pre _
        · exact repl _ _ (astext_dropLastPy _ _)
    | text s =>
      simp only [trimResult]
      split
      · exact pre _
      · exact repl _ _ (astext_dropLastPy _ _)

/-- the displayed text of a cut result is a prefix of the text accumulated when
`_Maxlines`/`_Linebreak` was raised (`_trim_result` may take off a tail), followed by `...` (on its
own line when a line limit was hit and line breaks are allowed; directly after the text when the
interpreter's recursion limit was hit, 0a8115c) -/
theorem cut_shows_written (cfg : Cfg) (p : Prog) (r : Colorized)
    (h : colorizeProg cfg p = .ok r) (hc : r.isComplete = false) :
    ∃ e st, exec cfg 0 p ⟨[], 0, 1, cfg.linebreakok⟩ = .error (e, st) ∧
      ∃ q, q <+: itemsText st.result ∧
        itemsText r.items = q ++
          (if cfg.linebreakok && e != .recursion then "\n...".toList else "...".toList) := by
  revert h
  fun_cases colorizeProg cfg p
  case case1 => rintro ⟨⟩; cases hc
  case case2 e st he hml hlb =>
    rintro ⟨⟩
    have hne : e ≠ .recursion := by rintro rfl; simp at hml
    exact ⟨e, st, he, _, List.prefix_rfl, by simp [itemsText, hlb, hne, Item.astext, ellipsisItem, astext, dropPair]⟩
  case case3 | case6 => nofun
  case case4 e st he hml hlb last rev hrev rev' =>
    rintro ⟨⟩
    refine ⟨e, st, he, textRev (trimResult _ _ 3), (trimResult_prefix _ _ _).trans ?_,
      by simp [itemsText, textRev, hlb, Item.astext, ellipsisItem, astext, dropPair]; rfl⟩
    rw [show itemsText st.result = textRev (last :: rev) by rw [textRev, ← hrev, List.reverse_reverse]]
    unfold rev'
    split
    · rw [textRev_cons]; exact List.prefix_append _ _
    · exact List.prefix_rfl
  case case5 st he _ =>
    rintro ⟨⟩
    exact ⟨_, st, he, _, List.prefix_rfl, by simp [itemsText, Item.astext, ellipsisItem, astext, dropPair]⟩
/-! ## 7. the display of a string constant, end to end -/

theorem spellsL_linesProg (lb first : Bool) (ls : List (List Char)) (tl : List Prog) (t : List Char) :
    SpellsL lb (linesProg first ls ++ tl) t →
      ∃ v, SpellsL lb tl v ∧
        t = (if first || ls.isEmpty then [] else ['\n']) ++ joinSep ['\n'] ls ++ v := by
  induction ls generalizing first t with
  | nil => exact fun h => ⟨t, h, by simp [joinSep]⟩
  | cons l rest ih =>
    intro h
    have step : ∀ u, SpellsL lb (Prog.out l .str :: (linesProg false rest ++ tl)) u →
        ∃ v, SpellsL lb tl v ∧ u = joinSep ['\n'] (l :: rest) ++ v := by
      rintro _ ⟨_, u, rfl, hu, rfl⟩
      obtain ⟨v, hv, rfl⟩ := ih false u hu
      exact ⟨v, hv, by cases rest <;> simp [joinSep]⟩
    cases first
    · obtain ⟨_, u, rfl, hu, rfl⟩ := h
      obtain ⟨v, hv, rfl⟩ := step u hu
      exact ⟨v, hv, by simp⟩
    · obtain ⟨v, hv, rfl⟩ := step t h
      exact ⟨v, hv, by simp⟩

/-- the quote `_colorize_str` picks -/
def strQuote (lb : Bool) (s : List Char) : List Char :=
  if lb && s.contains '\n' then ['\'', '\'', '\''] else ['\'']

theorem spells_strProg (lb : Bool) (s t : List Char) (h : Spells lb (strProg s) t) :
    t = strQuote lb s ++ (if lb then triBody s else strEscape s) ++ strQuote lb s := by
  unfold strProg at h
  cases lb with
  | false => rw [spells_false_flat _ _ h]; simp [flat, flatList, strQuote]
  | true =>
    obtain ⟨_, _, rfl, ⟨_, u, rfl, hu, rfl⟩, rfl⟩ := h
    obtain ⟨_, ⟨_, _, rfl, rfl, rfl⟩, rfl⟩ := spellsL_linesProg true true _ _ u hu
    simp [strQuote, triBody]

/-- any complete spelling of a string constant is an opening quote, a body and the same closing
quote, and Python's lexing of the body (single- or triple-quoted accordingly) is the string -/
theorem str_display_roundtrip (lb : Bool) (s t : List Char) (h : Spells lb (strProg s) t) :
    ∃ body, t = strQuote lb s ++ body ++ strQuote lb s ∧
      unescapeStr (lb && s.contains '\n') body = some s := by
  refine ⟨_, spells_strProg lb s t h, ?_⟩
  cases lb with
  | false => simpa using str_roundtrip s
  | true =>
    simp only [if_true, Bool.true_and]
    exact triBody_reads _ s List.contains_iff_mem.2

/-- **Pyval.str_constant_display**: for every line length, line count and `linebreakok`: when a string
constant is displayed completely, then — continuation markers removed — it is a quoted body that
Python lexes back to the string -/
theorem str_constant_display (T : PrecTable) (linelen maxlines : Nat) (lb : Bool) (s : List Char)
    (r : Colorized) (h : colorize T (Cfg.make linelen maxlines lb) (.constStr s) = .ok r)
    (hc : r.isComplete = true) :
    ∃ body, unwrap r.items = strQuote lb s ++ body ++ strQuote lb s ∧
      unescapeStr (lb && s.contains '\n') body = some s := by
  have hw := (wrap_marked T linelen maxlines lb (.constStr s) r h).2 hc
  have hs : Spells lb (strProg s) (unwrap r.items) := by simpa [compile] using hw.1
  exact str_display_roundtrip lb s _ hs

/-! ## 8. the regex colourizer, element level: literals and group references read back -/

/-- Python's reading of ONE literal element of a regex text, for the spellings `_colorize_re_tree`
emits: backslash + (non-alphanumeric character | t r n f v | xHH | uHHHH), or a bare character.  In
verbose mode a bare blank is skipped and a bare `#` starts a comment: not a literal (`none`). -/
def unescRe (verbose : Bool) : List Char → Option Char
  | [c] => if c = '\\' then none else if verbose && (c = ' ' || c = '#') then none else some c
  | [b, e] =>
    if b ≠ '\\' then none
    else if e = 't' then some '\t' else if e = 'r' then some '\r' else if e = 'n' then some '\n'
    else if e = 'f' then some (Char.ofNat 12) else if e = 'v' then some (Char.ofNat 11)
    else if e.isAlphanum then none else some e
  | [b, k, a1, a2] =>
    if b ≠ '\\' ∨ k ≠ 'x' then none
    else match unhex a1, unhex a2 with
      | some x, some y => some (Char.ofNat (x * 16 + y))
      | _, _ => none
  | [b, k, a1, a2, a3, a4] =>
    if b ≠ '\\' ∨ k ≠ 'u' then none
    else match unhex a1, unhex a2, unhex a3, unhex a4 with
      | some w, some x, some y, some z => some (Char.ofNat (w * 4096 + x * 256 + y * 16 + z))
      | _, _, _, _ => none
  | _ => none

/-- the characters `_colorize_re_tree` writes as a backslash and the character itself -/
def reSelf : List Char := reSpecials ++ ['-', ' ', '#']

/-- … and those it writes as a backslash and a letter -/
def reLetter : List (Char × Char) :=
  [('\t', 't'), ('\r', 'r'), ('\n', 'n'), (Char.ofNat 12, 'f'), (Char.ofNat 11, 'v')]

theorem reSelf_reads : ∀ c ∈ reSelf, ∀ v, unescRe v ['\\', c] = some c := by decide +kernel

theorem reLetter_reads : ∀ p ∈ reLetter, ∀ v, unescRe v ['\\', p.2] = some p.1 := by decide +kernel

theorem reLiteral_cases (inSet verbose : Bool) (c : Char) :
    (c ∈ reSelf ∧ reLiteral inSet verbose c = ['\\', c]) ∨
    (∃ l, (c, l) ∈ reLetter ∧ reLiteral inSet verbose c = ['\\', l]) ∨
    (c.toNat ≤ 65535 ∧ reLiteral inSet verbose c = '\\' :: 'u' :: hex4 c.toNat) ∨
    (c.toNat ≤ 255 ∧
      reLiteral inSet verbose c = ['\\', 'x', hexDigit (c.toNat / 16 % 16), hexDigit (c.toNat % 16)]) ∨
    (c ≠ '\\' ∧ (verbose = true → c ≠ ' ' ∧ c ≠ '#') ∧ reLiteral inSet verbose c = [c]) := by
  fun_cases reLiteral inSet verbose c
  case case1 h1 =>
    refine .inl ⟨?_, rfl⟩
    simp only [Bool.or_eq_true, List.contains_iff_mem, Bool.and_eq_true, beq_iff_eq] at h1
    rcases h1 with h | ⟨_, rfl⟩ <;> simp [reSelf, *]
  case case2 h2 =>
    refine .inl ⟨?_, rfl⟩
    simp only [Bool.and_eq_true, Bool.or_eq_true, beq_iff_eq] at h2
    rcases h2.1 with rfl | rfl <;> simp [reSelf]
  case case8 h8 =>
    simp only [Bool.and_eq_true, decide_eq_true_eq] at h8
    exact .inr (.inr (.inl ⟨h8.2, rfl⟩))
  case case9 h8 h9 =>
    simp only [Bool.and_eq_true, decide_eq_true_eq, not_and, Nat.not_le] at h8 h9
    exact .inr (.inr (.inr (.inl ⟨by omega, rfl⟩)))
  case case10 h1 h2 _ _ _ _ _ _ _ =>
    refine .inr (.inr (.inr (.inr ⟨?_, ?_, rfl⟩)))
    · rintro rfl; exact h1 (by decide +revert)
    · rintro rfl
      simpa only [Bool.and_true, Bool.or_eq_true, beq_iff_eq, not_or] using h2
  all_goals subst_vars; exact .inr (.inl ⟨_, by decide, rfl⟩)
/-- **every literal the regex colourizer writes reads back as that character** — in a set or not, with
or without the verbose escapes; in particular in verbose mode a blank or `#` is never written bare -/
theorem reLiteral_roundtrip (inSet verbose : Bool) (c : Char) :
    unescRe verbose (reLiteral inSet verbose c) = some c := by
  rcases reLiteral_cases inSet verbose c with ⟨h, e⟩ | ⟨l, h, e⟩ | ⟨h, e⟩ | ⟨h, e⟩ | ⟨h, hv, e⟩ <;> rw [e]
  · exact reSelf_reads c h verbose
  · exact reLetter_reads _ h verbose
  · have e : c.toNat / 4096 % 16 * 4096 + c.toNat / 256 % 16 * 256 + c.toNat / 16 % 16 * 16 + c.toNat % 16 = c.toNat := by
      omega
    simp [hex4, unescRe, unhex_hexDigit, e]
  · have e : c.toNat / 16 % 16 * 16 + c.toNat % 16 = c.toNat := by omega
    simp [unescRe, unhex_hexDigit, e]
  · cases verbose <;> simp_all [unescRe]

/-- HISTORICAL (before 55809ad): in verbose mode a blank / `#` was written bare — skipped by Python, or
the start of a comment -/
theorem reLiteral_old_counterexample :
    reLiteralOld false ' ' = [' '] ∧ unescRe true (reLiteralOld false ' ') = none ∧
    reLiteralOld false '#' = ['#'] ∧ unescRe true (reLiteralOld false '#') = none ∧
    reLiteral false true ' ' = ['\\', ' '] ∧ reLiteral false true '#' = ['\\', '#'] := by decide +kernel

/-- the group number Python reads: the maximal run of digits after the first backslash -/
def refDigits : List Char → List Char
  | [] => []
  | c :: rest => if c = '\\' then rest.takeWhile isDigitChar else refDigits rest

theorem toDigits_digits (n : Nat) : ∀ c ∈ Nat.toDigits 10 n, isDigitChar c = true :=
  fun _ hc => Nat.isDigit_of_mem_toDigits (by decide) (by decide) hc

theorem refDigits_spec (pre ds rest : List Char) (hpre : ∀ c ∈ pre, c ≠ '\\')
    (hds : ∀ c ∈ ds, isDigitChar c = true) (hr : ∀ x, rest.head? = some x → isDigitChar x = false) :
    refDigits (pre ++ '\\' :: (ds ++ rest)) = ds := by
  induction pre with
  | nil =>
    rw [List.nil_append, refDigits, if_pos rfl, List.takeWhile_append_of_pos hds]
    cases rest with
    | nil => simp
    | cons x xs => simp [hr x rfl]
  | cons c pre ih =>
    rw [List.cons_append, refDigits, if_neg (hpre c (by simp)), ih fun x hx => hpre x (by simp [hx])]

theorem reLiteral_head (inSet verbose : Bool) (c : Char) (hc : isDigitChar c = false) :
    ∀ x, (reLiteral inSet verbose c).head? = some x → isDigitChar x = false := by
  intro x hx
  rcases reLiteral_cases inSet verbose c with ⟨_, e⟩ | ⟨l, _, e⟩ | ⟨_, e⟩ | ⟨_, e⟩ | ⟨_, _, e⟩ <;>
    rw [e, List.head?_cons, Option.some.injEq] at hx <;> subst hx
  · decide
  · decide
  · decide
  · decide
  · exact hc

theorem groupref_reads (n : Nat) (inSet verbose : Bool) (next : Option Char) :
    refDigits (reGroupRef n next ++ (next.map (reLiteral inSet verbose)).getD []) = Nat.toDigits 10 n := by
  have hd := toDigits_digits n
  cases next with
  | none => simpa [reGroupRef] using refDigits_spec [] _ [] nofun hd nofun
  | some d =>
    simp only [reGroupRef, Option.map_some, Option.getD_some]
    cases hdig : isDigitChar d
    · simpa using refDigits_spec [] _ _ nofun hd (reLiteral_head inSet verbose d hdig)
    · simpa using refDigits_spec ['(', '?', ':'] _ (')' :: reLiteral inSet verbose d) (by decide) hd
        (by simp; decide)

/-- **a group reference keeps its number**: whatever character follows (a digit included), written as a literal outside
a set and without the verbose escapes, the digits Python reads after the backslash are exactly those of the group
number; the case `false false` of `groupref_reads`, which needs no bound on `n` either -/
theorem groupref_reads_back (n : Nat) (hn : n < 100) (next : Option Char) :
    refDigits (reGroupRef n next ++ (next.map (reLiteral false false)).getD []) = Nat.toDigits 10 n :=
  groupref_reads n false false next

/-- HISTORICAL (before fd7f5b9): `(a)\1` followed by the literal `0` was written `\10` — group 10 -/
theorem groupref_old_counterexample :
    refDigits (reGroupRefOld 1 ++ reLiteral false false '0') = ['1', '0'] ∧
    refDigits (reGroupRef 1 (some '0') ++ reLiteral false false '0') = ['1'] := by decide +kernel

end Pyval
