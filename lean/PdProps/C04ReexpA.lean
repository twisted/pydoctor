/-
C04, re-exports, layer A — static: the facts of `reexportShape`, the relocation `relocSite`,
the alias relation `JpdR` (= `Jpd` + the alias `reparent` leaves behind + star imports of moved-in
objects) and that its targets denote what Python binds.
-/
import PdProps.C04Pd

namespace Imports
open Registry

/-- a re-export request, an element of `reexportReqs`: (definer module, name, re-exporting module, new name) -/
abbrev Req := Nat × Name × Nat × Name

theorem lastAll_none : ∀ (b : List Stmt), (b.filter isAllStmt).isEmpty = true → lastAll b = none
  | [], _ => rfl
  | st :: rest, h => by
    have hr : (rest.filter isAllStmt).isEmpty = true := by
      cases hst : isAllStmt st <;> simp_all [List.filter]
    have ih := lastAll_none rest hr
    cases st with
    | allAssign l => simp [List.filter, isAllStmt] at h
    | _ => simp [lastAll, ih]

theorem reqs_of_mem {proj : Project} {r : Req} (h : r ∈ reexportReqs proj) :
    r.2.2.1 < proj.length ∧ ∃ ex lvl M asn, lastAll (bodyOf proj r.2.2.1) = some ex ∧
      Stmt.importFrom lvl M r.2.1 asn ∈ bodyOf proj r.2.2.1 ∧ r.2.2.2 = asn.getD r.2.1 ∧
      ex.contains r.2.2.2 = true ∧ target proj r.2.2.1 lvl M = some r.1 := by
  unfold reexportReqs at h
  rw [List.mem_flatMap] at h
  obtain ⟨x, hx, h⟩ := h
  cases hl : lastAll (bodyOf proj x) with
  | none => simp [hl] at h
  | some ex =>
    simp only [hl, List.mem_filterMap] at h
    obtain ⟨st, hst, h⟩ := h
    cases st with
    | importFrom lvl M n a =>
      simp only at h
      by_cases hc : ex.contains (a.getD n) = true
      · simp only [hc, if_true] at h
        cases ht : target proj x lvl M with
        | none => simp [ht] at h
        | some d =>
          simp only [ht, Option.some.injEq] at h
          subst h
          exact ⟨List.mem_range.1 hx, ex, lvl, M, a, hl, hst, rfl, hc, ht⟩
      · simp only [List.contains_iff_mem] at hc; simp [hc] at h
    | _ => simp at h

theorem mem_reqs {proj : Project} {x : Nat} (hx : x < proj.length) {ex : List Name} {lvl : Nat} {M : Path} {n : Name}
    {a : Option Name} {d : Nat} (hl : lastAll (bodyOf proj x) = some ex)
    (hst : Stmt.importFrom lvl M n a ∈ bodyOf proj x) (hc : ex.contains (a.getD n) = true)
    (ht : target proj x lvl M = some d) : ((d, n, x, a.getD n) : Req) ∈ reexportReqs proj := by
  unfold reexportReqs
  rw [List.mem_flatMap]
  refine ⟨x, List.mem_range.2 hx, ?_⟩
  simp only [hl, List.mem_filterMap]
  exact ⟨_, hst, by simp [List.contains_iff_mem.1 hc, ht]⟩

/-- what `reexportShape` says -/
structure RxFacts (proj : Project) : Prop where
  noStarAll : ∀ {m b lvl M}, siteBody proj (m, []) = some b → Stmt.importStar lvl M ∈ b → lastAll (bodyOf proj m) = none
  noClsImp : ∀ {S b st}, siteBody proj S = some b → st ∈ b → S.2 ≠ [] → isImportStmt st = false
  one : ((reexportReqs proj).map fun r => (r.1, r.2.1)).Nodup
  reqOk : ∀ r ∈ reexportReqs proj, r.1 ≠ r.2.2.1 ∧ isPkg proj r.1 = false ∧ definesTop proj r.1 r.2.1 = true ∧
    ((lastAll (bodyOf proj r.1)).getD []).contains r.2.1 = false ∧ isSupersededName r.2.2.2 = false

theorem RxFacts.of {proj : Project} (h : reexportShape proj = true) : RxFacts proj := by
  simp only [reexportShape, Bool.and_eq_true] at h
  obtain ⟨⟨⟨h1, h2⟩, h3⟩, h4⟩ := h
  refine ⟨?_, ?_, (nodupB_iff _).1 h3, ?_⟩
  · intro m b lvl M hb hst
    have hbm := siteBody_mod hb
    subst hbm
    have := List.all_eq_true.1 h1 m (List.mem_range.2 (siteBody_lt hb))
    simp only [Bool.and_eq_true, Bool.or_eq_true, Bool.not_eq_true'] at this
    rcases this.2 with he | hn
    · exact lastAll_none _ he
    · have : (bodyOf proj m).any isStarStmt = true := List.any_eq_true.2 ⟨_, hst, rfl⟩
      rw [this] at hn; cases hn
  · intro S b st hb hst hS
    have := allProj_spec h4 hb hst
    simp only [Bool.or_eq_true, Bool.not_eq_true'] at this
    rcases this with h0 | h0
    · exact absurd (by simpa using h0) hS
    · exact h0
  · intro r hr
    have := List.all_eq_true.1 h2 r hr
    simp only [Bool.and_eq_true, bne_iff_ne, ne_eq, Bool.not_eq_true'] at this
    exact ⟨this.1.1.1.1, this.1.1.1.2, this.1.1.2, this.1.2, this.2⟩

theorem WFr.facts {proj : Project} {rank : List Nat} (h : WFr proj rank = true) : WFacts proj rank ∧ RxFacts proj := by
  simp only [WFr, Bool.and_eq_true] at h
  obtain ⟨⟨⟨⟨⟨⟨⟨⟨⟨⟨⟨⟨hmod, hpaths⟩, himp⟩, honce⟩, huniq⟩, hbne⟩, hns⟩, hroots⟩, hnames⟩, hshape⟩, _⟩, _⟩, _⟩ := h
  exact ⟨wfacts_of hmod hpaths himp honce huniq hbne hns hroots hnames, RxFacts.of hshape⟩

theorem WFr.pkgFrom {proj : Project} {rank : List Nat} (h : WFr proj rank = true) : pkgFromOk proj rank = true := by
  simp only [WFr, Bool.and_eq_true] at h
  exact h.1.1.2

theorem WFr.above {proj : Project} {rank : List Nat} (h : WFr proj rank = true) : aboveOk proj rank = true := by
  simp only [WFr, Bool.and_eq_true] at h
  exact h.2

theorem WFr.modNames {proj : Project} {rank : List Nat} (h : WFr proj rank = true) :
    ∀ m, m < proj.length → ∀ n ∈ pathOf proj m, isSupersededName n = false := by
  simp only [WFr, Bool.and_eq_true] at h
  have h2 := h.1.2
  intro m hm n hn
  unfold modNamesOk at h2
  have h3 := List.all_eq_true.1 h2 proj[m] (List.getElem_mem hm)
  have hp : pathOf proj m = proj[m].path := by simp [pathOf, List.getElem?_eq_getElem hm]
  rw [hp] at hn
  have := List.all_eq_true.1 h3 n hn
  simpa using this

theorem RxFacts.same {proj : Project} (rx : RxFacts proj) {r r' : Req} (h : r ∈ reexportReqs proj)
    (h' : r' ∈ reexportReqs proj) (e1 : r.1 = r'.1) (e2 : r.2.1 = r'.2.1) : r = r' :=
  nodup_map_inj rx.one h h' (by simp [e1, e2])

theorem definesTop_spec {proj : Project} {d : Nat} {n : Name} (h : definesTop proj d n = true) :
    ∃ st ∈ bodyOf proj d, st.defName = some n ∧ ∃ c, stKind st = some (n, c) ∧ c ≠ .attribute := by
  unfold definesTop at h
  obtain ⟨st, hst, hp⟩ := List.any_eq_true.1 h
  cases st with
  | classDef n' bs body => simp only [beq_iff_eq] at hp; subst hp; exact ⟨_, hst, rfl, .cls, rfl, by simp⟩
  | funcDef n' => simp only [beq_iff_eq] at hp; subst hp; exact ⟨_, hst, rfl, .function, rfl, by simp⟩
  | _ => simp at hp

/-- the importing statement of a request, in the re-exporter's body -/
theorem req_stmt {proj : Project} {r : Req} (h : r ∈ reexportReqs proj) :
    r.2.2.1 < proj.length ∧ siteBody proj (r.2.2.1, []) = some (bodyOf proj r.2.2.1) ∧
    ∃ lvl M asn, Stmt.importFrom lvl M r.2.1 asn ∈ bodyOf proj r.2.2.1 ∧ r.2.2.2 = asn.getD r.2.1 ∧
      target proj r.2.2.1 lvl M = some r.1 := by
  obtain ⟨hx, ex, lvl, M, asn, _, hst, ha, _, ht⟩ := reqs_of_mem h
  exact ⟨hx, siteBody_zero hx, lvl, M, asn, hst, ha, ht⟩

theorem req_definer_lt {proj : Project} {r : Req} (h : r ∈ reexportReqs proj) : r.1 < proj.length := by
  obtain ⟨_, _, lvl, M, asn, _, _, ht⟩ := req_stmt h
  obtain ⟨T, _, hm⟩ := target_spec ht
  exact (modIdx_spec hm).1

/-- the moved object, seen from the re-exporter -/
theorem req_jpy {proj : Project} {r : Req} (h : r ∈ reexportReqs proj) {w : SVal}
    (hw : Jpy proj (r.1, []) [r.2.1] w) : Jpy proj (r.2.2.1, []) [r.2.2.2] w := by
  obtain ⟨_, hb, lvl, M, asn, hst, ha, ht⟩ := req_stmt h
  rw [ha]
  exact Jpy.from hb hst ht hw

theorem req_jpy_def {proj : Project} (rx : RxFacts proj) {r : Req} (h : r ∈ reexportReqs proj) :
    Jpy proj (r.1, []) [r.2.1] (.dfn r.1 [r.2.1]) := by
  obtain ⟨st, hst, hd, _⟩ := definesTop_spec (rx.reqOk r h).2.2.1
  have := Jpy.dfn (S := (r.1, [])) (siteBody_zero (req_definer_lt h)) hst hd
  simpa using this

/-! ## the alias relation with moves -/

/-- **pydoctor with re-exports**: `JpdR S x tgt` — the alias map of scope `S` can map `x` to `tgt`:
as `Jpd`, or the alias `reparent` leaves in the definer, or a star import of such an alias / of an
object that was moved into the module the star import names -/
inductive JpdR (proj : Project) : Site → Name → Path → Prop
  | base {S : Site} {x : Name} {tgt : Path} : Jpd proj S x tgt → JpdR proj S x tgt
  | marker {r : Req} : r ∈ reexportReqs proj → JpdR proj (r.1, []) r.2.1 (pathOf proj r.2.2.1 ++ [r.2.2.2])
  | starAlias {S : Site} {b : List Stmt} {lvl : Nat} {M : Path} {T : Path} {t : Nat} {x : Name} {tgt : Path} :
      siteBody proj S = some b → Stmt.importStar lvl M ∈ b → pdAbsName proj S.1 lvl M = some T →
      (∀ t', modIdx proj T = some t' → t = t') → starOk proj t x → JpdR proj (t, []) x tgt →
      JpdR proj S x tgt
  | starMoved {S : Site} {b : List Stmt} {lvl : Nat} {M : Path} {T : Path} {t : Nat} {x : Name} {r : Req} :
      siteBody proj S = some b → Stmt.importStar lvl M ∈ b → pdAbsName proj S.1 lvl M = some T →
      (∀ t', modIdx proj T = some t' → t = t') → starOk proj t x → r ∈ reexportReqs proj → r.2.2.1 = t → r.2.2.2 = x →
      JpdR proj S x (pathOf proj t ++ [x])

theorem req_in_modNames {proj : Project} {rank : List Nat} {r : Req} (h : r ∈ reexportReqs proj) :
    r.2.2.2 ∈ modNames proj (rankOf rank r.2.2.1 + 1) r.2.2.1 := by
  obtain ⟨_, hb, lvl, M, asn, hst, ha, _⟩ := req_stmt h
  exact modNames_of_stmt hb hst (stmtNames_of_explicit (by simp [explicitNames, ha]))

/-- the definition a request moves is bound by a statement of the definer's body -/
theorem req_def_names {proj : Project} {rank : List Nat} (rx : RxFacts proj) {r : Req} (hr : r ∈ reexportReqs proj) :
    ∃ st ∈ bodyOf proj r.1, r.2.1 ∈ stmtNamesR proj rank (r.1, []) st := by
  obtain ⟨st, hst, hd, _⟩ := definesTop_spec (rx.reqOk r hr).2.2.1
  exact ⟨st, hst, stmtNames_of_explicit (defName_explicit hd)⟩

/-- inversion: an alias entry comes from a binding statement of the scope that is not a definition, or
it is the alias a move left behind -/
theorem jpdR_inv {proj : Project} {rank : List Nat} (wf : WFacts proj rank) (rx : RxFacts proj) {S : Site} {x : Name}
    {tgt : Path} (h : JpdR proj S x tgt) :
    (∃ b st, siteBody proj S = some b ∧ st ∈ b ∧ x ∈ stmtNamesR proj rank S st ∧ StmtD proj S st x tgt) ∨
    (∃ r ∈ reexportReqs proj, S = (r.1, []) ∧ x = r.2.1 ∧ tgt = pathOf proj r.2.2.1 ++ [r.2.2.2]) := by
  induction h with
  | base h => exact Or.inl (jpd_inv wf h)
  | marker hr => exact Or.inr ⟨_, hr, rfl, rfl, rfl⟩
  | @starAlias S b lvl M T t x tgt hb hst hT hu hok _ ih =>
    have hbt := siteBody_zero (star_target_mod wf hb hst hT hu).2
    have hx' : x ∈ modNames proj (rankOf rank t + 1) t := by
      rcases ih with ⟨b', st', hb', hst', hx', _⟩ | ⟨r, hr, hS, rfl, _⟩
      · exact modNames_of_stmt hb' hst' hx'
      · cases hS
        obtain ⟨st', hst', hx'⟩ := req_def_names (rank := rank) rx hr
        exact modNames_of_stmt hbt hst' hx'
    exact Or.inl ⟨b, _, hb, hst, (star_mem wf hb hst hT hu (Or.inr ⟨hok, hx'⟩)).2.2, trivial⟩
  | @starMoved S b lvl M T t x r hb hst hT hu hok hr ht hx =>
    subst ht; subst hx
    exact Or.inl ⟨b, _, hb, hst, (star_mem wf hb hst hT hu (Or.inr ⟨hok, req_in_modNames hr⟩)).2.2, trivial⟩

theorem jpdR_names {proj : Project} {rank : List Nat} (wf : WFacts proj rank) (rx : RxFacts proj)
    {S : Site} {x : Name} {tgt : Path} (h : JpdR proj S x tgt) (b : List Stmt) (hb : siteBody proj S = some b) :
    ∃ st ∈ b, x ∈ stmtNamesR proj rank S st := by
  rcases jpdR_inv wf rx h with ⟨b', st, hb', hst, hx, _⟩ | ⟨r, hr, rfl, rfl, _⟩
  · exact ⟨st, Option.some.inj (hb'.symm.trans hb) ▸ hst, hx⟩
  · exact siteBody_mod hb ▸ req_def_names rx hr

/-- **the alias map agrees with Python**, moves included: the target denotes what Python binds, if its first component
is a root module at all (`AbsDenW`) -/
theorem jpdR_jpy {proj : Project} {rank : List Nat} (wf : WFacts proj rank) (rx : RxFacts proj) :
    ∀ {S : Site} {x : Name} {tgt : Path}, JpdR proj S x tgt → ∀ {w : SVal}, Jpy proj S [x] w → AbsDenW proj tgt w := by
  intro S x tgt h
  induction h with
  | base h => exact fun hw => jpd_jpy wf h hw
  | @marker r hr =>
    intro w hw
    exact (AbsDen.inMod wf (req_stmt hr).1 (req_jpy hr hw)).weak
  | @starAlias S b lvl M T t x tgt hb hst hT hu hok hj ih =>
    intro w hw
    have hbt := siteBody_zero (star_target_mod wf hb hst hT hu).2
    obtain ⟨st', hst', hx'⟩ := jpdR_names wf rx hj _ hbt
    exact ih (star_jpy wf hb hst hT hu hok (modNames_of_stmt hbt hst' hx') hw).2
  | @starMoved S b lvl M T t x r hb hst hT hu hok hr ht hx =>
    intro w hw
    subst ht; subst hx
    obtain ⟨hlt, hj⟩ := star_jpy wf hb hst hT hu hok (req_in_modNames hr) hw
    exact (AbsDen.inMod wf hlt hj).weak

theorem jpdR_ne_nil {proj : Project} {rank : List Nat} (wf : WFacts proj rank) :
    ∀ {S : Site} {x : Name} {tgt : Path}, JpdR proj S x tgt → tgt ≠ [] := by
  intro S x tgt h
  induction h with
  | base h => exact jpd_ne_nil wf h
  | marker _ => simp
  | starAlias _ _ _ _ _ _ ih => exact ih
  | starMoved _ _ _ _ _ _ _ _ => simp

/-! ## the relocation -/

theorem relocSite_cases (proj : Project) (mv : Req → Bool) (S : Site) :
    relocSite proj mv S = sitePath proj S ∨
    ∃ r ∈ reexportReqs proj, ∃ rest, S = (r.1, r.2.1 :: rest) ∧ mv r = true ∧
      relocSite proj mv S = pathOf proj r.2.2.1 ++ [r.2.2.2] ++ rest := by
  fun_cases relocSite proj mv S
  · exact Or.inl rfl
  case case2 n rest hS r hf =>
    have hp := List.find?_some hf
    simp only [Bool.and_eq_true, beq_iff_eq] at hp
    exact Or.inr ⟨r, List.mem_of_find?_eq_some hf, rest, Prod.ext hp.1.1.symm (by rw [hS, hp.1.2]), hp.2, rfl⟩
  · exact Or.inl rfl

theorem relocSite_moved {proj : Project} (rx : RxFacts proj) {mv : Req → Bool} {r : Req} (hr : r ∈ reexportReqs proj)
    (hmv : mv r = true) (rest : List Name) :
    relocSite proj mv (r.1, r.2.1 :: rest) = pathOf proj r.2.2.1 ++ [r.2.2.2] ++ rest := by
  unfold relocSite
  simp only
  cases hf : (reexportReqs proj).find? (fun r' => r'.1 == r.1 && r'.2.1 == r.2.1 && mv r') with
  | none =>
    have := List.find?_eq_none.1 hf r hr
    simp [hmv] at this
  | some r' =>
    have hp := List.find?_some hf
    simp only [Bool.and_eq_true, beq_iff_eq] at hp
    have := rx.same (List.mem_of_find?_eq_some hf) hr hp.1.1 hp.1.2
    subst this; rfl

theorem relocSite_unmoved {proj : Project} {mv : Req → Bool} {S : Site}
    (h : ∀ r ∈ reexportReqs proj, r.1 = S.1 → S.2.head? = some r.2.1 → mv r = false) :
    relocSite proj mv S = sitePath proj S := by
  rcases relocSite_cases proj mv S with h0 | ⟨r, hr, rest, hS, hmv, _⟩
  · exact h0
  · subst hS
    have := h r hr rfl rfl
    rw [this] at hmv; cases hmv

theorem relocSite_snoc (proj : Project) (mv : Req → Bool) {S : Site} (hS : S.2 ≠ []) (n : Name) :
    relocSite proj mv (S.1, S.2 ++ [n]) = relocSite proj mv S ++ [n] := by
  obtain ⟨m, cp⟩ := S
  cases cp with
  | nil => exact absurd rfl hS
  | cons a rest =>
    unfold relocSite
    simp only [List.cons_append]
    cases (reexportReqs proj).find? (fun r => r.1 == m && r.2.1 == a && mv r) with
    | none => simp [sitePath]
    | some r => simp

theorem find?_congr' {α : Type} {p q : α → Bool} {l : List α} (h : ∀ x ∈ l, p x = q x) : l.find? p = l.find? q := by
  rw [← List.head?_filter, ← List.head?_filter, List.filter_congr h]

/-- `relocSite` asks `mv` only about the requests for the top-level definition the site lies below -/
theorem relocSite_congr {proj : Project} {mv mv' : Req → Bool} (S : Site)
    (h : ∀ r ∈ reexportReqs proj, r.1 = S.1 → S.2.head? = some r.2.1 → mv r = mv' r) :
    relocSite proj mv S = relocSite proj mv' S := by
  obtain ⟨m, cp⟩ := S
  cases cp with
  | nil => rfl
  | cons n rest =>
    unfold relocSite
    simp only
    rw [find?_congr' (q := fun r => r.1 == m && r.2.1 == n && mv' r) fun r hr => ?_]
    by_cases hh : r.1 = m ∧ r.2.1 = n
    · rw [h r hr hh.1 (by simp [hh.2])]
    · have : (r.1 == m && r.2.1 == n) = false := by simpa using hh
      simp [this]

/-- the relocated name of a module or definition denotes it -/
theorem canon_reloc {proj : Project} {rank : List Nat} (wf : WFacts proj rank) (rx : RxFacts proj) (mv : Req → Bool)
    {S : Site} (hS : StaticSite proj S) : AbsDen proj (relocSite proj mv S) (svalOf S) := by
  rcases relocSite_cases proj mv S with h | ⟨r, hr, rest, hSe, hmv, h⟩
  · rw [h]; exact canon_site wf hS
  · rw [h]; subst hSe
    have hx := (req_stmt hr).1
    have hd := req_definer_lt hr
    have h1 : Jpy proj (r.2.2.1, []) [r.2.2.2] (.dfn r.1 [r.2.1]) := req_jpy hr (req_jpy_def rx hr)
    cases rest with
    | nil =>
      simpa [svalOf] using AbsDen.inMod wf hx h1
    | cons y ys =>
      have hchain : Jpy proj (r.1, [r.2.1]) (y :: ys) (.dfn r.1 (r.2.1 :: y :: ys)) := by
        obtain ⟨_, hcp | ⟨cp', n', b', st, hcp, hb', hst, hdn⟩⟩ := hS
        · cases hcp
        · -- `cp' = r.2.1 :: cs` and `cs ++ [n'] = y :: ys`
          cases cp' with
          | nil => simp at hcp
          | cons c cs =>
            obtain ⟨rfl, hrest⟩ : r.2.1 = c ∧ y :: ys = cs ++ [n'] := by simpa using hcp
            obtain ⟨_, b1, _, hf, hat⟩ := bodyAt_cons (siteBody_bodyAt hb')
            have := canon_chain cs [r.2.1] b1 b' st n' (siteBody_snoc (siteBody_zero hd) hf) hat hst hdn
            rwa [← hrest] at this
      simpa [svalOf] using AbsDen.inMod wf hx (Jpy.cons h1 (by simpa [scopeOf] using hchain))

/-- distinct sites have distinct relocated names -/
theorem relocSite_inj {proj : Project} {rank : List Nat} (wf : WFacts proj rank) (rx : RxFacts proj) (mv : Req → Bool)
    {S S' : Site} (hS : StaticSite proj S) (hS' : StaticSite proj S')
    (h : relocSite proj mv S = relocSite proj mv S') : S = S' := by
  have h1 := canon_reloc wf rx mv hS
  have h2 := canon_reloc wf rx mv hS'
  rw [h] at h1
  have := AbsDen.fun wf h1 h2.weak
  have h3 := congrArg scopeOf this
  rwa [scopeOf_svalOf, scopeOf_svalOf] at h3

end Imports
