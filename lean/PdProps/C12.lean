/-
C12 — hidden objects leave no trace; private objects are always marked private.

Over the `Output` model (the producer table of DESIGN.md §7 C12 as a function from the object table to the
`taglink` requests and listing entries, then the visibility guard inside `taglink`) and the `Privacy` model.
Traversal lemmas, `origin`, `mem_emits` and `origin_emit` are in PdProps/C11.lean.
`no_trace` (every row: the 30 constructors of `Output.Row`, finer than the table's numbered producers) and
`private_marked` (the 9 listing rows) are the general statements.
Still false of the current code (open finding): the unlinked base nodes of classIndex.html
(`no_trace_texts_partial` under `noHiddenBaseNames`, `no_trace_texts_counterexample`).
-/
import PdProps.C11

namespace Privacy

/-- over the chain `[ob, ob.parent, …]`, the cache handed on in the order `isVisible` asks -/
def allShown (rules : List Rule) : Cache → List Obj → Prop
  | _, [] => True
  | c, ob :: ps =>
    ∃ l, (privacyClass rules c ob).1 = .ok l ∧ l ≠ .hidden ∧ (ps ≠ [] → ob.inContents = true) ∧
      allShown rules (privacyClass rules c ob).2 ps

/-- **C12** `Documentable.isVisible` answers `True` exactly when the object and every one of its
containers is classified as something else than HIDDEN (and none of them is a superseded definition): a
hidden module, package or class hides everything inside it.  (The same `isVisible`, stated through the cache-less
run: `Privacy.isVisible_meaning`, PdProps/C13.lean.) -/
theorem hidden_inherits (rules : List Rule) : ∀ (obs : List Obj) (c : Cache),
    (isVisible rules c obs).1 = .ok true ↔ allShown rules c obs := by
  intro obs
  induction obs with
  | nil => intro c; simp [isVisible, allShown]
  | cons ob ps ih =>
    intro c
    rw [isVisible, allShown]
    cases hp : privacyClass rules c ob with
    | mk r c1 =>
      cases r with
      | err e => simp
      | ok l =>
        cases ps with
        | nil => by_cases hl : l = .hidden <;> simp [allShown, hl]
        | cons p ps' =>
          by_cases hl : l = .hidden <;> by_cases hc : ob.inContents = true <;> simp [hl, hc, ih c1]

/-- non-vacuity: a public module with a public class is visible; hide the module and the class is not -/
example : (isVisible [] [] [⟨['m', '.', 'K'], ['K'], false, false, true⟩, ⟨['m'], ['m'], true, false, true⟩]).1 = .ok true := by decide +kernel
example : (isVisible [⟨.hidden, ['m']⟩] [] [⟨['m', '.', 'K'], ['K'], false, false, true⟩, ⟨['m'], ['m'], true, false, true⟩]).1
    = .ok false := by decide +kernel

end Privacy

namespace Output

theorem chain_visible {s : Sys} : ∀ f p a, a ∈ chainAux s f p → visible s p = true → visible s a = true := by
  intro f
  induction f with
  | zero => intro p a h; simp [chainAux] at h
  | succ f ih =>
    intro p a h hv
    rw [chainAux] at h
    rcases List.mem_cons.mp h with rfl | h
    · exact hv
    · split at h
      · simp at h
      · rename_i q hq
        exact ih q a h (visible_parent hq hv)

/-- **C12** a visible object has no hidden container -/
theorem hidden_inherits {s : Sys} {i a : Nat} (hv : visible s i = true) (ha : a ∈ chain s i) :
    (s.ob a).privacy ≠ .hidden :=
  visible_not_hidden (chain_visible _ _ _ ha hv)

/-- **C12** nothing inside a hidden object (through `contents`, at any depth) is visible -/
theorem hidden_inside {s : Sys} (w : WF s) {a i : Nat} (hd : Desc s a i) (hh : (s.ob a).privacy = .hidden) :
    visible s i = false :=
  Bool.eq_false_iff.mpr fun hv => visible_not_hidden (visible_of_desc w hd hv) hh

theorem entry_visible {s : Sys} {r : Emit} (h : r ∈ requests s) (he : r.row.isEntry = true) :
    visible s r.target = true := by
  have ho := origin h
  obtain ⟨row, page, ctx, target, marked, linked⟩ := r
  cases row
  case table | initTable | sidebarItem | modIndex => exact ho.2.2.1
  case baseTable | sidebarInherited | indexRoots | allDocs => exact ho.2.2
  case detail | classIndex | nameIndex | undoc => exact ho.2.1
  case modIndexRoot => exact ho.2.2.2
  all_goals cases he

/-- **C12, every producer row, full strength.** Every hyperlink and every listing element (table row,
member details, sidebar item, index entry, search document) the run emits is for a visible object: since
aaed9bd `taglink` builds no hyperlink to an object that is not visible, whoever calls it, and every row
that writes an element of its own tests `isVisible` itself (since 4b6324b the root rows of
moduleIndex.html and index.html too). An object that is hidden, or inside a hidden one, is not mentioned. -/
theorem no_trace {s : Sys} {e : Emit} (h : e ∈ emits s) : visible s e.target = true := by
  rcases mem_emits h with ⟨_, hv⟩ | ⟨_, hv, r, hr, he, _, ht, _⟩
  · exact hv
  · have := entry_visible hr he
    rw [ht, hv] at this
    cases this

theorem no_trace_links {s : Sys} {e : Emit} (h : e ∈ emits s) (_ : e.linked = true) : visible s e.target = true :=
  no_trace h

/-- **C12** a hidden object (or anything inside one) has no page, no anchor, no search document and no
inventory line. A file at its address exists in one case only: the address is index.html (it is the only
root) and the project's `IndexPage` is written there (a09aa28) — a page that does not mention it. -/
theorem no_trace_files {s : Sys} (w : WF s) {i : Nat} (hi : i < s.n) (hv : visible s i = false) :
    i ∉ pages s ∧ (pageFile s i ∈ written s → pageFile s i = .index ∧ hasIndexPage s = true) ∧
      (∀ p, i ∉ methods s p) ∧ i ∉ searchDocs s ∧ i ∉ inventory s := by
  have hnv : ¬ visible s i = true := by simp [hv]
  have hnp : i ∉ pages s := fun h => hnv (visible_of_mem_pages h)
  exact ⟨hnp, fun h => (pageFile_written w hi h).resolve_left hnp, fun p h => hnv (mem_methods.mp h).2.2,
    fun h => hnv (mem_visibleAll h), fun h => hnv (mem_reached h).2⟩

theorem marker_of {s : Sys} {e : Emit} (h : e ∈ emits s) (hl : e.row.listing = true) :
    e.marked = some (if e.row = .sidebarItem ∨ e.row = .sidebarInherited ∨ e.row = .modIndexRoot ∨ e.row = .modIndex
                     then isPrivate s e.target else cssPrivate s e.target) := by
  have ho := origin_emit h
  obtain ⟨row, page, ctx, target, marked, linked⟩ := e
  cases row
  case table | initTable | baseTable | sidebarItem | sidebarInherited | modIndexRoot | modIndex | allDocs => exact ho.2.1
  case detail => exact ho.1
  all_goals cases hl

/-- the two tests the listings use (`isPrivate`: not PUBLIC; `css_class`: PRIVATE) differ on HIDDEN objects only, and
none is listed: a listing entry is marked exactly when its object is PRIVATE -/
theorem marked_iff_priv {s : Sys} {e : Emit} (h : e ∈ emits s) (hl : e.row.listing = true) :
    e.marked = some ((s.ob e.target).privacy == .priv) := by
  have hh := visible_not_hidden (no_trace h)
  rw [marker_of h hl]
  unfold isPrivate cssPrivate
  cases hp : (s.ob e.target).privacy with
  | hidden => exact absurd hp hh
  | priv | pub => split <;> rfl

/-- **C12** every listing entry (member tables incl. inherited and package tables, member details,
sidebar, module index, all-documents / search documents) of a PRIVATE object carries the `private`
marker -/
theorem private_marked {s : Sys} {e : Emit} (h : e ∈ emits s) (hl : e.row.listing = true)
    (hp : (s.ob e.target).privacy = .priv) : e.marked = some true := by
  rw [marked_iff_priv h hl, hp]; rfl

/-- and a PUBLIC object is never marked in those listings -/
theorem public_unmarked {s : Sys} {e : Emit} (h : e ∈ emits s) (hl : e.row.listing = true)
    (hp : (s.ob e.target).privacy = .pub) : e.marked = some false := by
  rw [marked_iff_priv h hl, hp]; rfl

/-! ### per producer: what each function of the page writers and summary pages lets through

`no_trace_<producer>` is about the producer's own model function where the model has one, otherwise
(`no_trace_links`, `no_trace_moduleIndex`, `no_trace_indexRoots`) `no_trace` read for the producer's rows;
`private_marked_<producer>`, one per listing row, is about its marker. -/

/-- `TemplateWriter._writeDocsFor` -/
theorem no_trace_writeDocsFor (s : Sys) {f r i : Nat} (h : i ∈ docsFor s f r) : visible s i = true :=
  (docsFor_sound s f r i h).2

theorem no_trace_pages {s : Sys} {p : Nat} (h : p ∈ pages s) : visible s p = true := visible_of_mem_pages h

/-- `linker.taglink` -/
theorem no_trace_taglink {s : Sys} {e e' : Emit} (h : taglinkGuard s e = some e') (hl : e'.linked = true) :
    visible s e'.target = true := by
  rcases taglinkGuard_some h with ⟨rfl, hv⟩ | ⟨rfl, _⟩
  · exact hv
  · cases hl

/-- `CommonPage.children` / `PackagePage.children` + `ChildTable.rows` -/
theorem no_trace_ChildTable {s : Sys} {p c : Nat} (h : c ∈ tableChildren s p) : visible s c = true :=
  (mem_tableChildren h).2

/-- `PackagePage.packageInitTable` -/
theorem no_trace_packageInitTable {s : Sys} {p c : Nat} (h : c ∈ initChildren s p) : visible s c = true :=
  (mem_initChildren h).2

/-- `CommonPage.methods` (member details, anchors) -/
theorem no_trace_methods {s : Sys} {p c : Nat} (h : c ∈ methods s p) : visible s c = true := (mem_methods.mp h).2.2

/-- `Module.submodules` -/
theorem no_trace_submodules {s : Sys} {p c : Nat} (h : c ∈ submodules s p) : visible s c = true :=
  (mem_submodules h).2

/-- `util.unmasked_attrs` -/
theorem no_trace_unmasked_attrs {s : Sys} {bl : List Nat} {a : Nat} (h : a ∈ unmaskedAttrs s bl) : visible s a = true :=
  (mem_unmaskedAttrs h).1

/-- `util.class_members` / `ClassPage.baseTables` -/
theorem no_trace_baseTables {s : Sys} {c : Nat} {bl attrs : List Nat} (h : (bl, attrs) ∈ baseLists s c) {a : Nat}
    (ha : a ∈ attrs) : visible s a = true :=
  (mem_unmaskedAttrs ((mem_classMembers (mem_baseLists h)).1 ▸ ha)).1

/-- `util.inherited_members` (sidebar) -/
theorem no_trace_inherited_members {s : Sys} {c a : Nat} (h : a ∈ inheritedMembers s c) : visible s a = true := by
  obtain ⟨⟨bl, attrs⟩, hx, ha⟩ := List.mem_flatMap.mp h
  simp only at ha
  split at ha
  · exact (mem_unmaskedAttrs ((mem_classMembers hx).1 ▸ ha)).1
  · cases ha

/-- `assembleList` ("Known subclasses", "overridden in") -/
theorem no_trace_assembleList {s : Sys} {l : List Nat} {i : Nat} (h : i ∈ assemble s l) : visible s i = true :=
  mem_assemble h

/-- `util.overriding_subclasses` -/
theorem no_trace_overriding_subclasses (s : Sys) : ∀ f c nm x, x ∈ overridingSubs s f true c nm → visible s x = true := by
  -- the class itself is yielded only below the first level, where it was tested
  have key : ∀ f first c nm x, (first = false → visible s c = true) → x ∈ overridingSubs s f first c nm →
      visible s x = true := by
    intro f first c nm x
    fun_induction overridingSubs s f first c nm
    case case1 => nofun
    case case2 hf =>
      exact fun hc h => List.mem_singleton.mp h ▸ hc ((Bool.not_eq_true' _).mp (Bool.and_eq_true _ _ ▸ hf).1)
    case case3 ih =>
      intro _ h
      obtain ⟨sc, _, hx⟩ := List.mem_flatMap.mp h
      split at hx
      · rename_i hv
        exact ih sc (fun _ => hv) hx
      · cases hx
  exact fun f c nm x => key f true c nm x (fun h => nomatch h)

/-- `sidebar.ObjContent`: at every expand depth, direct or inherited -/
theorem no_trace_sidebar (s : Sys) (pf : File) (k ob : Nat) {e : Emit} (h : e ∈ sideContent s pf k ob) :
    visible s e.target = true := (mem_sideContent s pf k ob e h).2.2.2.1

/-- `summary.moduleSummary` / `ModuleIndexPage.stuff` -/
theorem no_trace_moduleIndex {s : Sys} {e : Emit} (h : e ∈ emits s) (hr : e.row = .modIndexRoot ∨ e.row = .modIndex) :
    visible s e.target = true := no_trace h

/-- `summary.findRootClasses` -/
theorem no_trace_findRootClasses (s : Sys) {kv : List Char × RootVal} (h : kv ∈ findRootClasses s) {c : Nat}
    (hc : c ∈ kv.2.classes) : visible s c = true := findRootClasses_visible s kv h c hc

/-- `summary.subclassesFrom` below a visible class -/
theorem no_trace_subclassesFrom (s : Sys) {f c x : Nat} (hc : visible s c = true) (h : x ∈ subclassesFrom s f c) :
    visible s x = true :=
  (mem_subclassesFrom s f c x h).elim (· ▸ hc) id

/-- `ClassIndexPage`: the linked entries -/
theorem no_trace_classIndex {s : Sys} {c : Nat} (h : c ∈ classIndexListed s) : visible s c = true := mem_classIndexListed h

/-- `NameIndexPage`, `UndocumentedSummaryPage`, `get_all_documents_flattenable`, `LunrIndexWriter.get_corpus` -/
theorem no_trace_nameIndex {s : Sys} {o : Nat} (h : o ∈ visibleAll s) : visible s o = true := mem_visibleAll h

theorem no_trace_search {s : Sys} {o : Nat} (h : o ∈ searchDocs s) : visible s o = true := mem_visibleAll h

/-- `SphinxInventoryWriter._generateContent` -/
theorem no_trace_inventory {s : Sys} (w : WF s) {o : Nat} (h : o ∈ inventory s) : visible s o = true :=
  (mem_reached h).2

/-- `IndexPage.roots` (since 4b6324b) -/
theorem no_trace_indexRoots {s : Sys} {e : Emit} (h : e ∈ emits s) (_ : e.row = .indexRoots) : visible s e.target = true :=
  no_trace h

/-- historical (DESIGN §8-11, before aaed9bd): the class signature of the visible `V` linked the hidden
`_H`; now no hyperlink targets it -/
theorem no_trace_counterexample_old :
    wf sHidden = true ∧ visible sHidden 1 = false ∧
    ((requests sHidden).any fun e => e.row == .classSig && e.target == 1) = true ∧
    (emits sHidden).all (fun e => e.target != 1) = true := by
  decide +kernel

/-- two roots, one hidden -/
def sHiddenRoot : Sys :=
  { objs := #[ mkObj ['a'] .module none .hidden [], { mkObj ['b'] .module none .pub [] with modul := some 1 } ],
    all := [0, 1], roots := [0, 1], depth := 1, nosidebar := false }

/-- historical (between aaed9bd and 4b6324b): `ModuleIndexPage.stuff` and `IndexPage.roots` iterated
`rootobjects` without a visibility test; `taglink` refused the link but the row of the hidden root was written
all the same, with its name as plain text. Now no emitted mention targets it. -/
theorem no_trace_counterexample_root_old :
    wf sHiddenRoot = true ∧ visible sHiddenRoot 0 = false ∧
    ([Row.indexRoots, Row.modIndexRoot].all fun r =>
      (rootRowsOld sHiddenRoot).any fun e => e.row == r && e.target == 0 && !e.linked) = true ∧
    -- fixed code
    (emits sHiddenRoot).all (fun e => e.target != 0) = true := by
  decide +kernel

theorem private_marked_ChildTable {s : Sys} {e : Emit} (h : e ∈ emits s) (hr : e.row = .table)
    (hp : (s.ob e.target).privacy = .priv) : e.marked = some true := private_marked h (by rw [hr]; rfl) hp

theorem private_marked_packageInitTable {s : Sys} {e : Emit} (h : e ∈ emits s) (hr : e.row = .initTable)
    (hp : (s.ob e.target).privacy = .priv) : e.marked = some true := private_marked h (by rw [hr]; rfl) hp

theorem private_marked_baseTables {s : Sys} {e : Emit} (h : e ∈ emits s) (hr : e.row = .baseTable)
    (hp : (s.ob e.target).privacy = .priv) : e.marked = some true := private_marked h (by rw [hr]; rfl) hp

theorem private_marked_childlist {s : Sys} {e : Emit} (h : e ∈ emits s) (hr : e.row = .detail)
    (hp : (s.ob e.target).privacy = .priv) : e.marked = some true := private_marked h (by rw [hr]; rfl) hp

theorem private_marked_sidebar {s : Sys} {e : Emit} (h : e ∈ emits s) (hr : e.row = .sidebarItem ∨ e.row = .sidebarInherited)
    (hp : (s.ob e.target).privacy = .priv) : e.marked = some true := by
  rcases hr with hr | hr <;> exact private_marked h (by rw [hr]; rfl) hp

theorem private_marked_moduleIndex {s : Sys} {e : Emit} (h : e ∈ emits s) (hr : e.row = .modIndexRoot ∨ e.row = .modIndex)
    (hp : (s.ob e.target).privacy = .priv) : e.marked = some true := by
  rcases hr with hr | hr <;> exact private_marked h (by rw [hr]; rfl) hp

theorem private_marked_allDocuments {s : Sys} {e : Emit} (h : e ∈ emits s) (hr : e.row = .allDocs)
    (hp : (s.ob e.target).privacy = .priv) : e.marked = some true := private_marked h (by rw [hr]; rfl) hp

/-- `summary.isPrivate` covers `Documentable.isPrivate` -/
theorem ctxPrivate_of_private (s : Sys) (i : Nat) (h : isPrivate s i = true) : ctxPrivate s i = true := by
  unfold ctxPrivate
  rw [ctxPrivateAux]
  simp [h]

/-- nameIndex.html and undoccedSummary.html: the marker is `summary.isPrivate` -/
theorem ctx_marker {s : Sys} {e : Emit} (h : e ∈ emits s) (hr : e.row = .nameIndex ∨ e.row = .undoc) :
    e.marked = some (ctxPrivate s e.target) := by
  have ho := origin_emit h
  rcases hr with hr | hr <;> (simp only [Origin, hr] at ho; exact ho.2.2)

/-- nameIndex.html: the entry of a PRIVATE object is marked (and, by `ctx_marker`, so is that of every object inside
something private) -/
theorem private_marked_nameIndex {s : Sys} {e : Emit} (h : e ∈ emits s) (hr : e.row = .nameIndex)
    (hp : (s.ob e.target).privacy = .priv) : e.marked = some true := by
  rw [ctx_marker h (.inl hr), ctxPrivate_of_private s _ (by simp [isPrivate, hp])]

/-- `UndocumentedSummaryPage.stuff` (since fb55ab8): the entry of a PRIVATE object — and of anything inside
something private — carries the marker -/
theorem private_marked_undocumentedSummary {s : Sys} {e : Emit} (h : e ∈ emits s) (hr : e.row = .undoc)
    (hp : (s.ob e.target).privacy = .priv) : e.marked = some true := by
  rw [ctx_marker h (.inr hr), ctxPrivate_of_private s _ (by simp [isPrivate, hp])]

/-- historical (before fb55ab8): undoccedSummary.html had the "Toggle Private API" button but its entries
carried no marker (`sPlain`: the PRIVATE, undocumented class `m.K`); now the entry is marked. -/
theorem private_marked_undoc_counterexample_old :
    (sPlain.ob 1).privacy = .priv ∧
    ((undocRowsOld sPlain).any fun e => e.target == 1 && e.marked == none) = true ∧
    -- fixed code
    ((emits sPlain).filter fun e => e.row == .undoc && e.target == 1).all (fun e => e.marked == some true) = true := by
  decide +kernel

/-- classIndex.html: the marker of an entry is on the node (`isClassNodePrivate`) or, since 2972983, on the row -/
theorem classIndex_marker {s : Sys} {e : Emit} (h : e ∈ emits s) (hr : e.row = .classIndex) :
    e.marked = some (classRowPrivate s e.target) := by
  have ho := origin_emit h
  simp only [Origin, hr] at ho
  exact ho.2.2

/-- `summary.isClassNodePrivate`: a class-index node is marked only for a class in a private context all of
whose subclasses (visible or not) are marked as well -/
theorem classNodePrivate_sound (s : Sys) : ∀ f c, classNodePrivate s f c = true →
    ctxPrivate s c = true ∧ ∀ sc, sc ∈ (s.ob c).subclasses → ∃ f', classNodePrivate s f' sc = true := by
  intro f
  cases f with
  | zero => intro c h; simp [classNodePrivate] at h
  | succ f =>
    intro c h
    rw [classNodePrivate] at h
    simp only [Bool.and_eq_true, List.all_eq_true] at h
    exact ⟨h.1, fun sc hsc => ⟨f, h.2 sc hsc⟩⟩

/-- since 2972983 the node marker and the row marker together are `summary.isPrivate` of the class: a marked node is
in a private context, and any other class in a private context has its row marked -/
theorem classRowPrivate_eq (s : Sys) (c : Nat) : classRowPrivate s c = ctxPrivate s c := by
  unfold classRowPrivate
  cases hn : classNodePrivate s s.n c
  · simp
  · simp [(classNodePrivate_sound s _ c hn).1]

theorem classRowPrivate_of_ctxPrivate (s : Sys) (c : Nat) (h : ctxPrivate s c = true) : classRowPrivate s c = true :=
  (classRowPrivate_eq s c).trans h

/-- **classIndex.html, full strength since 2972983**: the entry of a PRIVATE class carries the marker, whatever its
subclasses are (before: only when all of them were private, see `private_marked_classIndex_counterexample_old`) -/
theorem private_marked_classIndex {s : Sys} {e : Emit} (h : e ∈ emits s) (hr : e.row = .classIndex)
    (hp : (s.ob e.target).privacy = .priv) : e.marked = some true := by
  rw [classIndex_marker h hr,
    classRowPrivate_of_ctxPrivate s _ (ctxPrivate_of_private s e.target (by simp [isPrivate, hp]))]

/-- `m.py`: `class _B` (PRIVATE by its name) and `class S(_B)` (public) -/
def sPrivateBase : Sys :=
  { objs := #[ mkObj ['m'] .module none .pub [1, 2],
              { mkObj ['_', 'B'] .cls (some 0) .priv [] with mro := [1], subclasses := [2] },
              { mkObj ['S'] .cls (some 0) .pub [] with
                  bases := [some 1], baseNames := [['m', '.', '_', 'B']], mro := [2, 1], sigrefs := [some 1] } ],
    all := [0, 1, 2], roots := [0], depth := 1, nosidebar := false }

/-- before 2972983 the statement was false for classIndex.html: `summary.isClassNodePrivate` marks the `<li>` of a class
only when all its subclasses are private too (the `<li>` also holds their entries); the PRIVATE `m._B` with the public
subclass `m.S` was listed without any marker. Now its row carries it. -/
theorem private_marked_classIndex_counterexample_old :
    wf sPrivateBase = true ∧ (sPrivateBase.ob 1).privacy = .priv ∧
    classNodePrivate sPrivateBase sPrivateBase.n 1 = false ∧
    -- fixed code
    ((emits sPrivateBase).any fun e => e.row == .classIndex && e.target == 1 && e.marked == some true) = true ∧
    ((emits sPrivateBase).all fun e => !(e.row == .classIndex && e.target == 2) || e.marked == some false) = true := by
  decide +kernel

/-! ### what is still false of the current code: the unlinked base nodes of classIndex.html -/

/-- no listed class has a base that is not visible, or an unresolved base expression that expands to the
qualified name of an object that is not visible -/
def noHiddenBaseNames (s : Sys) : Bool :=
  (classes s).all fun c =>
    hasSpace (s.ob c).name || !visible s c ||
      ((s.ob c).baseNames.zip (s.ob c).bases).all fun nb =>
        match nb.2 with
        | some b => visible s b
        | none => (List.range s.n).all fun i => fullName s i != nb.1 || visible s i

def RootsNamed (s : Sys) (r : Roots) : Prop :=
  ∀ kv, kv ∈ r → ∀ l, kv.2 = .many l → ∀ i, i < s.n → fullName s i = kv.1 → visible s i = true

theorem rootStep_named {s : Sys} (w : WF s) (hn : noHiddenBaseNames s = true) {r : Roots} {c : Nat}
    (hcls : c ∈ classes s) (hr : RootsNamed s r) : RootsNamed s (rootStep s r c) := by
  have hself : visible s c = true → ∀ i, i < s.n → fullName s i = fullName s c → visible s i = true :=
    fun hv i hi hf => w.names i c hi (visible_lt hv) hf ▸ hv
  refine rootStep_induct hr (fun hv _ => rset_forall hr fun _ _ => hself hv)
    (fun hv _ _ => rset_forall hr fun _ _ => hself hv)
    fun hc r' nb hnb hb hr' => rset_forall hr' fun _ _ => ?_
  have hall := List.all_eq_true.mp hn c hcls
  simp only [hc.1, hc.2, Bool.not_true, Bool.or_false, Bool.false_or, List.all_eq_true] at hall
  have hnb := hall nb hnb
  cases h2 : nb.2 with
  | some b => simp [h2, hb b h2] at hnb
  | none =>
    rw [h2] at hnb
    intro i hi hf
    simpa [hf] using List.all_eq_true.mp hnb i (List.mem_range.mpr hi)

theorem findRootClasses_named {s : Sys} (w : WF s) (hn : noHiddenBaseNames s = true) :
    RootsNamed s (findRootClasses s) :=
  List.foldlRecOn _ _ (fun _ h => nomatch h) fun _ h _ hc => rootStep_named w hn hc h

/-- **C12, class index root names, under an explicit hypothesis.** The full statement is FALSE of the
current code (`no_trace_texts_counterexample`, known finding `hidden-trace:classindex-root-name`):
`findRootClasses` groups the subclasses of a base that is not visible under an unlinked node showing the
base's qualified name. -/
theorem no_trace_texts_partial {s : Sys} (w : WF s) (hn : noHiddenBaseNames s = true) {nm : Name} {m : Bool}
    (h : (nm, m) ∈ classIndexTexts s) {i : Nat} (hi : i < s.n) (hf : fullName s i = nm) : visible s i = true := by
  unfold classIndexTexts at h
  obtain ⟨kv, hkv, hh⟩ := List.mem_filterMap.mp h
  cases hv : kv.2 with
  | one c => simp [hv] at hh
  | many l =>
    simp only [hv, Option.some.injEq, Prod.mk.injEq] at hh
    exact findRootClasses_named w hn kv hkv l hv i hi (hh.1 ▸ hf)

/-- `class V(_H)` with `_H` hidden: classIndex.html has the unlinked root node `m._H` -/
theorem no_trace_texts_counterexample :
    wf sHidden = true ∧ visible sHidden 1 = false ∧ fullName sHidden 1 = ['m', '.', '_', 'H'] ∧
    (classIndexTexts sHidden).any (fun x => x.1 == ['m', '.', '_', 'H']) = true ∧
    noHiddenBaseNames sHidden = false := by
  decide +kernel

/-- **C12** a file named after an object (`<qualified name>.html`) exists for a visible object only: it is
its page, or the single-root alias symlink, which since a3977d7 is not created for a hidden root -/
theorem no_trace_named_file {s : Sys} (w : WF s) {i : Nat} (hi : i < s.n)
    (h : File.page (fullName s i) ∈ written s) : visible s i = true := by
  rcases (mem_written_iff s _).mp h with h | ⟨p, hp, he⟩ | h
  · rcases mem_summaryFiles.mp h with ⟨x, hx⟩ | ⟨hx, _⟩ <;> cases hx
  · have hpv := visible_of_mem_pages hp
    unfold pageFile at he
    split at he
    · cases he
    · exact w.names p i (visible_lt hpv) hi (File.page.inj he) ▸ hpv
  · -- the alias bears the name of a visible root, which is that root's qualified name
    obtain ⟨r, hr, hrv, _, hf⟩ := mem_aliasFiles h
    have hfull : fullName s r = fullName s i := by
      rw [fullName_of_orphan (w.roots_parent r hr), File.page.inj hf]
    exact w.names r i (w.roots_lt r hr) hi hfull ▸ hrv

/-- historical (between a09aa28 and a3977d7): `writeSummaryPages` created the alias `<root>.html -> index.html`
for a hidden single root too; index.html existed (the IndexPage), so a file named after the hidden root led
somewhere. Now no such file exists. -/
theorem no_trace_alias_counterexample_old :
    wf sSoloHidden = true ∧ visible sSoloHidden 0 = false ∧ fullName sSoloHidden 0 = ['s'] ∧
    (aliasFilesOld sSoloHidden).contains (.page ['s']) = true ∧
    -- fixed code
    (written sSoloHidden).contains (.page ['s']) = false := by
  decide +kernel

/-- non-vacuity: a private class in a public module is listed (and marked) in the module's table, the sidebar, the
search documents -/
example : wf sPlain = true ∧ noHiddenBaseNames sPlain = true ∧ (emits sPlain).all (fun e => visible sPlain e.target) = true ∧
    ((emits sPlain).filter fun e => e.row.listing && e.target == 1).length = 4 ∧
    ((emits sPlain).filter fun e => e.row.listing && e.target == 1).all (fun e => e.marked == some true) = true := by
  decide +kernel
example : visible sHidden 1 = false ∧ pageFile sHidden 1 ∉ written sHidden ∧ (1 : Nat) ∉ searchDocs sHidden := by decide +kernel

end Output
