/-
The family of re-export projects on which the relocated soundness statement of C04 is also checked by evaluation,
and that evaluation.  It rests on the two models alone and has a module of its own because it takes over a minute:
here it builds beside the proof layers of C04, not after them.  `PdProps/C04.lean` states the result as
`Imports.reexport_sound_bounded`.
-/
import PdModel.PyImp

namespace Imports
open Registry

/-- the definer's body: a class with a method and a nested class, and a function -/
def rxDefBody : List Stmt := [.classDef ['K'] [] [.funcDef ['g'], .classDef ['N'] [] [.assign ['v'] 1]], .funcDef ['f']]

/-- a consumer of the definer `dp` / the re-exporter `xp` (new name `nn`): old name + subclass; new name;
module alias to the definer; module alias to the re-exporter; star import from the definer; star import
from the re-exporter; both names side by side -/
def rxConsumer (dp xp : Path) (nn : Name) : Nat → List Stmt
  | 0 => [.importFrom 0 dp ['K'] none, .classDef ['S'] [[['K']]] [.assign ['w'] 2]]
  | 1 => [.importFrom 0 xp nn none, .classDef ['S'] [[nn]] []]
  | 2 => [.importMod dp (some ['m','m']), .classDef ['S'] [[['m','m'], ['K']]] []]
  | 3 => [.importMod xp (some ['m','m']), .classDef ['S'] [[['m','m'], nn]] []]
  | 4 => [.importStar 0 dp, .classDef ['S'] [[['K']]] []]
  | 5 => [.importStar 0 xp]
  | _ => [.importFrom 0 dp ['K'] (some ['Q']), .importFrom 0 xp nn (some ['Q','2']), .importMod dp none,
          .classDef ['S'] [[['Q','2']]] [], .classDef ['T'] [[['Q']]] []]

/-- definer, one re-exporter (a sibling module, or the package `__init__` with a relative import; the
object renamed or not), one consumer; with a topological index -/
def rxProj (pkg renamed : Bool) (form : Nat) : Project × List Nat :=
  let nn : Name := if renamed then ['R'] else ['K']
  let asn : Option Name := if renamed then some ['R'] else none
  if pkg then
    ([⟨[['p']], true, [.importFrom 1 [['_','m']] ['K'] asn, .importFrom 1 [['_','m']] ['f'] (some ['h']), .allAssign [nn]]⟩,
      ⟨[['p'], ['_','m']], false, rxDefBody⟩,
      ⟨[['u','u']], false, rxConsumer [['p'], ['_','m']] [['p']] nn form⟩], [1, 0, 2])
  else
    ([⟨[['d','d']], false, rxDefBody⟩,
      ⟨[['x','x']], false, [.importFrom 0 [['d','d']] ['K'] asn, .importFrom 0 [['d','d']] ['f'] (some ['h']), .allAssign [nn]]⟩,
      ⟨[['u','u']], false, rxConsumer [['d','d']] [['x','x']] nn form⟩], [0, 1, 2])

def rxFamily : List (Project × List Nat) :=
  [true, false].flatMap fun pkg => [true, false].flatMap fun ren => (List.range 7).map fun form => rxProj pkg ren form

/-- (every project of the family is `WFr`, is outside `noReexport`, has a re-export request, and the
search found no violation; number of (processing order, import order, scope, name) cases in which both
sides gave an answer) — `soundViolations` (PdModel/PyImp.lean) tries every dotted name of ≤ 3 components
over the identifiers of the project in every scope -/
def rxFamilyCheck : Bool × Nat :=
  rxFamily.foldl (fun acc pr =>
    let n := pr.1.length
    let r := soundViolations pr.1 (perms (List.range n)) [List.range n, (List.range n).reverse] 2
    (acc.1 && WFr pr.1 pr.2 && !(noReexport pr.1) && !(reexportReqs pr.1).isEmpty && r.1.isEmpty, acc.2 + r.2)) (true, 0)

theorem rxFamilyCheck_eq : rxFamilyCheck = (true, 7704) := by decide +kernel

end Imports
