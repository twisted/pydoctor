/-
C16 — warnings point at the right place; every reported problem is counted.

Theorems over `PdModel.Lineno` (model of `astutils.extract_docstring_linenum`, `inspect.cleandoc`,
`ParseError.linenum`, `reportErrors`, `Field.report`, `get_lineno`, `Documentable.report`,
`System.msg`, the tail of `driver.main`).

Conventions: `sl` is the AST `lineno` of the string literal (≥ 1), `doc` its value.  Line `r` of
`doc.split('\n')` sits on physical line `sl + r` (no backslash-newline, no escapes: the
correspondence check verifies this against `ast.parse` for every generated literal).
-/
import PdModel.Lineno

namespace Lineno

/-! ## character level: `extract_docstring_linenum` -/

theorem pyIsSpace_nl : pyIsSpace '\n' = true := by decide

theorem extractLinenum_shift (n k : Nat) (doc : List Char) :
    extractLinenum (n + k) doc = extractLinenum n doc + k := by
  induction doc generalizing n with
  | nil => rfl
  | cons c cs ih =>
    unfold extractLinenum
    split
    · rw [Nat.add_right_comm, ih]
    · split
      · rfl
      · exact ih n

theorem extractLinenum_ge (n : Nat) (doc : List Char) : n ≤ extractLinenum n doc := by
  have := extractLinenum_shift 0 n doc
  rw [Nat.zero_add] at this
  omega

theorem splitNL_cons_nl (cs : List Char) : splitNL ('\n' :: cs) = [] :: splitNL cs := rfl

theorem splitNL_cons_other (c : Char) (cs : List Char) (h : c ≠ '\n') :
    splitNL (c :: cs) = (c :: (splitNL1 cs).1) :: (splitNL1 cs).2 := by
  simp [splitNL, splitNL1, h]

theorem blank_cons (c : Char) (l : List Char) : blank (c :: l) = (pyIsSpace c && blank l) := rfl

theorem hasText_cons_space (c : Char) (cs : List Char) (h : pyIsSpace c = true) :
    hasText (c :: cs) = hasText cs := by
  simp [hasText, h]

theorem extractLinenum_eq (n : Nat) (doc : List Char) (h : hasText doc = true) :
    extractLinenum n doc = n + ((splitNL doc).takeWhile blank).length := by
  induction doc generalizing n with
  | nil => cases h
  | cons c cs ih =>
    unfold extractLinenum
    by_cases hc : c = '\n'
    · subst hc
      rw [hasText_cons_space _ _ pyIsSpace_nl] at h
      rw [if_pos rfl, ih (n + 1) h, splitNL_cons_nl, List.takeWhile_cons_of_pos rfl, List.length_cons]
      omega
    · rw [if_neg hc, splitNL_cons_other c cs hc]
      cases hs : pyIsSpace c with
      | false => simp [blank_cons, hs]
      | true =>
        rw [hasText_cons_space _ _ hs] at h
        simp only [Bool.not_true, Bool.false_eq_true, if_false, ih n h, splitNL, List.takeWhile_cons,
          blank_cons, hs, Bool.true_and]
        split <;> rfl

theorem all_splitNL (doc : List Char) : doc.all pyIsSpace = (splitNL doc).all blank := by
  induction doc with
  | nil => rfl
  | cons c cs ih =>
    by_cases hc : c = '\n'
    · subst hc
      rw [splitNL_cons_nl, List.all_cons, List.all_cons, ih, pyIsSpace_nl]
      rfl
    · rw [splitNL_cons_other c cs hc]
      simp only [List.all_cons, ih, splitNL, blank_cons, Bool.and_assoc]

theorem hasText_iff (doc : List Char) :
    hasText doc = true ↔ ∃ l ∈ splitNL doc, blank l = false := by
  simp [hasText, all_splitNL]

theorem splitNL_length (doc : List Char) : (splitNL doc).length = newlines doc + 1 := by
  induction doc with
  | nil => rfl
  | cons c cs ih =>
    by_cases hc : c = '\n'
    · subst hc
      rw [splitNL_cons_nl, List.length_cons, ih]
      simp [newlines]
    · rw [splitNL_cons_other c cs hc]
      simpa [newlines, hc, splitNL] using ih

/-! ## `expandtabs` keeps the line structure and the blankness of every line -/

theorem splitNL1_replicate_append (k : Nat) (s : List Char) :
    splitNL1 (List.replicate k ' ' ++ s) = (List.replicate k ' ' ++ (splitNL1 s).1, (splitNL1 s).2) := by
  induction k with
  | zero => rfl
  | succ k ih => simp [List.replicate_succ, splitNL1, ih]

theorem splitNL1_expandtabsFrom (col : Nat) (doc : List Char) :
    splitNL1 (expandtabsFrom col doc) =
      (expandtabsFrom col (splitNL1 doc).1, (splitNL1 doc).2.map (expandtabsFrom 0)) := by
  fun_induction expandtabsFrom col doc with
  | case1 => rfl
  | case2 col cs ih => simp [expandtabsFrom, splitNL1, ih, splitNL1_replicate_append]  -- a tab
  | case3 col c cs ht hn ih =>  -- `'\n'` or `'\r'`
    rcases hn with rfl | rfl <;> simp [expandtabsFrom, splitNL1, ih]
  | case4 col c cs ht hn ih =>  -- any other character
    simp only [not_or] at hn
    simp [expandtabsFrom, splitNL1, ih, ht, hn]

theorem blank_expandtabsFrom (col : Nat) (l : List Char) :
    blank (expandtabsFrom col l) = blank l := by
  fun_induction expandtabsFrom col l with
  | case1 => rfl
  | case2 col cs ih =>
    have h1 : pyIsSpace '\t' = true := by decide
    have h2 : pyIsSpace ' ' = true := by decide
    simp only [blank, List.all_append, List.all_replicate, List.all_cons, h1, h2] at ih ⊢
    simp [ih]
  | case3 _ _ _ _ _ ih | case4 _ _ _ _ _ ih => rw [blank_cons, blank_cons, ih]

theorem blank_comp_expandtabsFrom (col : Nat) : blank ∘ expandtabsFrom col = blank :=
  funext (blank_expandtabsFrom col)

theorem splitNL_expandtabs (doc : List Char) :
    splitNL (expandtabs doc) = (splitNL doc).map (expandtabsFrom 0) := by
  simp [splitNL, expandtabs, splitNL1_expandtabsFrom]

/-! ## `cleandoc`: margin, pops -/

theorem dropWhile_eq_nil_iff {α} (p : α → Bool) (l : List α) :
    l.dropWhile p = [] ↔ l.all p = true := by
  induction l with
  | nil => simp
  | cons c cs ih => cases h : p c <;> simp [h, ih]

theorem lstrip_eq_nil_iff (l : List Char) : lstrip l = [] ↔ blank l = true :=
  dropWhile_eq_nil_iff _ _

theorem lstrip_length_ne_zero_iff (l : List Char) : (lstrip l).length ≠ 0 ↔ blank l = false := by
  rw [Ne, List.length_eq_zero_iff, lstrip_eq_nil_iff, Bool.not_eq_true]

theorem indentOf_lt (l : List Char) (h : blank l = false) : indentOf l < l.length := by
  have h1 := (lstrip_length_ne_zero_iff l).2 h
  have h2 : (lstrip l).length ≤ l.length := (List.dropWhile_sublist _).length_le
  simp only [indentOf]
  omega

theorem marginStep_eq (m : Option Nat) (l : List Char) :
    marginStep m l = if blank l then m else some (m.elim (indentOf l) (min · (indentOf l))) := by
  unfold marginStep
  cases hb : blank l
  · rw [if_pos ((lstrip_length_ne_zero_iff l).2 hb)]
    cases m <;> rfl
  · rw [if_neg (by simp [(lstrip_eq_nil_iff l).2 hb])]
    rfl

theorem foldl_marginStep_eq (tail : List (List Char)) (m0 : Option Nat) :
    tail.foldl marginStep m0 = (m0.toList ++ (tail.filter (!blank ·)).map indentOf).min? := by
  induction tail generalizing m0 with
  | nil => cases m0 <;> rfl
  | cons l ls ih =>
    rw [List.foldl_cons, ih, marginStep_eq]
    cases hb : blank l
    · cases m0 <;> simp [hb, -List.min?_cons, List.min?_cons']
    · simp [hb]

theorem marginOf_eq (tail : List (List Char)) :
    marginOf tail = ((tail.filter (!blank ·)).map indentOf).min? := foldl_marginStep_eq tail none

theorem marginOf_spec (tail : List (List Char)) (h : ∃ l ∈ tail, blank l = false) :
    ∃ k, marginOf tail = some k ∧ ∀ l ∈ tail, blank l = false → k ≤ indentOf l := by
  rw [marginOf_eq]
  cases hk : ((tail.filter (!blank ·)).map indentOf).min? with
  | none =>
    obtain ⟨l, hl, hb⟩ := h
    simp only [List.min?_eq_none_iff, List.map_eq_nil_iff, List.filter_eq_nil_iff] at hk
    exact absurd (hk l hl) (by simp [hb])
  | some k =>
    refine ⟨k, rfl, fun l hl hb => (List.min?_eq_some_iff.1 hk).2 _ ?_⟩
    exact List.mem_map_of_mem (List.mem_filter.2 ⟨hl, by simp [hb]⟩)

theorem popTrailing_cons (l : List Char) (ls : List (List Char)) :
    popTrailing (l :: ls) =
      if (popTrailing ls).isEmpty && l.isEmpty then [] else l :: popTrailing ls := by
  simp only [popTrailing]
  cases popTrailing ls <;> cases l <;> rfl

theorem popTrailing_prefix (ls : List (List Char)) : popTrailing ls <+: ls := by
  induction ls with
  | nil => exact List.prefix_rfl
  | cons l ls ih =>
    rw [popTrailing_cons]
    split
    · exact List.nil_prefix
    · exact (List.prefix_cons_inj l).2 ih

theorem cleandocLines_eq (doc : List Char) :
    cleandocLines doc = (popTrailing (processed doc)).drop (dropped doc) := by
  conv => rhs; arg 2; rw [← List.takeWhile_append_dropWhile (p := (·.isEmpty)) (l := popTrailing _)]
  exact (List.drop_left ..).symm

theorem dedentTail_length (m : Option Nat) (tail : List (List Char)) :
    (dedentTail m tail).length = tail.length := by
  cases m <;> simp [dedentTail]

theorem processed_length (doc : List Char) : (processed doc).length = (splitNL doc).length := by
  simp [processed, expandtabs, splitNL1_expandtabsFrom, dedentTail_length, splitNL]

/-- Line `i` of `cleandoc(doc)` is line `dropped doc + i` of the literal, with its indentation
removed (`processed` maps line for line). -/
theorem cleaned_line_origin (doc : List Char) (i : Nat) (h : i < (cleandocLines doc).length) :
    (cleandocLines doc)[i]? = (processed doc)[dropped doc + i]? := by
  rw [cleandocLines_eq, List.length_drop] at h
  have hlt : dropped doc + i < (popTrailing (processed doc)).length := by omega
  rw [cleandocLines_eq, List.getElem?_drop, List.getElem?_eq_getElem hlt,
    List.prefix_iff_getElem?.1 (popTrailing_prefix _) _ hlt]

theorem cleandocLines_length_le (doc : List Char) :
    dropped doc + (cleandocLines doc).length ≤ (splitNL doc).length := by
  rw [← processed_length, cleandocLines_eq, List.length_drop]
  have h1 : (popTrailing (processed doc)).length ≤ (processed doc).length :=
    (popTrailing_prefix (processed doc)).length_le
  have h2 : dropped doc ≤ (popTrailing (processed doc)).length :=
    (List.takeWhile_sublist _).length_le
  omega

def lead (ls : List (List Char)) : Nat := (ls.takeWhile (·.isEmpty)).length

theorem lead_popTrailing (ls : List (List Char)) (h : lead ls < ls.length) :
    lead (popTrailing ls) = lead ls ∧ lead ls < (popTrailing ls).length := by
  induction ls with
  | nil => simp at h
  | cons l ls ih =>
    rw [popTrailing_cons]
    cases hl : l.isEmpty with
    | false => simp [lead, hl]
    | true =>
      simp only [lead, List.takeWhile_cons, hl, if_true, List.length_cons] at h ih ⊢
      obtain ⟨h1, h2⟩ := ih (by omega)
      have : popTrailing ls ≠ [] := List.ne_nil_of_length_pos (by omega)
      simp [this, hl, h1, h2]

theorem takeWhile_length_lt {α} {p : α → Bool} {l : List α} (h : l.all p = false) :
    (l.takeWhile p).length < l.length := by
  induction l with
  | nil => simp at h
  | cons x xs ih =>
    cases hp : p x with
    | false => simp [hp]
    | true => simpa [hp] using ih (by simpa [hp] using h)

theorem lead_dedent (k : Nat) (et : List (List Char))
    (h1 : ∀ l ∈ et.takeWhile blank, l.length ≤ k)
    (h2 : ∀ l ∈ et, blank l = false → k ≤ indentOf l) :
    lead (et.map (·.drop k)) = (et.takeWhile blank).length := by
  induction et with
  | nil => rfl
  | cons l ls ih =>
    rw [List.forall_mem_cons] at h2
    cases hb : blank l with
    | false =>
      -- a line with text is longer than its indentation: something is left of it
      have := indentOf_lt l hb
      have := h2.1 hb
      have : ¬ l.length ≤ k := by omega
      simp [lead, hb, List.drop_eq_nil_iff, this]
    | true =>
      rw [List.takeWhile_cons_of_pos hb, List.forall_mem_cons] at h1
      simpa [lead, hb, List.drop_eq_nil_iff, h1.1] using ih h1.2 h2.2

/-- `h :: t` are the lines of the tab-expanded text and `hl` is `noOverIndent` unfolded -/
theorem lead_dedented (h : List Char) (t : List (List Char))
    (hl : (!blank h || (t.takeWhile blank).all fun l =>
      match marginOf t with
      | some k => decide (l.length ≤ k)
      | none => l.isEmpty) = true)
    (ht : (h :: t).all blank = false) :
    lead (lstrip h :: dedentTail (marginOf t) t) = ((h :: t).takeWhile blank).length := by
  cases hb : blank h with
  | false =>
    have : lstrip h ≠ [] := fun e => by simp [(lstrip_eq_nil_iff h).1 e] at hb
    simp [lead, hb, this]
  | true =>
    obtain ⟨k, hk, hkle⟩ := marginOf_spec t (by simpa [hb] using ht)
    simp only [hb, hk, Bool.not_true, Bool.false_or, List.all_eq_true, decide_eq_true_eq] at hl
    have := lead_dedent k t hl hkle
    simp only [lead] at this
    simp [lead, hb, hk, dedentTail, (lstrip_eq_nil_iff h).2 hb, this]

theorem dropped_eq (doc : List Char) (hl : noOverIndent doc = true) (ht : hasText doc = true) :
    dropped doc = ((splitNL doc).takeWhile blank).length := by
  have hE := splitNL_expandtabs doc
  have ht' : (splitNL (expandtabs doc)).all blank = false := by
    rw [hE, List.all_map, blank_comp_expandtabsFrom, ← all_splitNL]
    simpa [hasText] using ht
  have hA : lead (processed doc) = ((splitNL (expandtabs doc)).takeWhile blank).length :=
    lead_dedented _ _ hl ht'
  have hlt : lead (processed doc) < (processed doc).length := by
    rw [hA, processed_length]
    exact Nat.lt_of_lt_of_eq (takeWhile_length_lt ht') (by rw [hE, List.length_map])
  rw [dropped, ← lead, (lead_popTrailing _ hlt).1, hA, hE, List.takeWhile_map,
    blank_comp_expandtabsFrom, List.length_map]

/-- **docstring_lineno is the physical line of the cleaned docstring's first line** — under the
layout hypothesis `noOverIndent`.

Full statement (false of the current code, see the counterexample):
  `∀ sl doc, hasText doc → extractLinenum sl doc = sl + dropped doc`. -/
theorem docstring_lineno_correct_partial (sl : Nat) (doc : List Char)
    (hl : noOverIndent doc = true) (ht : hasText doc = true) :
    extractLinenum sl doc = sl + dropped doc := by
  rw [extractLinenum_eq sl doc ht, dropped_eq doc hl ht]

/-- A blank line deeper than the text between the quotes and the text: `cleandoc` keeps it,
`extract_docstring_linenum` skips it.  Literal `"""⏎········⏎····Text"""` on line 2. -/
theorem docstring_lineno_correct_counterexample :
    let doc := "\n        \n    Text".toList
    hasText doc = true ∧ noOverIndent doc = false ∧
      extractLinenum 2 doc = 4 ∧ 2 + dropped doc = 3 ∧
      cleandocLines doc = ["    ".toList, "Text".toList] := by
  -- Test vectors are evaluated by the kernel.  Its `String.toList` on a literal goes through the
  -- UTF-8 bytes and is slow: `String.toList_ofList` hands it the list of characters instead.
  rw [String.toList_ofList, String.toList_ofList, String.toList_ofList]
  decide +kernel

example : noOverIndent "\n    \n\n    Text `x`.\n    ".toList = true ∧
    hasText "\n    \n\n    Text `x`.\n    ".toList = true := by
  rw [String.toList_ofList]
  decide +kernel

/-! ### offsets: from the parser's number to `lineno_offset`

`i` = index (0-based) of the block's first line in the cleaned docstring, `j` = lines between the
block's first line and the construct. -/

theorem reportErrorsOffset_of_nonneg (i : Int) (h : 0 ≤ i) : reportErrorsOffset (some i) = i := by
  have : i + 1 ≠ 0 := by omega
  simp [reportErrorsOffset, parseErrorLinenum, pyOr, this]

/-- the nearest ancestor carries docutils' 1-based line `x + 1`: `get_lineno` takes the 1 off again -/
theorem getLineno_parent (x : Int) (nb : Option Int) (rest : List Anc) (h : 0 ≤ x) :
    getLineno none (⟨some (x + 1), nb⟩ :: rest) = x + nb.getD 0 := by
  have : x + 1 ≠ 0 := by omega
  simp [getLineno, truthy, firstParentLineno, this]

/-- `ParseError(…, token.startline)` → `linenum()` adds 1 → `reportErrors` subtracts it again. -/
theorem offset_correct_epytext_error (i j : Int) (h : 0 ≤ i) :
    constructOffset .epytext .markupError i j = i :=
  reportErrorsOffset_of_nonneg i h

theorem offset_correct_epytext_field (i j : Int) :
    constructOffset .epytext .unknownField i j = i ∧ constructOffset .epytext .badParam i j = i :=
  ⟨rfl, rfl⟩

/-- epytext cross-reference: `get_lineno` returns the paragraph token's `startline` — also when it
is 0 and therefore falsy, because no ancestor carries a line and the walk ends in 0. -/
theorem offset_correct_epytext_xref (i j : Int) : constructOffset .epytext .badXref i j = i := by
  by_cases h : i = 0
  · subst h; rfl
  · simp [constructOffset, constructOffsetB, getLineno, truthy, h]

/-- reStructuredText field: `_SplitFieldsTranslator` stores `node.line - 1`. -/
theorem offset_correct_rst_field (i j : Int) :
    constructOffset .rst .unknownField i j = i ∧ constructOffset .rst .badParam i j = i := by
  simp [constructOffset, constructOffsetB, docutilsBase]

/-- reStructuredText cross-reference: paragraph line − 1 + newlines before the reference = the
line of the reference itself. -/
theorem offset_correct_rst_xref (i j : Int) (h : 0 ≤ i) :
    constructOffset .rst .badXref i j = i + j :=
  getLineno_parent i (some j) [] h

/-- reStructuredText markup error: `_EpydocReader.report` stores docutils' 1-based line in a
`ParseError` whose line is 0-based; the offset is one too large for **every** block.
(google and numpy go through the same reader.) -/
theorem offset_rst_markup_error_plus_one (fmt : Fmt) (hf : fmt ≠ .epytext) (i j : Int) (h : 0 ≤ i) :
    constructOffset fmt .markupError i j = i + 1 := by
  cases fmt
  · exact absurd rfl hf
  all_goals exact reportErrorsOffset_of_nonneg (i + 1) (by omega)

theorem constructOffset_error_eq (base : Int) (fmt : Fmt) (i j : Int) :
    constructOffsetB base fmt .markupError i j = reportErrorsOffset (some (errorStoredLinenum base fmt i)) := by
  cases fmt <;> rfl

theorem constructOffset_field_eq (base : Int) (fmt : Fmt) (i j : Int) :
    constructOffsetB base fmt .unknownField i j = fieldStoredLineno base fmt i ∧
    constructOffsetB base fmt .badParam i j = fieldStoredLineno base fmt i := by
  cases fmt <;> exact ⟨rfl, rfl⟩

/-! ### `Documentable.report` on an object that has a docstring -/

theorem report_docstring (o : Obj) (sec : Sec) (off : Int) (hs : sec = .docstring ∨ sec = .xref)
    (h : o.docstringLineno ≠ 0) : report o sec off = .num (o.docstringLineno + off) := by
  simp [report, hs, pyOr, h]

theorem secOf_doc (c : Cls) : secOf c = .docstring ∨ secOf c = .xref := by
  cases c <;> simp [secOf]

theorem docObj_lineno_ne (sl : Nat) (doc : List Char) (ln : Int) (im : Bool) (hs : 0 < sl) :
    (docObj sl doc ln im).docstringLineno ≠ 0 := by
  have := extractLinenum_ge sl doc
  simp only [docObj]
  omega

theorem report_docObj {sl : Nat} {doc : List Char} {ln : Int} {im : Bool} {sec : Sec} {off : Int}
    (hsec : sec = .docstring ∨ sec = .xref) (hs : 0 < sl) :
    report (docObj sl doc ln im) sec off = .num ((extractLinenum sl doc : Nat) + off) :=
  report_docstring _ _ _ hsec (docObj_lineno_ne sl doc ln im hs)

theorem report_laidOut {sl : Nat} {doc : List Char} {ln : Int} {im : Bool} {sec : Sec} {off n : Int}
    (hsec : sec = .docstring ∨ sec = .xref) (hs : 0 < sl)
    (hl : noOverIndent doc = true) (ht : hasText doc = true)
    (hn : (sl : Int) + (dropped doc : Nat) + off = n) :
    report (docObj sl doc ln im) sec off = .num n := by
  rw [report_docObj hsec hs, docstring_lineno_correct_partial sl doc hl ht, ← hn, Int.natCast_add]

theorem reportedLine_laidOut {fmt : Fmt} {sl : Nat} {doc : List Char} {ln : Int} {im : Bool}
    {cls : Cls} {raw j : Nat} {n : Int} (hs : 0 < sl)
    (hl : noOverIndent doc = true) (ht : hasText doc = true)
    (hn : (sl : Int) + (dropped doc : Nat) +
      constructOffset fmt cls ((raw : Int) - (dropped doc : Nat)) j = n) :
    reportedLine fmt sl doc ln im ⟨cls, raw, j⟩ = .num n :=
  report_laidOut (secOf_doc cls) hs hl ht hn

/-! ### **reported_line_correct**, one theorem per construct class

Full statement wanted: for every literal with text, the reported line is `sl + raw`, the physical
line of the first line of the block holding the problem.  It is false today for every class on
literals with an over-indented leading blank line (`reported_line_correct_counterexample`), hence
the layout hypothesis `noOverIndent`; and false for reStructuredText markup errors on every literal
(`reported_line_correct_rst_error_counterexample`).

`hr : dropped doc ≤ raw` says the block is not one of the blank lines `cleandoc` removed. -/

theorem reported_line_correct_epytext_error_partial (sl : Nat) (doc : List Char) (ln : Int)
    (im : Bool) (raw j : Nat) (hs : 0 < sl) (hl : noOverIndent doc = true) (ht : hasText doc = true)
    (hr : dropped doc ≤ raw) :
    reportedLine .epytext sl doc ln im ⟨.markupError, raw, j⟩ = .num ((sl : Int) + raw) :=
  reportedLine_laidOut hs hl ht (by rw [offset_correct_epytext_error _ _ (by omega)]; omega)

theorem reported_line_correct_field_partial (fmt : Fmt) (cls : Cls) (sl : Nat) (doc : List Char)
    (ln : Int) (im : Bool) (raw j : Nat) (hf : fmt = .epytext ∨ fmt = .rst)
    (hc : cls = .unknownField ∨ cls = .badParam) (hs : 0 < sl)
    (hl : noOverIndent doc = true) (ht : hasText doc = true) :
    reportedLine fmt sl doc ln im ⟨cls, raw, j⟩ = .num ((sl : Int) + raw) := by
  have h : constructOffset fmt cls ((raw : Int) - (dropped doc : Nat)) j
      = (raw : Int) - (dropped doc : Nat) := by
    rcases hf with rfl | rfl <;> rcases hc with rfl | rfl <;>
      simp only [offset_correct_epytext_field, offset_correct_rst_field]
  exact reportedLine_laidOut hs hl ht (by omega)

theorem reported_line_correct_epytext_xref_partial (sl : Nat) (doc : List Char) (ln : Int)
    (im : Bool) (raw j : Nat) (hs : 0 < sl) (hl : noOverIndent doc = true) (ht : hasText doc = true) :
    reportedLine .epytext sl doc ln im ⟨.badXref, raw, j⟩ = .num ((sl : Int) + raw) :=
  reportedLine_laidOut hs hl ht (by rw [offset_correct_epytext_xref]; omega)

/-- reStructuredText cross-reference: the line of the reference itself, not of its block. -/
theorem reported_line_correct_rst_xref_partial (sl : Nat) (doc : List Char) (ln : Int)
    (im : Bool) (raw j : Nat) (hs : 0 < sl) (hl : noOverIndent doc = true) (ht : hasText doc = true)
    (hr : dropped doc ≤ raw) :
    reportedLine .rst sl doc ln im ⟨.badXref, raw, j⟩ = .num ((sl : Int) + raw + j) :=
  reportedLine_laidOut hs hl ht (by rw [offset_correct_rst_xref _ _ (by omega)]; omega)

/-- reStructuredText markup error: right **only if docutils counted lines from 0** (`base = 0`),
which it does not (`docutilsBase = 1`; the `reports` correspondence stream confirms the 1). -/
theorem reported_line_correct_rst_error_partial (base : Int) (hb : base = 0) (sl : Nat)
    (doc : List Char) (ln : Int) (im : Bool) (raw j : Nat) (hs : 0 < sl)
    (hl : noOverIndent doc = true) (ht : hasText doc = true) (hr : dropped doc ≤ raw) :
    reportedLineB base .rst sl doc ln im ⟨.markupError, raw, j⟩ = .num ((sl : Int) + raw) := by
  subst hb
  refine report_laidOut (Or.inl rfl) hs hl ht ?_
  show _ + reportErrorsOffset (some ((raw : Int) - (dropped doc : Nat) + 0)) = _
  rw [Int.add_zero, reportErrorsOffset_of_nonneg _ (by omega)]
  omega

/-- with the real convention the line is one too high on every well laid out literal -/
theorem reported_line_rst_error_plus_one (sl : Nat) (doc : List Char) (ln : Int) (im : Bool)
    (raw j : Nat) (hs : 0 < sl) (hl : noOverIndent doc = true) (ht : hasText doc = true)
    (hr : dropped doc ≤ raw) :
    reportedLine .rst sl doc ln im ⟨.markupError, raw, j⟩ = .num ((sl : Int) + raw + 1) :=
  reportedLine_laidOut hs hl ht
    (by rw [offset_rst_markup_error_plus_one .rst (by decide) _ _ (by omega)]; omega)

/-- `def f():⏎    """⏎    Text *oops⏎    """`: literal on line 2, paragraph on line 3 (raw 1),
reported on line 4. -/
theorem reported_line_correct_rst_error_counterexample :
    let doc := "\n    Text *oops\n    ".toList
    noOverIndent doc = true ∧ hasText doc = true ∧
      reportedLine .rst 2 doc 1 false ⟨.markupError, 1, 0⟩ = .num 4 ∧
      reportedLine .rst 2 doc 1 false ⟨.badXref, 1, 0⟩ = .num 3 := by
  rw [String.toList_ofList]
  decide +kernel

/-- over-indented leading blank line: every class is one line too high (epytext cross-reference on
raw line 2 = physical line 4, reported on line 5; unknown field on raw line 3 = physical line 5,
reported on line 6). -/
theorem reported_line_correct_counterexample :
    let doc := "\n        \n    Text L{x}.\n    @foo: bar\n    ".toList
    noOverIndent doc = false ∧
      reportedLine .epytext 2 doc 1 false ⟨.badXref, 2, 0⟩ = .num 5 ∧
      reportedLine .epytext 2 doc 1 false ⟨.unknownField, 3, 0⟩ = .num 6 := by
  rw [String.toList_ofList]
  decide +kernel

-- non-vacuity of the hypotheses of the `_partial` theorems
example : let doc := "  Summary `x`.\n\n    - item *oops\n      more\n\n    :foo: bar\n    ".toList
    noOverIndent doc = true ∧ hasText doc = true ∧ dropped doc ≤ 2 ∧
      reportedLine .rst 7 doc 6 false ⟨.unknownField, 5, 0⟩ = .num 12 := by
  rw [String.toList_ofList]
  decide +kernel

/-! ### inherited docstrings: the report stays with the docstring -/

/-- **inherited_report_in_source**: when an object without docstring shows the docstring written
on `source`, every problem is reported in `source`'s file, on the line computed from `source`'s
`docstring_lineno` — independent of the inheriting object (its file, its `linenumber`). -/
theorem inherited_report_in_source (source obj : Located) (sec : Sec) (off : Int) :
    reportInherited source obj sec off = (source.file, report source.obj sec off) := rfl

theorem inherited_report_independent (source obj obj' : Located) (sec : Sec) (off : Int) :
    reportInherited source obj sec off = reportInherited source obj' sec off := rfl

/-- with the layout hypothesis, the physical line of the block in the file that contains the
docstring (field classes; the other classes compose the same way) -/
theorem inherited_field_line_correct_partial (fmt : Fmt) (cls : Cls) (sl : Nat) (doc : List Char)
    (source obj : Located) (raw j : Nat) (hf : fmt = .epytext ∨ fmt = .rst)
    (hc : cls = .unknownField ∨ cls = .badParam) (hs : 0 < sl)
    (hl : noOverIndent doc = true) (ht : hasText doc = true) :
    reportedAt fmt sl doc source obj ⟨cls, raw, j⟩ = (source.file, .num ((sl : Int) + raw)) :=
  congrArg (Prod.mk source.file) (reported_line_correct_field_partial fmt cls sl doc
    source.obj.linenumber source.obj.isModule raw j hf hc hs hl ht)

/-- reporting on the inheriting object instead would name another place as soon as the two objects are in different
files (that much is stated; its line would come from its own `def` when it has no docstring — not stated here) -/
theorem report_on_inheriting_object_wrong (source obj : Located) (off : Int)
    (hf : obj.file ≠ source.file) :
    (obj.file, report obj.obj .docstring off) ≠ reportInherited source obj .docstring off :=
  fun h => hf (congrArg Prod.fst h)

example : reportedAt .epytext 5 "\n Text L{x}".toList ⟨1, ⟨0, 4, false⟩⟩ ⟨2, ⟨0, 12, false⟩⟩
    ⟨.badXref, 1, 0⟩ = (1, .num 6) := by
  rw [String.toList_ofList]
  decide +kernel

/-! ### moved (re-exported) objects -/

/-- **report_invariant_under_move**: a re-export (`reparent`) changes neither the file nor the
line of any report about the object — both come from what was recorded at creation (`reparent` of the model writes
`moduleFile` only: the statement documents the model, the oracle ties it). -/
theorem report_invariant_under_move (p : Placed) (newModuleFile : Nat) (sec : Sec) (off : Int) :
    reportPlaced (p.reparent newModuleFile) sec off = reportPlaced p sec off := rfl

/-- using the current module's file instead would name another file for an object moved out of its source file -/
theorem report_by_current_module_wrong (p : Placed) (f : Nat) (sec : Sec) (off : Int)
    (h : f ≠ p.srcFile) :
    ((p.reparent f).moduleFile, report p.obj sec off) ≠ reportPlaced (p.reparent f) sec off :=
  fun e => h (congrArg Prod.fst e)

example : reportPlaced ((⟨1, 1, ⟨5, 3, false⟩⟩ : Placed).reparent 2) .docstring 2 = (1, .num 7) := by decide +kernel

/-! ### reStructuredText fields through the three callers of `_add_field` -/

/-- plain fields, bullet entries and definition-list entries of consolidated fields all get the
0-based line of their first line: each caller passes docutils' 1-based line, `_add_field` takes 1 off -/
theorem consolidated_field_line_correct (c : FieldCaller) (i : Int) :
    rstFieldLineno docutilsBase c i = i := by
  cases c <;> simp [rstFieldLineno, addFieldLineno, callerLine, docutilsBase]

/-- hence a bad parameter documented by such an entry is reported on the entry's first line -/
theorem reported_line_correct_consolidated_partial (c : FieldCaller) (sl : Nat) (doc : List Char)
    (ln : Int) (im : Bool) (raw : Nat) (hs : 0 < sl) (hl : noOverIndent doc = true)
    (ht : hasText doc = true) :
    report (docObj sl doc ln im) .docstring
      (rstFieldLineno docutilsBase c ((raw : Int) - (dropped doc : Nat))) = .num ((sl : Int) + raw) :=
  report_laidOut (Or.inl rfl) hs hl ht (by rw [consolidated_field_line_correct]; omega)

/-- a cross-reference in a definition-list *classifier* is reported on the entry's line — holds
since pydoctor c88d52b -/
theorem classifier_xref_line_correct_partial (sl : Nat) (doc : List Char) (ln : Int) (im : Bool)
    (raw : Nat) (hs : 0 < sl) (hl : noOverIndent doc = true) (ht : hasText doc = true)
    (hr : dropped doc ≤ raw) :
    report (docObj sl doc ln im) .xref
      (classifierXrefOffset docutilsBase ((raw : Int) - (dropped doc : Nat))) = .num ((sl : Int) + raw) := by
  refine report_laidOut (Or.inr rfl) hs hl ht ?_
  show _ + getLineno none [⟨some ((raw : Int) - (dropped doc : Nat) + 1), none⟩] = _
  rw [getLineno_parent _ _ _ (by omega), Option.getD_none]
  omega

example : let doc := "\n    Sum.\n\n    :Parameters:\n      a : `T`\n        text\n    ".toList
    report (docObj 2 doc 1 false) .xref (classifierXrefOffset docutilsBase (4 - (dropped doc : Nat))) = .num 6 := by
  rw [String.toList_ofList]
  decide +kernel

/-- historical (before c88d52b): offset 0, i.e. the docstring's first line wherever the entry is -/
theorem classifier_xref_on_first_line_old (sl : Nat) (doc : List Char) (ln : Int) (im : Bool) (hs : 0 < sl) :
    report (docObj sl doc ln im) .xref classifierXrefOffsetOld = .num (extractLinenum sl doc : Nat) :=
  (report_docObj (Or.inr rfl) hs).trans (congrArg Line.num (Int.add_zero _))

/-- historical witness: entry ``a : `T` `` on raw line 4 (physical 6) was reported on line 3 -/
theorem classifier_xref_old_counterexample :
    let doc := "\n    Sum.\n\n    :Parameters:\n      a : `T`\n        text\n    ".toList
    noOverIndent doc = true ∧
      report (docObj 2 doc 1 false) .xref classifierXrefOffsetOld = .num 3 ∧ (2 : Int) + 4 ≠ 3 := by
  rw [String.toList_ofList]
  decide +kernel

/-! ### **shift** -/

/-- Moving the definition down by `k` lines (string literal on `sl + k`, whatever happens to the
object's own `linenumber`) moves every reported line by exactly `k` — every format, class, layout. -/
theorem shift (fmt : Fmt) (sl k : Nat) (doc : List Char) (ln ln' : Int) (im : Bool) (c : Construct)
    (hs : 0 < sl) :
    ∃ n, reportedLine fmt sl doc ln im c = .num n ∧
      reportedLine fmt (sl + k) doc ln' im c = .num (n + k) := by
  refine ⟨_, report_docObj (secOf_doc _) hs, (report_docObj (secOf_doc _) (by omega)).trans ?_⟩
  rw [extractLinenum_shift, Int.natCast_add, Int.add_right_comm]

/-- `shift` at the level of `Documentable.report`, for any offset a parser produced -/
theorem report_shift (o : Obj) (sec : Sec) (off k : Int) (hs : sec = .docstring ∨ sec = .xref)
    (h : o.docstringLineno ≠ 0) (hk : o.docstringLineno + k ≠ 0) :
    ∃ n, report o sec off = .num n ∧
      report { o with docstringLineno := o.docstringLineno + k, linenumber := o.linenumber + k } sec off
        = .num (n + k) :=
  ⟨_, report_docstring o sec off hs h,
    (report_docstring _ _ _ hs hk).trans (congrArg Line.num (Int.add_right_comm ..))⟩

example : ∃ n, reportedLine .epytext 3 "\n  T L{x}".toList 2 false ⟨.badXref, 1, 0⟩ = .num n ∧
    reportedLine .epytext (3 + 5) "\n  T L{x}".toList 7 false ⟨.badXref, 1, 0⟩ = .num (n + 5) :=
  shift _ _ _ _ _ _ _ _ (by decide)

/-! ### **converted_formats_in_range** (google, numpy)

pydoctor adds the line index *in the text napoleon produced* to `docstring_lineno`; nothing maps it
back or clamps it.  Full statement wanted: for every offset the parsers can produce the reported
line lies on a line of the literal.  What holds: it does when the offset is smaller than the
number of lines of the cleaned docstring — an assumption about napoleon which is false as soon as a
section expands (`:param x:` + `:type x:` per documented parameter). -/
theorem converted_formats_in_range_partial (sl : Nat) (doc : List Char) (ln : Int) (im : Bool)
    (sec : Sec) (off : Int) (hsec : sec = .docstring ∨ sec = .xref) (hs : 0 < sl)
    (hl : noOverIndent doc = true) (ht : hasText doc = true)
    (h0 : 0 ≤ off) (hoff : off < (cleandocLines doc).length) :
    inSpan sl doc (report (docObj sl doc ln im) sec off) = true := by
  have h1 := cleandocLines_length_le doc
  rw [splitNL_length] at h1
  rw [report_laidOut hsec hs hl ht rfl]
  simp only [inSpan, Bool.and_eq_true, decide_eq_true_eq]
  omega

/-- on a literal on lines 2–7 whose cleaned docstring has 4 lines, offset 6 is reported on line 9,
past the closing quotes.  The offset is put in by hand: napoleon turns this docstring into 4 lines;
a converted text longer than the written one needs a section that expands
(`napoleon_google_overflow_iff`). -/
theorem converted_formats_in_range_counterexample :
    let doc := "\nParameters\n----------\na: int\nb: int\n".toList
    noOverIndent doc = true ∧ hasText doc = true ∧ (cleandocLines doc).length = 4 ∧
      report (docObj 2 doc 1 false) .docstring 6 = .num 9 ∧
      inSpan 2 doc (report (docObj 2 doc 1 false) .docstring 6) = false := by
  rw [String.toList_ofList]
  decide +kernel

example : inSpan 2 "\nParameters\n----------\na: int\nb: int\n".toList
    (report (docObj 2 "\nParameters\n----------\na: int\nb: int\n".toList 1 false) .docstring 3) = true := by
  rw [String.toList_ofList]
  decide +kernel

/-! ### **every_report_counted**, **exit_status** -/

theorem msg_violations (s : Sys) (sec m : Nat) (th top : Int) (once : Bool) :
    (s.msg sec m th top once).violations =
      s.violations + (if once && s.onceMsgs.contains (sec, m) then 0 else if th < 0 then 1 else 0) := by
  unfold Sys.msg
  cases once && s.onceMsgs.contains (sec, m)
  · simp only [Bool.false_eq_true, if_false]
    split <;> rfl
  · rfl

theorem msg_parseErrors (s : Sys) (sec m : Nat) (th top : Int) (once : Bool) :
    (s.msg sec m th top once).parseErrors = s.parseErrors := by
  unfold Sys.msg
  cases once && s.onceMsgs.contains (sec, m) <;> rfl

/-- **every_report_counted**: each `Documentable.report` (default threshold) adds exactly one to
`System.violations`, whatever the verbosity. -/
theorem every_report_counted (s : Sys) (sec m : Nat) :
    (s.report sec m).violations = s.violations + 1 := by
  simp [Sys.report, msg_violations]

/-- a message with a negative threshold that got printed was counted -/
theorem printed_is_counted (s : Sys) (sec m : Nat) (th top : Int) (once : Bool) (hth : th < 0)
    (hp : (s.msg sec m th top once).printed = s.printed + 1) :
    (s.msg sec m th top once).violations = s.violations + 1 := by
  rw [msg_violations]
  split
  · next h1 =>
    -- a message suppressed by `once` prints nothing
    unfold Sys.msg at hp
    rw [if_pos h1] at hp
    omega
  · rfl

theorem reportN_violations (s : Sys) (sec : Nat) (ms : List Nat) :
    (s.reportN sec ms).violations = s.violations + ms.length := by
  induction ms generalizing s with
  | nil => rfl
  | cons m ms ih => rw [Sys.reportN, ih, every_report_counted, List.length_cons]; omega

theorem reportN_parseErrors (s : Sys) (sec : Nat) (ms : List Nat) :
    (s.reportN sec ms).parseErrors = s.parseErrors := by
  induction ms generalizing s with
  | nil => rfl
  | cons m ms ih => rw [Sys.reportN, ih, Sys.report, msg_parseErrors]

theorem any_touch (k : Nat) (pe : List (Nat × List Nat)) :
    (touch k pe).any (fun p => !p.2.isEmpty) = pe.any (fun p => !p.2.isEmpty) := by
  unfold touch
  cases lookup k pe <;> simp

/-- system states a run can reach: start, messages, `reportErrors` -/
inductive Reachable : Sys → Prop
  | init (v : Int) : Reachable { verbosity := v }
  | msg {s} (sec m : Nat) (th top : Int) (once : Bool) : Reachable s → Reachable (s.msg sec m th top once)
  | reportErrors {s} (sec obj : Nat) (errs : List Nat) (phase name : Nat) :
      Reachable s → Reachable (s.reportErrors sec obj errs phase name)

theorem reachable_parse_errors_counted (s : Sys) (h : Reachable s) :
    anyParseErrors s = true → 0 < s.violations := by
  induction h with
  | init v => simp [anyParseErrors]
  | msg sec m th top once _ ih =>
    intro hp
    simp only [anyParseErrors, msg_parseErrors] at hp
    have := ih hp
    rw [msg_violations]; omega
  | @reportErrors s sec obj errs phase name _ ih =>
    fun_cases Sys.reportErrors s sec obj errs phase name with
    | case1 he => exact ih
    | case2 he s1 hr =>
      -- reported before: only the key is created
      exact fun hp => ih ((any_touch _ _).symm.trans hp)
    | case3 he s1 hr =>
      intro _
      rw [reportN_violations]
      exact Nat.add_pos_right _ (List.length_pos_iff.2 (by simpa using he))

theorem summary_violations (s : Sys) (n : Nat) : (s.summary n).violations = s.violations + n := by
  induction n generalizing s with
  | zero => rfl
  | succ n ih => rw [Sys.summary, ih, msg_violations]; simp; omega

theorem lookup_any (k : Nat) (pe : List (Nat × List Nat))
    (h : ((lookup k pe).getD []).isEmpty = false) : pe.any (fun p => !p.2.isEmpty) = true := by
  fun_induction lookup k pe with
  | case1 => cases h
  | case2 v rest => simp [show v.isEmpty = false from h]
  | case3 k' v rest hk ih => simp [ih h]

theorem docstringErrors_any (s : Sys)
    (h : ((lookup secDocstring (touch secDocstring s.parseErrors)).getD []).isEmpty = false) :
    anyParseErrors s = true :=
  (any_touch _ _).symm.trans (lookup_any _ _ h)

theorem mainTail_fst (s : Sys) (w : Bool) :
    (mainTail s w).1 =
      if w = true ∧ (0 < s.violations ∨
          ((lookup secDocstring (touch secDocstring s.parseErrors)).getD []).isEmpty = false) then 3
      else if anyParseErrors s = true then 2 else 0 := by
  have hany : anyParseErrors { s with parseErrors := touch secDocstring s.parseErrors } = anyParseErrors s :=
    any_touch _ _
  unfold mainTail
  simp only [hany, apply_ite Prod.fst, apply_ite Prod.snd, apply_ite Sys.violations, summary_violations]
  cases hd : ((lookup secDocstring (touch secDocstring s.parseErrors)).getD []).isEmpty with
  | false =>
    -- the summary lines are violations themselves
    have := docstringErrors_any s hd
    cases w <;> simp [this]
  | true => cases anyParseErrors s <;> cases w <;> simp [Nat.pos_iff_ne_zero]

theorem exit_code_cases {x : Nat} {p q : Prop} [Decidable p] [Decidable q]
    (h : x = if p then 3 else if q then 2 else 0) :
    (x = 3 ↔ p) ∧ (x = 2 ↔ ¬p ∧ q) ∧ (x = 0 ↔ ¬p ∧ ¬q) := by
  subst h
  by_cases hp : p <;> by_cases hq : q <;> simp [hp, hq]

/-- `driver.main`, for **any** system state: the summary lines are themselves counted, so with
`-W` a non-empty `parse_errors['docstring']` alone already gives 3. -/
theorem exit_status_raw (s : Sys) (w : Bool) :
    let dse := ((lookup secDocstring (touch secDocstring s.parseErrors)).getD [])
    ((mainTail s w).1 = 3 ↔ (w = true ∧ (0 < s.violations ∨ dse.isEmpty = false))) ∧
    ((mainTail s w).1 = 2 ↔ (¬(w = true ∧ (0 < s.violations ∨ dse.isEmpty = false)) ∧ anyParseErrors s = true)) ∧
    ((mainTail s w).1 = 0 ↔ (¬(w = true ∧ 0 < s.violations) ∧ anyParseErrors s = false)) := by
  obtain ⟨h3, h2, h0⟩ := exit_code_cases (mainTail_fst s w)
  refine ⟨h3, h2, h0.trans ?_⟩
  rw [Bool.not_eq_true]
  -- without parse errors `parse_errors['docstring']` is empty: the second disjunct drops
  exact and_congr_left fun ha => not_congr (and_congr_right fun _ => or_iff_left fun hd =>
    Bool.false_ne_true (ha.symm.trans (docstringErrors_any s hd)))

/-- **exit_status** for the states a run reaches: with `--warnings-as-errors` the status is 3
exactly when at least one problem was counted; otherwise it is 2 exactly when some docstring or
displayed expression could not be parsed, and 0 otherwise.  (The summary printed by `main` is
counted too; it cannot change the equivalence because `parse_errors` is only filled together
with a counted report.) -/
theorem exit_status (s : Sys) (w : Bool) (h : Reachable s) :
    ((mainTail s w).1 = 3 ↔ (w = true ∧ 0 < s.violations)) ∧
    ((mainTail s w).1 = 2 ↔ (¬(w = true ∧ 0 < s.violations) ∧ anyParseErrors s = true)) ∧
    ((mainTail s w).1 = 0 ↔ (¬(w = true ∧ 0 < s.violations) ∧ anyParseErrors s = false)) := by
  obtain ⟨h3, h2, h0⟩ := exit_status_raw s w
  rw [or_iff_left_of_imp fun hd => reachable_parse_errors_counted s h (docstringErrors_any s hd)] at h3 h2
  exact ⟨h3, h2, h0⟩

-- non-vacuity: a reachable state with a parse error; the three outcomes
example : Reachable (({ verbosity := 0 } : Sys).reportErrors 0 7 [1, 2]) :=
  .reportErrors 0 7 [1, 2] 0 7 (.init 0)
example : (mainTail (({ verbosity := 0 } : Sys).reportErrors 0 7 [1, 2]) true).1 = 3 ∧
    (mainTail (({ verbosity := 0 } : Sys).reportErrors 0 7 [1, 2]) false).1 = 2 ∧
    (mainTail (({ verbosity := 0 } : Sys).report 3 1) false).1 = 0 ∧
    (mainTail (({ verbosity := 0 } : Sys).report 3 1) true).1 = 3 ∧
    (mainTail ({ verbosity := 0 } : Sys) true).1 = 0 := by decide +kernel

/-! ### string literals as written: exact divergence of `extract_docstring_linenum`'s approximation -/

theorem phys_vs_value (ps : List Piece) : physNls ps + escNls ps = valNls ps + conts ps := by
  induction ps with
  | nil => rfl
  | cons p ps ih =>
    have h : p.physNl + (if p = .escNl then 1 else 0) = p.valNl + (if p = .cont then 1 else 0) := by
      cases p <;> rfl
    simp only [physNls, escNls, valNls, conts, List.map_cons, List.sum_cons,
      ← List.countP_eq_length_filter, List.countP_cons, decide_eq_true_eq] at ih ⊢
    omega

theorem valueOf_newlines (ps : List Piece) (h : ∀ c, Piece.ch c ∈ ps → c ≠ '\n') :
    newlines (valueOf ps) = valNls ps := by
  induction ps with
  | nil => rfl
  | cons p ps ih =>
    have ih' := ih (fun c hc => h c (List.mem_cons_of_mem _ hc))
    simp only [newlines, valueOf, valNls, List.flatMap_cons, List.filter_append, List.length_append,
      List.map_cons, List.sum_cons] at ih' ⊢
    rw [ih']
    cases p with
    | ch c => simp [Piece.value, Piece.valNl, h c (by simp)]
    | _ => rfl

/-- **literal_line_divergence**: the physical line of any position of a literal, against the line
`sl + (newlines of the value before it)` that pydoctor's arithmetic uses: they differ by exactly
(continuation breaks before the position) − (`\n` escapes before it). -/
theorem literal_line_divergence (sl : Nat) (ps : List Piece) (k : Nat) :
    physLineAt sl ps k + escNls (ps.take k) = sl + valueLineAt ps k + conts (ps.take k) := by
  have := phys_vs_value (ps.take k)
  simp only [physLineAt, valueLineAt]
  omega

theorem literal_line_exact (sl : Nat) (ps : List Piece) (k : Nat)
    (h1 : conts (ps.take k) = 0) (h2 : escNls (ps.take k) = 0) :
    physLineAt sl ps k = sl + valueLineAt ps k := by
  have := literal_line_divergence sl ps k
  omega

/-- `"""a\⏎b⏎X"""` on line 3: `X` is on physical line 5, on value line 1 (3 + 1 = 4). -/
theorem literal_line_continuation_counterexample :
    let ps := [Piece.ch 'a', .cont, .ch 'b', .nl, .ch 'X']
    valueOf ps = "ab\nX".toList ∧ physLineAt 3 ps 4 = 5 ∧ 3 + valueLineAt ps 4 = 4 := by
  rw [String.toList_ofList]
  decide +kernel

/-! ### `get_lineno` with the rawsource search -/

theorem findSub_some (needle : List Char) (hay : List Char) (i : Nat)
    (h : findSub needle hay = some i) : needle.isPrefixOf (hay.drop i) = true := by
  fun_induction findSub needle hay generalizing i with
  | case1 he => cases h; simpa using he
  | case2 => cases h
  | case3 c cs hp => cases h; exact hp
  | case4 c cs hp ih =>
    obtain ⟨j, hj, rfl⟩ := Option.map_eq_some_iff.1 h
    exact ih j hj

/-- `offset_correct_rst_xref` with docutils' data: `j` is the number of newlines before the first
occurrence of the reference's rawsource in the paragraph's -/
theorem rst_xref_offset_raw (i : Int) (h : 0 ≤ i) (ref para : List Char) (idx : Nat)
    (hr : ref ≠ []) (hp : para ≠ []) (hf : findSub ref para = some idx) :
    getLinenoRaw none ref [⟨some (i + 1), para⟩] = i + (newlines (para.take idx) : Nat) := by
  show getLineno none [⟨some (i + 1), _⟩] = _
  rw [getLineno_parent _ _ _ h]
  simp [hf, hr, hp]

example : getLinenoRaw none "`x`".toList [⟨some 3, "a b\nc `x` d".toList⟩] = 3 := by
  rw [String.toList_ofList, String.toList_ofList]
  decide +kernel

/-! ### `--process-types`: type-field warnings -/

/-- `append_warnings(…, lineno=field.lineno+1)`: the offset is the field's line **plus one**.
Full statement wanted: `typeWarningOffset i = i`. -/
theorem type_warning_one_low (i : Int) (h : 0 ≤ i) : typeWarningOffset i = i + 1 :=
  reportErrorsOffset_of_nonneg (i + 1) (by omega)

/-- `@type a: list(str` on raw line 3 (physical 5) of a literal on line 2: reported on line 6 -/
theorem type_warning_counterexample :
    let doc := "\n    S.\n\n    @type a: list(str\n    ".toList
    noOverIndent doc = true ∧
      report (docObj 2 doc 1 false) .docstring
        (typeWarningOffset (fieldStoredLineno docutilsBase .epytext ((3 : Int) - (dropped doc : Nat)))) = .num 6 := by
  rw [String.toList_ofList]
  decide +kernel

/-! ### an attribute documented by a class field and / or by its own docstring -/

/-- only `@ivar x:` in the class docstring -/
theorem attr_field_only_correct (classDl f off : Int) :
    let a := ({} : AttrDoc).extractField classDl f
    a.rendersField = true ∧ a.xrefLine classDl off = classDl + off :=
  ⟨rfl, rfl⟩

/-- only its own docstring -/
theorem attr_own_only_correct (classDl dl off : Int) :
    let a := ({} : AttrDoc).setDocstring dl
    a.rendersField = false ∧ a.xrefLine classDl off = dl + off :=
  ⟨rfl, rfl⟩

/-- both: the *field's* text is rendered but located with the *own* docstring's line.
Full statement wanted: `a.xrefLine classDl off = classDl + off`; it holds only when the two
docstrings start on the same line (they never do). -/
theorem attr_both_partial (classDl f dl off : Int) :
    let a := (({} : AttrDoc).extractField classDl f).setDocstring dl
    a.rendersField = true ∧ a.xrefLine classDl off = dl + off ∧
      (a.xrefLine classDl off = classDl + off ↔ dl = classDl) :=
  ⟨rfl, rfl, Int.add_left_inj off⟩

/-- class docstring from line 3 with `@ivar x: L{zq}` on its line 2 (physical 5), inline docstring
of `x` from line 11: `zq` is reported on line 13 -/
theorem attr_both_counterexample :
    ((({} : AttrDoc).extractField 3 2).setDocstring 11).xrefLine 3 2 = 13 ∧ (3 : Int) + 2 = 5 := by decide +kernel

/-! ### napoleon parameter sections: the converted line against the written line -/

theorem sum_out (numpy : Bool) (c : Nat) (es : List Entry)
    (h : ∀ e ∈ es, e.outLines numpy + c = e.inLines numpy + if e.typed then 1 else 0) :
    (es.map (Entry.outLines numpy)).sum + c * es.length =
      (es.map (Entry.inLines numpy)).sum + typedCount es := by
  induction es with
  | nil => rfl
  | cons e es ih =>
    have h1 := h e (by simp)
    have h2 := ih (fun x hx => h x (List.mem_cons_of_mem _ hx))
    simp only [List.map_cons, List.sum_cons, typedCount, ← List.countP_eq_length_filter,
      List.countP_cons, List.length_cons, Nat.mul_succ] at h2 ⊢
    omega

theorem sum_out_google (es : List Entry) :
    (es.map (Entry.outLines false)).sum = (es.map (Entry.inLines false)).sum + typedCount es := by
  have := sum_out false 0 es (fun _ _ => rfl)
  rwa [Nat.zero_mul] at this

/-- google: `:param name:` of entry `k` sits `(typed entries before it) − 1` lines below the line
the entry is written on (the header line disappears, every earlier type adds a line) -/
theorem napoleon_param_divergence_google (hdr : Nat) (es : List Entry) (k : Nat) :
    paramOutLine false hdr es k + 1 = entryInLine false hdr es k + typedCount (es.take k) := by
  simp only [paramOutLine, entryInLine, headerLines, sum_out_google, Bool.false_eq_true, if_false]
  omega

/-- google, section at the end of the docstring: the converted text is `typedCount − 1` lines
longer than the written one; with two typed entries a report can leave the docstring. -/
theorem napoleon_google_overflow_iff (hdr : Nat) (es : List Entry) :
    hdr + (es.map (Entry.outLines false)).sum > hdr + 1 + (es.map (Entry.inLines false)).sum ↔
      2 ≤ typedCount es := by
  rw [sum_out_google]; omega

/-- numpy (every entry has a description): `:param` of entry `k` is `2 + k − typedBefore` lines
*above* the line the entry is written on -/
theorem napoleon_param_divergence_numpy (hdr : Nat) (es : List Entry) (k : Nat) (hk : k ≤ es.length)
    (h : ∀ e ∈ es, 1 ≤ e.extra) :
    paramOutLine true hdr es k + 2 + k = entryInLine true hdr es k + typedCount (es.take k) := by
  -- the description moves up beside the name: an entry that has one loses a line
  have := sum_out true 1 (es.take k) fun e he => by
    show max e.extra 1 + _ + 1 = 1 + e.extra + _
    rw [Nat.max_eq_left (h e (List.mem_of_mem_take he))]
    omega
  rw [Nat.one_mul, List.length_take, Nat.min_eq_left hk] at this
  simp only [paramOutLine, entryInLine, headerLines, if_true]
  omega

example : paramOutLine false 5 [⟨true, 1⟩, ⟨false, 0⟩, ⟨true, 0⟩] 2 = 9 ∧
    entryInLine false 5 [⟨true, 1⟩, ⟨false, 0⟩, ⟨true, 0⟩] 2 = 9 ∧
    typeOutLine false 5 [⟨true, 1⟩, ⟨false, 0⟩, ⟨true, 0⟩] 2 = 10 := by decide +kernel

/-- google / numpy: the offset pydoctor uses for a nonexistent parameter is the line of `:param`
in the converted text -/
theorem converted_param_offset (numpy : Bool) (hdr : Nat) (es : List Entry) (k : Nat) :
    convertedParamOffset numpy hdr es k = (paramOutLine numpy hdr es k : Nat) :=
  Int.add_sub_cancel _ 1

theorem google_param_reported_vs_written (hdr : Nat) (es : List Entry) (k : Nat) :
    convertedParamOffset false hdr es k + 1 = (entryInLine false hdr es k : Nat) + (typedCount (es.take k) : Nat) := by
  have := napoleon_param_divergence_google hdr es k
  rw [converted_param_offset]
  omega

/-- google: the warning for entry `k` is on the line the entry is written on **iff exactly one
entry before it is typed**; otherwise it is `typedBefore − 1` lines off (one line high for the
first entries, low after the second typed one). -/
theorem google_param_line_correct_iff (hdr : Nat) (es : List Entry) (k : Nat) :
    convertedParamOffset false hdr es k = (entryInLine false hdr es k : Nat) ↔ typedCount (es.take k) = 1 := by
  have := google_param_reported_vs_written hdr es k
  omega

/-! ### `obj.__doc__ = "…"` -/

/-- **doc_assignment_line_correct** (full; holds since pydoctor af7dc4e): a problem in the text
assigned by a string literal is reported on a line of that literal — whatever docstring or line the
definition had. -/
theorem doc_assignment_line_correct (o : Obj) (sec : Sec) (off : Int) (sl : Nat) (v : List Char)
    (hs : sec = .docstring ∨ sec = .xref) (h0 : 0 < sl) :
    reportAfterDocAssignment o sl v sec off = .num ((extractLinenum sl v : Nat) + off) :=
  report_docObj (ln := o.linenumber) (im := o.isModule) hs h0

/-- with the layout hypothesis this is the physical line of the block (field classes; the other
classes compose the same way) -/
theorem doc_assignment_field_line_correct_partial (o : Obj) (sl raw : Nat) (v : List Char) (h0 : 0 < sl)
    (hl : noOverIndent v = true) (ht : hasText v = true) :
    reportAfterDocAssignment o sl v .docstring ((raw : Int) - (dropped v : Nat)) = .num ((sl : Int) + raw) :=
  report_laidOut (ln := o.linenumber) (im := o.isModule) (Or.inl rfl) h0 hl ht (by omega)

example : reportAfterDocAssignment ⟨3, 1, false⟩ 12 "\n    New doc.\n\n    Text L{zq1}.\n    ".toList .xref 2 = .num 15 := by
  rw [String.toList_ofList]
  decide +kernel

/-- historical (before af7dc4e): the assignment left the line base alone -/
theorem doc_assignment_keeps_old_base_old (o : Obj) (sec : Sec) (off : Int) :
    reportAfterDocAssignmentOld o sec off = report o sec off := rfl

/-- historical witness: `def f` with a docstring from line 3; the literal assigned to `f.__doc__` on
line 12 has `zq1` on physical line 15 (offset 2): it was reported on line 5. -/
theorem doc_assignment_old_counterexample :
    let v := "\n    New doc.\n\n    Text L{zq1}.\n    ".toList
    reportAfterDocAssignmentOld ⟨3, 1, false⟩ .xref 2 = .num 5 ∧ extractLinenum 12 v + 2 = 15 := by
  intro v
  -- rewriting under the `let` would have the kernel compare the two sums by evaluating the literal
  have hv : v = _ := String.toList_ofList
  rw [hv]
  decide +kernel

/-! ### docutils' `splitlines()` line structure -/

theorem filter_blankExtraBreaks (l : List Char) : ((blankExtraBreaks l).filter isExtraBreak).length = 0 := by
  rw [List.length_eq_zero_iff, List.filter_eq_nil_iff]
  intro c hc
  obtain ⟨c', _, rfl⟩ := List.mem_map.1 hc
  split
  · decide
  · assumption

theorem sum_take_map_zero (f : List Char → Nat) (ls : List (List Char)) (k : Nat) (h : ∀ l ∈ ls, f l = 0) :
    ((ls.take k).map f).sum = 0 := by
  rw [List.sum_eq_zero_iff_forall_eq_nat]
  intro n hn
  obtain ⟨l, hl, rfl⟩ := List.mem_map.1 hn
  exact h l (List.mem_of_mem_take hl)

theorem shiftLine_zero (l : Line) : shiftLine l 0 = l := by
  cases l <;> simp [shiftLine]

/-- the cleaned docstring has no carriage return (a fortiori no lone one) -/
def noCR (doc : List Char) : Bool := (cleandocLines doc).all fun l => (l.filter (· = '\r')).length == 0

/-- epytext splits on `'\n'` only: what pydoctor prints is `reportedLine`, for every docstring.
(The stream `reports` exercises this with every `splitlines()` boundary inside epytext docstrings.) -/
theorem reportedLineS_epytext (sl : Nat) (doc : List Char) (ln : Int) (im : Bool) (c : Construct) :
    reportedLineS .epytext sl doc ln im c = reportedLine .epytext sl doc ln im c :=
  shiftLine_zero _

/-- **reportedLineS_eq_partial** (reStructuredText).  Since ce72216 the extra `splitlines()`
boundaries U+001C–1E, U+0085, U+2028, U+2029 are blanked before docutils sees the text; a lone
`'\r'` is not, and docutils breaks the line there.  Full statement wanted: no hypothesis. -/
theorem reportedLineS_eq_partial (sl : Nat) (doc : List Char) (ln : Int) (im : Bool) (c : Construct)
    (h : noCR doc = true) :
    reportedLineS .rst sl doc ln im c = reportedLine .rst sl doc ln im c := by
  have hz : extraBreaksIn ((cleandocLines doc).map blankExtraBreaks) (c.raw - dropped doc) = 0 :=
    sum_take_map_zero _ _ _ (List.forall_mem_map.2 fun l _ => filter_blankExtraBreaks l)
  have hc : loneCRsIn (cleandocLines doc) (c.raw - dropped doc) = 0 :=
    sum_take_map_zero _ _ _ fun l hl => by
      have h0 : (l.filter (· = '\r')).length = 0 := by simpa using List.all_eq_true.1 h l hl
      simp [loneCRs, h0]
  simp only [reportedLineS, lineShift, hz, hc]
  exact shiftLine_zero _

/-- `"""⏎    a\rb⏎⏎    :f: x⏎    """` (the escape `\r` in a non-raw literal) on line 2: the field
on physical line 5 is reported on line 6 in reStructuredText, on 5 in epytext. -/
theorem reportedLineS_lone_cr_counterexample :
    let doc := "\n    a\rb\n\n    :f: x\n    ".toList
    noCR doc = false ∧ noOverIndent doc = true ∧
      reportedLineS .rst 2 doc 1 false ⟨.unknownField, 3, 0⟩ = .num 6 ∧
      reportedLine .rst 2 doc 1 false ⟨.unknownField, 3, 0⟩ = .num 5 ∧
      reportedLineS .epytext 2 doc 1 false ⟨.unknownField, 3, 0⟩ = .num 5 := by
  rw [String.toList_ofList]
  decide +kernel

def noExtraBreaksClean (doc : List Char) : Bool :=
  (cleandocLines doc).all fun l => (l.filter isExtraBreak).length == 0

/-- historical (before ce72216): equality only for docstrings without such characters -/
theorem reportedLineSOld_eq_partial (fmt : Fmt) (sl : Nat) (doc : List Char) (ln : Int) (im : Bool)
    (c : Construct) (h : noExtraBreaksClean doc = true) :
    reportedLineSOld fmt sl doc ln im c = reportedLine fmt sl doc ln im c := by
  have hz : extraBreaksBefore doc (c.raw - dropped doc) = 0 :=
    sum_take_map_zero _ _ _ fun l hl => by simpa using List.all_eq_true.1 h l hl
  simp only [reportedLineSOld, hz, Int.natCast_zero, ite_self]
  exact shiftLine_zero _

/-- `"""⏎    a<U+2028>b⏎⏎    :f: x⏎    """` on line 2: the field on physical line 5 was reported on
line 6 in reStructuredText; since ce72216 on 5. -/
theorem reportedLineSOld_counterexample :
    let doc := ['\n', ' ', ' ', ' ', ' ', 'a', Char.ofNat 0x2028, 'b', '\n', '\n', ' ', ' ', ' ', ' ', ':', 'f', ':', ' ', 'x', '\n', ' ', ' ', ' ', ' ']
    noExtraBreaksClean doc = false ∧ noOverIndent doc = true ∧
      reportedLineSOld .rst 2 doc 1 false ⟨.unknownField, 3, 0⟩ = .num 6 ∧
      reportedLineS .rst 2 doc 1 false ⟨.unknownField, 3, 0⟩ = .num 5 ∧
      reportedLine .rst 2 doc 1 false ⟨.unknownField, 3, 0⟩ = .num 5 := by decide +kernel

/-! ### `versionadded` / `versionchanged` / `deprecated`: a reference in the directive's argument -/

/-- Full statement wanted: the offset is `i`, the directive's line.  It is the line after the
directive block instead (when the text goes on after the block). -/
theorem version_arg_xref_offset (i span n : Int) (hi : 0 ≤ i) (hs : 0 ≤ span) (hn : i + span + 1 ≤ n - 1) :
    versionArgXrefOffset i span n 0 = i + span + 1 := by
  rw [versionArgXrefOffset, Int.min_eq_left hn, getLineno_parent _ _ _ (by omega),
    Option.getD_some, Int.add_zero]

/-- right only when the directive is the last line of the docstring -/
theorem version_arg_xref_partial (i n : Int) (hi : 0 ≤ i) (hn : n = i + 1) :
    versionArgXrefOffset i 0 n 0 = i := by
  subst hn
  rw [versionArgXrefOffset, Int.min_eq_right (by omega), getLineno_parent _ _ _ (by omega)]
  simp

/-- directive on cleaned line 2 with a body of 6 further lines, 11 lines in all: offset 9 -/
theorem version_arg_xref_counterexample : versionArgXrefOffset 2 6 11 0 = 9 := by decide +kernel

/-! ### reST section titles -/

/-- the underline's line, not the title's (`i`): full statement wanted `= i + j` -/
theorem section_title_xref_offset (i j : Int) (hi : 0 ≤ i) :
    sectionTitleXrefOffset docutilsBase i j = i + 1 + j :=
  getLineno_parent (i + 1) (some j) [] (by omega)

/-- **toc_does_not_report** (holds since fcb5e8a): rendering the table of contents reports nothing,
however many references its titles hold — by the definition of `tocReports`, which has `reporting_obj = None` built
in (`tocReportingObj`); what ties that to the code is the oracle -/
theorem toc_does_not_report (titleRefs : List Int) : tocReports titleRefs = [] := rfl

/-- historical (before fcb5e8a): a second report with offset 0, the docstring's first line -/
theorem toc_xref_offset_old : tocXrefOffsetOld = 0 := by decide +kernel

theorem section_title_counterexample :
    sectionTitleXrefOffset docutilsBase 4 0 = 5 := by decide +kernel

end Lineno
