import PdModel.Config
import PdProps.Codec
/-!
# C20 — options mean the same on the command line and in a config file; quoted strings survive

Theorems over `PdModel/Config.lean` (model of `pydoctor/_configparser.py`, of configargparse's merge of
config-file items into the argument vector, and of the CPython pieces they call).

Quoting: the recognisers behind `is_quoted` are treated for any escaping function whose outputs are units of the
regular expressions (`IsUnit`), the tokenizer and decoder for `esc1`/`escChar`; `quote_roundtrip_of_units` /
`quote3_roundtrip_of_units` put the two together.  INI path: the value pipeline of today (`iniValue`); the one before
/repo commit d27392d (`iniValueOld interp`) agrees with it wherever the interpolation step leaves the text alone
(`iniValueOld_eq`), with `BasicInterpolation` on the `%`-free texts.  Merge (any option table): what an item converts to (`convertItem_spec`), where a file's arguments go
(`mergeFile_spec`) and what an option then sees (`occurrences_insert`) give the precedence theorems.
Theorems named `_old_` are about the code before a fix commit and keep its counterexample.
-/
namespace Config

/-! ## The escaping functions: the cases of `escChar`, the characters a quoted form is written with -/

def IsQ (q : Char) : Prop := q = '"' ∨ q = '\''

theorem IsQ.quoteChar {q : Char} (hq : IsQ q) : isQuoteChar q = true := by rcases hq with rfl | rfl <;> decide

theorem IsQ.ne_of_not_quoteChar {q c : Char} (hq : IsQ q) (hc : isQuoteChar c = false) : c ≠ q := by
  rintro rfl
  rw [hq.quoteChar] at hc
  cases hc

theorem IsQ.zero_ne {q : Char} (hq : IsQ q) : ('0' : Char) ≠ q := hq.ne_of_not_quoteChar rfl

theorem escChar_spec (q c : Char) :
    (escChar q c = [c] ∧ c ≠ '\\' ∧ c ≠ q ∧ c ≠ '\r' ∧ c ≠ Char.ofNat 0) ∨
    (escChar q c = ['\\', '\\'] ∧ c = '\\') ∨
    (escChar q c = ['\\', q] ∧ c = q) ∨
    (escChar q c = ['\\', 'r'] ∧ c = '\r') ∨
    (escChar q c = ['\\', 'x', '0', '0'] ∧ c = Char.ofNat 0) := by
  fun_cases escChar q c
  · exact .inr (.inl ⟨rfl, ‹_›⟩)
  · exact .inr (.inr (.inl ⟨rfl, ‹_›⟩))
  · exact .inr (.inr (.inr (.inl ⟨rfl, ‹_›⟩)))
  · exact .inr (.inr (.inr (.inr ⟨rfl, ‹_›⟩)))
  · exact .inl ⟨rfl, ‹_›, ‹_›, ‹_›, ‹_›⟩

def escAlphabet (q : Char) : Str := ['\\', q, 'n', 'r', 'x', '0']

/-- what a character of a quoted form of `s` can be -/
def FromQuoting (q : Char) (s : Str) (x : Char) : Prop :=
  (x ∈ s ∧ x ≠ '\r' ∧ x ≠ Char.ofNat 0) ∨ x ∈ escAlphabet q

theorem fromQuoting_escChar (q c x : Char) (hx : x ∈ escChar q c) : FromQuoting q [c] x := by
  rcases escChar_spec q c with ⟨h, -, -, h3, h4⟩ | ⟨h, -⟩ | ⟨h, -⟩ | ⟨h, -⟩ | ⟨h, -⟩ <;> rw [h] at hx
  · exact .inl ⟨hx, List.mem_singleton.mp hx ▸ ⟨h3, h4⟩⟩
  all_goals
    refine .inr ?_
    simp only [List.mem_cons, List.mem_nil_iff, or_false] at hx
    rcases hx with rfl | rfl | rfl | rfl <;> simp [escAlphabet]

theorem fromQuoting_esc1 (q c x : Char) (hx : x ∈ esc1 q c) : FromQuoting q [c] x := by
  unfold esc1 at hx
  split at hx
  · exact .inr (by rcases List.mem_cons.mp hx with rfl | hx <;> simp_all [escAlphabet])
  · exact fromQuoting_escChar q c x hx

theorem fromQuoting_wrap (q : Char) (f : Char → Str) (hf : ∀ c x, x ∈ f c → FromQuoting q [c] x) (n : Nat) (s : Str)
    (x : Char) (hx : x ∈ List.replicate n q ++ (s.flatMap f ++ List.replicate n q)) : FromQuoting q s x := by
  have hq : q ∈ escAlphabet q := by simp [escAlphabet]
  simp only [List.mem_append, List.mem_flatMap] at hx
  rcases hx with h | ⟨c, hc, hxc⟩ | h
  · exact .inr (List.eq_of_mem_replicate h ▸ hq)
  · rcases hf c x hxc with ⟨h1, h2⟩ | h'
    · exact .inl ⟨List.mem_singleton.mp h1 ▸ hc, h2⟩
    · exact .inr h'
  · exact .inr (List.eq_of_mem_replicate h ▸ hq)

theorem fromQuoting_quote1 (q : Char) (s : Str) (x : Char) (hx : x ∈ quote1 q s) : FromQuoting q s x :=
  fromQuoting_wrap q _ (fromQuoting_esc1 q) 1 s x hx

theorem fromQuoting_quote3 (q : Char) (s : Str) (x : Char) (hx : x ∈ quote3 q s) : FromQuoting q s x :=
  fromQuoting_wrap q _ (fromQuoting_escChar q) 3 s x hx

theorem FromQuoting.clean {q : Char} {s : Str} {x : Char} (hq : IsQ q) (h : FromQuoting q s x) :
    x ≠ '\r' ∧ x ≠ Char.ofNat 0 := by
  rcases h with h | h
  · exact h.2
  · revert x; rcases hq with rfl | rfl <;> decide

theorem FromQuoting.not_percent {q : Char} {s : Str} (hq : IsQ q) (hs : '%' ∉ s) : ¬ FromQuoting q s '%' := by
  rintro (h | h)
  · exact hs h.1
  · revert h; rcases hq with rfl | rfl <;> decide

/-! ## The recognisers accept the quoted forms

Proved for any escaping function whose outputs are "units" of a quoted body, so that the forms with a NUL left
raw (`esc1R`/`escCharR`, readable since /repo commit cada0b1) are covered with `esc1`/`escChar`. -/

def IsUnit (q : Char) (u : Str) : Prop :=
  (∃ c, u = [c] ∧ c ≠ '\\' ∧ c ≠ q) ∨ (∃ d, u = ['\\', d] ∧ d ≠ '\n') ∨ u = ['\\', 'x', '0', '0']

theorem isUnit_escChar (q c : Char) (hq : IsQ q) : IsUnit q (escChar q c) := by
  rcases escChar_spec q c with ⟨h, h1, h2, -⟩ | ⟨h, -⟩ | ⟨h, -⟩ | ⟨h, -⟩ | ⟨h, -⟩ <;> rw [h]
  · exact .inl ⟨c, rfl, h1, h2⟩
  · exact .inr (.inl ⟨_, rfl, by decide⟩)
  · exact .inr (.inl ⟨_, rfl, (hq.ne_of_not_quoteChar rfl).symm⟩)
  · exact .inr (.inl ⟨_, rfl, by decide⟩)
  · exact .inr (.inr rfl)

theorem isUnit_esc1 (q c : Char) (hq : IsQ q) : IsUnit q (esc1 q c) := by
  unfold esc1; split
  · exact .inr (.inl ⟨_, rfl, by decide⟩)
  · exact isUnit_escChar q c hq

theorem isUnit_nul (q : Char) (hq : IsQ q) : IsUnit q [Char.ofNat 0] :=
  .inl ⟨_, rfl, by decide, hq.ne_of_not_quoteChar rfl⟩

theorem isUnit_esc1R (q c : Char) (hq : IsQ q) : IsUnit q (esc1R q c) := by
  unfold esc1R; split
  · next h => exact h ▸ isUnit_nul q hq
  · exact isUnit_esc1 q c hq

theorem isUnit_escCharR (q c : Char) (hq : IsQ q) : IsUnit q (escCharR q c) := by
  unfold escCharR; split
  · next h => exact h ▸ isUnit_nul q hq
  · exact isUnit_escChar q c hq

theorem singleBody_plain (q c : Char) (rest : Str) (h1 : c ≠ '\\') (h2 : c ≠ q) :
    singleBody q (c :: rest) = singleBody q rest := by
  rw [singleBody.eq_def]; simp [h1, h2]

theorem singleBody_pair (q d : Char) (rest : Str) (h : d ≠ '\n') :
    singleBody q ('\\' :: d :: rest) = singleBody q rest := by
  rw [singleBody.eq_def]; simp [h]

theorem singleBody_unit (q : Char) (hq : IsQ q) (u rest : Str) (hu : IsUnit q u) :
    singleBody q (u ++ rest) = singleBody q rest := by
  rcases hu with ⟨x, rfl, h1, h2⟩ | ⟨d, rfl, hd⟩ | rfl
  · exact singleBody_plain q x rest h1 h2
  · exact singleBody_pair q d rest hd
  · exact (singleBody_pair q 'x' _ (by decide)).trans
      ((singleBody_plain q '0' _ (by decide) hq.zero_ne).trans (singleBody_plain q '0' _ (by decide) hq.zero_ne))

theorem singleBody_units (q : Char) (hq : IsQ q) (f : Char → Str) (hf : ∀ c, IsUnit q (f c)) (s : Str) :
    singleBody q (s.flatMap f ++ [q]) = true :=
  (List.flatMap_append_transparent (singleBody q) (fun c _ r => singleBody_unit q hq _ r (hf c)) [q]).trans
    (by rcases hq with rfl | rfl <;> rfl)

theorem isQuoted_single (q : Char) (hq : IsQ q) (f : Char → Str) (hf : ∀ c, IsUnit q (f c)) (s : Str)
    (triple : Bool) : isQuoted triple (q :: (s.flatMap f ++ [q])) = true := by
  have h := singleBody_units q hq f hf s
  rcases hq with rfl | rfl <;> simp [isQuoted, matchSingle, h]

theorem hasTripleQ_cons_ne (q c : Char) (X : Str) (h : c ≠ q) : hasTripleQ q (c :: X) = hasTripleQ q X := by
  rw [hasTripleQ.eq_def]; simp [h]

theorem hasTripleQ_q_cons (q : Char) (X : Str) (h : X.head? ≠ some q) :
    hasTripleQ q (q :: X) = hasTripleQ q X := by
  rw [hasTripleQ.eq_def]
  cases X with
  | nil => simp
  | cons b r =>
    have hb : b ≠ q := by simpa using h
    cases r <;> simp [hb]

theorem hasTripleQ_of_not_mem (q : Char) (t : Str) (ht : ∀ x ∈ t, x ≠ q) : hasTripleQ q t = false := by
  induction t with
  | nil => rfl
  | cons x t ih =>
    rw [hasTripleQ_cons_ne q x t (ht x (by simp))]
    exact ih fun y hy => ht y (by simp [hy])

theorem head?_unit (q : Char) (hq : IsQ q) (u X : Str) (hu : IsUnit q u) : (u ++ X).head? ≠ some q := by
  have hbs : ('\\' : Char) ≠ q := hq.ne_of_not_quoteChar rfl
  rcases hu with ⟨x, rfl, -, h2⟩ | ⟨d, rfl, -⟩ | rfl
  · simpa using h2
  · simpa using hbs
  · simpa using hbs

/-- `hX` is needed: the unit may be `\q` -/
theorem hasTripleQ_unit (q : Char) (hq : IsQ q) (u X : Str) (hu : IsUnit q u) (hX : X.head? ≠ some q) :
    hasTripleQ q (u ++ X) = hasTripleQ q X := by
  have hbs : ('\\' : Char) ≠ q := hq.ne_of_not_quoteChar rfl
  have hx : ('x' : Char) ≠ q := hq.ne_of_not_quoteChar rfl
  rcases hu with ⟨x, rfl, -, h2⟩ | ⟨d, rfl, -⟩ | rfl
  · exact hasTripleQ_cons_ne q x X h2
  · rw [List.cons_append, hasTripleQ_cons_ne q _ _ hbs]
    by_cases hd : d = q
    · rw [hd]; exact hasTripleQ_q_cons q X hX
    · exact hasTripleQ_cons_ne q d X hd
  · simp only [List.cons_append, List.nil_append]
    rw [hasTripleQ_cons_ne q _ _ hbs, hasTripleQ_cons_ne q _ _ hx,
      hasTripleQ_cons_ne q _ _ hq.zero_ne, hasTripleQ_cons_ne q _ _ hq.zero_ne]

theorem hasTripleQ_units (q : Char) (hq : IsQ q) (f : Char → Str) (hf : ∀ c, IsUnit q (f c)) (s t : Str)
    (ht : ∀ x ∈ t, x ≠ q) : hasTripleQ q (s.flatMap f ++ t) = false :=
  -- carried along: what follows a unit does not begin with the quote character
  (List.flatMap_induct (R := fun _ r => hasTripleQ q r = false ∧ r.head? ≠ some q) s
    ⟨hasTripleQ_of_not_mem q t ht, fun h => ht q (List.mem_of_mem_head? h) rfl⟩
    fun c _ _ r ih => ⟨(hasTripleQ_unit q hq _ r (hf c) ih.2).trans ih.1, head?_unit q hq _ r (hf c)⟩).1

theorem tripleInner_units (q : Char) (hq : IsQ q) (f : Char → Str) (hf : ∀ c, IsUnit q (f c)) (s : Str)
    (hs : s ≠ []) : tripleInner q (s.flatMap f) = true := by
  obtain ⟨s', c, rfl⟩ : ∃ s' c, s = s' ++ [c] := ⟨s.dropLast, s.getLast hs, (List.dropLast_concat_getLast hs).symm⟩
  have h0 := hasTripleQ_units q hq f hf s' [] (by simp)
  simp only [List.append_nil] at h0
  simp only [List.flatMap_append, List.flatMap_cons, List.flatMap_nil, List.append_nil]
  unfold tripleInner
  rcases hf c with ⟨x, h, h1, h2⟩ | ⟨d, h, -⟩ | h <;> rw [h]
  · simp [h1, h2, h0]
  · simp [h0]
  · have h1 := hasTripleQ_units q hq f hf s' ['\\', 'x', '0'] (by rcases hq with rfl | rfl <;> decide)
    simp [h1, hq.zero_ne]

theorem matchTriple_wrap (q : Char) (hq : IsQ q) (body : Str) (h : tripleInner q body = true) :
    matchTriple q (q :: q :: q :: (body ++ [q, q, q])) = true := by
  have hq' : q ≠ '\n' := (hq.ne_of_not_quoteChar rfl).symm
  have hd : dropFinalNl (q :: q :: q :: (body ++ [q, q, q])) = q :: q :: q :: (body ++ [q, q, q]) := by
    unfold dropFinalNl
    simp only [List.reverse_cons, List.reverse_append, List.reverse_nil, List.nil_append, List.cons_append,
      List.append_assoc]
    split
    · next r heq => simp at heq; exact absurd heq.1 hq'
    · rfl
  have hs : stripTriple q (q :: q :: q :: (body ++ [q, q, q])) = some body := by simp [stripTriple]
  simp [matchTriple, hd, hs, h]

theorem matchTriple_units (q : Char) (hq : IsQ q) (f : Char → Str) (hf : ∀ c, IsUnit q (f c)) (s : Str)
    (hs : s ≠ []) : matchTriple q (q :: q :: q :: (s.flatMap f ++ [q, q, q])) = true :=
  matchTriple_wrap q hq _ (tripleInner_units q hq f hf s hs)

theorem isQuoted_triple (q : Char) (hq : IsQ q) (f : Char → Str) (hf : ∀ c, IsUnit q (f c)) (s : Str) :
    isQuoted true (q :: q :: q :: (s.flatMap f ++ [q, q, q])) = true := by
  by_cases hs : s = []
  · -- the six-quote text is not matched by the regular expression: `isEmptyTriple` (since /repo commit 65e15f6)
    subst hs
    show isQuoted true [q, q, q, q, q, q] = true
    rcases hq with rfl | rfl <;> decide +kernel
  · have h := matchTriple_units q hq f hf s hs
    rcases hq with rfl | rfl <;> simp [isQuoted, h]

/-! ## The tokenizer reads the quoted forms back -/

theorem scanSingle_plain (q c : Char) (rest : Str) (h1 : c ≠ '\\') (h2 : c ≠ q) (h3 : c ≠ '\n') :
    scanSingle q (c :: rest) = (scanSingle q rest).map fun p => (c :: p.1, p.2) := by
  rw [scanSingle.eq_def]; simp [h1, h2, h3]

theorem scanSingle_pair (q d : Char) (rest : Str) :
    scanSingle q ('\\' :: d :: rest) = (scanSingle q rest).map fun p => ('\\' :: d :: p.1, p.2) := by
  rw [scanSingle.eq_def]; simp

theorem scanSingle_esc1 (q : Char) (hq : IsQ q) (c : Char) (rest : Str) :
    scanSingle q (esc1 q c ++ rest) = (scanSingle q rest).map fun p => (esc1 q c ++ p.1, p.2) := by
  unfold esc1
  split
  · simp [scanSingle_pair]
  next hn =>
  rcases escChar_spec q c with ⟨h, h1, h2, -, -⟩ | ⟨h, -⟩ | ⟨h, -⟩ | ⟨h, -⟩ | ⟨h, -⟩ <;> rw [h]
  · simp [scanSingle_plain q c _ h1 h2 hn]
  iterate 3 simp [scanSingle_pair]
  simp [scanSingle_pair, scanSingle_plain q '0' _ (by decide) hq.zero_ne (by decide), Function.comp_def]

theorem scanSingle_quote (q : Char) (hq : IsQ q) (s tail : Str) :
    scanSingle q (s.flatMap (esc1 q) ++ q :: tail) = some (s.flatMap (esc1 q), tail) :=
  List.flatMap_induct (R := fun l r => scanSingle q r = some (l.flatMap (esc1 q), tail)) s
    (by rcases hq with rfl | rfl <;> (rw [scanSingle.eq_def]; simp))
    fun c _ _ r ih => by rw [scanSingle_esc1 q hq, ih]; rfl

theorem scanTriple_plain (q c : Char) (rest : Str) (h1 : c ≠ '\\') (h2 : c ≠ q) :
    scanTriple q (c :: rest) = (scanTriple q rest).map fun p => (c :: p.1, p.2) := by
  rw [scanTriple.eq_def]; simp [h1, h2]

theorem scanTriple_pair (q d : Char) (rest : Str) :
    scanTriple q ('\\' :: d :: rest) = (scanTriple q rest).map fun p => ('\\' :: d :: p.1, p.2) := by
  rw [scanTriple.eq_def]; simp

theorem scanTriple_escChar (q : Char) (hq : IsQ q) (c : Char) (rest : Str) :
    scanTriple q (escChar q c ++ rest) = (scanTriple q rest).map fun p => (escChar q c ++ p.1, p.2) := by
  rcases escChar_spec q c with ⟨h, h1, h2, -, -⟩ | ⟨h, -⟩ | ⟨h, -⟩ | ⟨h, -⟩ | ⟨h, -⟩ <;> rw [h]
  · simp [scanTriple_plain q c _ h1 h2]
  iterate 3 simp [scanTriple_pair]
  simp [scanTriple_pair, scanTriple_plain q '0' _ (by decide) hq.zero_ne, Function.comp_def]

theorem scanTriple_quote (q : Char) (hq : IsQ q) (s tail : Str) :
    scanTriple q (s.flatMap (escChar q) ++ q :: q :: q :: tail) = some (s.flatMap (escChar q), tail) :=
  List.flatMap_induct (R := fun l r => scanTriple q r = some (l.flatMap (escChar q), tail)) s
    (by rcases hq with rfl | rfl <;> (rw [scanTriple.eq_def]; simp))
    fun c _ _ r ih => by rw [scanTriple_escChar q hq, ih]; rfl

theorem scanLiteral_single (q : Char) (hq : IsQ q) (rest : Str) (h : ∀ r, rest ≠ q :: q :: r) :
    scanLiteral (q :: rest) = scanSingle q rest := by
  rw [scanLiteral.eq_def]
  simp only [hq.quoteChar, if_true]
  split
  · next c2 c3 r =>
    have : ¬ (c2 = q ∧ c3 = q) := fun ⟨h2, h3⟩ => h r (by rw [h2, h3])
    simp [this]
  · rfl

theorem scanLiteral_quote1 (q : Char) (hq : IsQ q) (s tail : Str) (ht : tail.head? ≠ some q) :
    scanLiteral (quote1 q s ++ tail) = some (s.flatMap (esc1 q), tail) := by
  simp only [quote1, List.cons_append, List.append_assoc, List.nil_append]
  rw [scanLiteral_single q hq _ ?_, scanSingle_quote q hq]
  intro r hr
  cases s with
  | nil => exact ht (by simp at hr; simp [hr])
  | cons c s =>
    rw [List.flatMap_cons, List.append_assoc] at hr
    exact head?_unit q hq _ _ (isUnit_esc1 q c hq) (by rw [hr]; rfl)

theorem scanLiteral_quote3 (q : Char) (hq : IsQ q) (s : Str) :
    scanLiteral (quote3 q s) = some (s.flatMap (escChar q), []) := by
  unfold quote3
  rw [scanLiteral.eq_def]
  simp [hq.quoteChar, scanTriple_quote q hq s []]

theorem decodeEsc_escChar (q c : Char) (hq : IsQ q) (rest : Str) :
    decodeEsc (escChar q c ++ rest) = (decodeEsc rest).cons c := by
  rcases escChar_spec q c with ⟨h, h1, -, -, -⟩ | ⟨h, rfl⟩ | ⟨h, rfl⟩ | ⟨h, rfl⟩ | ⟨h, rfl⟩ <;> rw [h]
  · rw [List.singleton_append, decodeEsc.eq_def]; simp [h1]
  · rw [decodeEsc.eq_def]; simp
  · rcases hq with rfl | rfl <;> (rw [decodeEsc.eq_def]; simp)
  all_goals (rw [decodeEsc.eq_def]; simp [hexVal])

theorem decodeEsc_esc1 (q c : Char) (hq : IsQ q) (rest : Str) :
    decodeEsc (esc1 q c ++ rest) = (decodeEsc rest).cons c := by
  unfold esc1; split
  · next h => rw [h, decodeEsc.eq_def]; simp
  · exact decodeEsc_escChar q c hq rest

theorem decodeEsc_flatMap (f : Char → Str)
    (hf : ∀ c rest, decodeEsc (f c ++ rest) = (decodeEsc rest).cons c) (s : Str) :
    decodeEsc (s.flatMap f) = .ok s :=
  List.append_nil (s.flatMap f) ▸ List.flatMap_induct (R := fun l r => decodeEsc r = .ok l) s
    (by simp [decodeEsc]) fun c _ _ r ih => by rw [hf, ih]; rfl

theorem translateNewlines_id (l : Str) (h : '\r' ∉ l) : translateNewlines l = l := by
  induction l with
  | nil => rfl
  | cons c l ih =>
    have hc : c ≠ '\r' := (List.ne_of_not_mem_cons h).symm
    have hl := List.not_mem_of_not_mem_cons h
    rw [translateNewlines.eq_def]; simp [hc, ih hl]

theorem tokenizer_clean (t : Str) (h : ∀ x ∈ t, x ≠ '\r' ∧ x ≠ Char.ofNat 0) :
    translateNewlines t = t ∧ t.contains (Char.ofNat 0) = false := by
  refine ⟨translateNewlines_id t fun hx => (h _ hx).1 rfl, ?_⟩
  simp only [List.contains_eq_mem, decide_eq_false_iff_not]
  exact fun hx => (h _ hx).2 rfl

theorem pyEval_of_scan (q : Char) (hq : IsQ q) (rest body s : Str)
    (hmem : ∀ x ∈ q :: rest, x ≠ '\r' ∧ x ≠ Char.ofNat 0)
    (h1 : scanLiteral (q :: rest) = some (body, [])) (h2 : decodeEsc body = .ok s) :
    pyEval (q :: rest) = .ok s := by
  have hdrop : (q :: rest).dropWhile (fun c => c = ' ' || c = '\t') = q :: rest := by
    rcases hq with rfl | rfl <;> simp [List.dropWhile]
  have hclean := tokenizer_clean _ hmem
  unfold pyEval
  simp only [hdrop, hclean.1, hclean.2]
  simp [evalConcat, h1, h2]

theorem pyEval_quote1 (q : Char) (hq : IsQ q) (s : Str) : pyEval (quote1 q s) = .ok s :=
  pyEval_of_scan q hq _ _ s (fun x hx => (fromQuoting_quote1 q s x hx).clean hq)
    (by simpa [quote1] using scanLiteral_quote1 q hq s [] (by simp))
    (decodeEsc_flatMap (esc1 q) (decodeEsc_esc1 q · hq) s)

theorem pyEval_quote3 (q : Char) (hq : IsQ q) (s : Str) : pyEval (quote3 q s) = .ok s :=
  pyEval_of_scan q hq _ _ s (fun x hx => (fromQuoting_quote3 q s x hx).clean hq) (scanLiteral_quote3 q hq s)
    (decodeEsc_flatMap (escChar q) (decodeEsc_escChar q · hq) s)

/-! ## `unquote_str`: a raw NUL is replaced by its escape before the text is evaluated (since /repo commit cada0b1) -/

theorem nulEscape_id (l : Str) (h : Char.ofNat 0 ∉ l) : nulEscape l = l :=
  List.flatMap_eq_self fun c hc => if_neg fun e : c = Char.ofNat 0 => h (e ▸ hc)

theorem nulEscape_append (a b : Str) : nulEscape (a ++ b) = nulEscape a ++ nulEscape b := by
  simp [nulEscape, List.flatMap_append]

theorem nulEscape_flatMap (f g : Char → Str) (hfg : ∀ c, nulEscape (f c) = g c) (s : Str) :
    nulEscape (s.flatMap f) = s.flatMap g := by
  simp only [nulEscape, List.flatMap_assoc] at hfg ⊢
  simp only [hfg]

theorem nulEscape_escChar (q c : Char) (hq : IsQ q) : nulEscape (escChar q c) = escChar q c :=
  nulEscape_id _ fun h => ((fromQuoting_escChar q c _ h).clean hq).2 rfl

theorem nulEscape_esc1 (q c : Char) (hq : IsQ q) : nulEscape (esc1 q c) = esc1 q c :=
  nulEscape_id _ fun h => ((fromQuoting_esc1 q c _ h).clean hq).2 rfl

theorem nulEscape_esc1R (q c : Char) (hq : IsQ q) : nulEscape (esc1R q c) = esc1 q c := by
  unfold esc1R; split
  · next h => subst h; rcases hq with rfl | rfl <;> decide +kernel
  · exact nulEscape_esc1 q c hq

theorem nulEscape_escCharR (q c : Char) (hq : IsQ q) : nulEscape (escCharR q c) = escChar q c := by
  unfold escCharR; split
  · next h => subst h; rcases hq with rfl | rfl <;> decide +kernel
  · exact nulEscape_escChar q c hq

theorem nulEscape_wrap (q : Char) (hq : IsQ q) (f g : Char → Str) (hfg : ∀ c, nulEscape (f c) = g c) (n : Nat) (s : Str) :
    nulEscape (List.replicate n q ++ (s.flatMap f ++ List.replicate n q)) =
      List.replicate n q ++ (s.flatMap g ++ List.replicate n q) := by
  have hq0 : q ≠ Char.ofNat 0 := (hq.ne_of_not_quoteChar rfl).symm
  rw [nulEscape_append, nulEscape_append, nulEscape_flatMap f g hfg,
    nulEscape_id _ fun h => hq0 (List.eq_of_mem_replicate h).symm]

/-- one-line forms written with any escaping function that produces units of the recogniser and differs from `esc1`
at most in leaving NUL raw: `is_quoted` recognises the text (any `triple`), `unquote_str` returns the string -/
theorem quote_roundtrip_of_units (q : Char) (hq : IsQ q) (f : Char → Str) (hu : ∀ c, IsUnit q (f c))
    (hn : ∀ c, nulEscape (f c) = esc1 q c) (s : Str) (triple : Bool) :
    isQuoted triple (q :: (s.flatMap f ++ [q])) = true ∧ unquoteStr triple (q :: (s.flatMap f ++ [q])) = .ok s := by
  have h := isQuoted_single q hq f hu s triple
  have hnul := nulEscape_wrap q hq f _ hn 1 s
  exact ⟨h, by rw [unquoteStr, if_pos h]; exact hnul ▸ pyEval_quote1 q hq s⟩

theorem quote3_roundtrip_of_units (q : Char) (hq : IsQ q) (f : Char → Str) (hu : ∀ c, IsUnit q (f c))
    (hn : ∀ c, nulEscape (f c) = escChar q c) (s : Str) :
    isQuoted true (q :: q :: q :: (s.flatMap f ++ [q, q, q])) = true ∧
      unquoteStr true (q :: q :: q :: (s.flatMap f ++ [q, q, q])) = .ok s := by
  have h := isQuoted_triple q hq f hu s
  have hnul := nulEscape_wrap q hq f _ hn 3 s
  exact ⟨h, by rw [unquoteStr, if_pos h]; exact hnul ▸ pyEval_quote3 q hq s⟩

/-- **Config.quote_roundtrip** (every string, both quote characters): the one-line quoted form is recognised by
`is_quoted` (with and without `triple`) and `unquote_str` returns the text. -/
theorem quote_roundtrip (q : Char) (hq : IsQ q) (s : Str) (triple : Bool) :
    isQuoted triple (quote1 q s) = true ∧ unquoteStr triple (quote1 q s) = .ok s :=
  quote_roundtrip_of_units q hq (esc1 q) (isUnit_esc1 q · hq) (nulEscape_esc1 q · hq) s triple

/-- **Config.quote_roundtrip**, triple forms: every string, both quote characters; the empty string (six quote
characters) since /repo commit 65e15f6. -/
theorem quote3_roundtrip (q : Char) (hq : IsQ q) (s : Str) :
    isQuoted true (quote3 q s) = true ∧ unquoteStr true (quote3 q s) = .ok s :=
  quote3_roundtrip_of_units q hq (escChar q) (isUnit_escChar q · hq) (nulEscape_escChar q · hq) s

/-- **Config.quote_roundtrip** with NUL left raw (read back since /repo commit cada0b1), one-line forms -/
theorem quote_roundtrip_rawnul (q : Char) (hq : IsQ q) (s : Str) (triple : Bool) :
    isQuoted triple (quote1R q s) = true ∧ unquoteStr triple (quote1R q s) = .ok s :=
  quote_roundtrip_of_units q hq (esc1R q) (isUnit_esc1R q · hq) (nulEscape_esc1R q · hq) s triple

/-- **Config.quote_roundtrip** with NUL left raw, triple forms -/
theorem quote3_roundtrip_rawnul (q : Char) (hq : IsQ q) (s : Str) :
    isQuoted true (quote3R q s) = true ∧ unquoteStr true (quote3R q s) = .ok s :=
  quote3_roundtrip_of_units q hq (escCharR q) (isUnit_escCharR q · hq) (nulEscape_escCharR q · hq) s

-- In the test vectors, `rw [String.toList_ofList]` turns each string literal into its list of characters by a lemma
-- (`"ab"` unfolds to `String.ofList ['a', 'b']`); left to evaluation, `"ab".toList` is a UTF-8 encoding and decoding,
-- which takes the kernel far longer than the check itself.
example : quote1 '"' "a\"b\\c\nd%'".toList = "\"a\\\"b\\\\c\\nd%'\"".toList := by
  repeat rw [String.toList_ofList]
  decide +kernel
example : unquoteStr true (quote1 '\'' "it's 100% [x]; #=\t\r".toList) = .ok "it's 100% [x]; #=\t\r".toList := by
  repeat rw [String.toList_ofList]
  decide +kernel

/-- HISTORICAL (code before 65e15f6, `isQuotedOld`/`unquoteStrOld`): the triple form needed `s ≠ []` -/
theorem quote3_roundtrip_old_partial (q : Char) (hq : IsQ q) (s : Str) (hs : s ≠ []) :
    isQuotedOld true (quote3 q s) = true ∧ unquoteStrOld true (quote3 q s) = .ok s := by
  have hm := matchTriple_units q hq (escChar q) (isUnit_escChar q · hq) s hs
  have h : isQuotedOld true (quote3 q s) = true := by
    rcases hq with rfl | rfl <;> simp [isQuotedOld, quote3, hm]
  exact ⟨h, by rw [unquoteStrOld, if_pos h]; exact pyEval_quote3 q hq s⟩

/-- HISTORICAL counterexample (fixed by 65e15f6): the empty string written with six quote characters was not
recognised and came back with its six quotes; today it is read as the empty string -/
theorem quote3_empty_old_counterexample :
    isQuotedOld true (quote3 '"' []) = false ∧
    unquoteStrOld true (quote3 '"' []) = .ok ['"', '"', '"', '"', '"', '"'] ∧
    isQuotedOld true (quote3 '\'' []) = false ∧
    unquoteStr true (quote3 '"' []) = .ok [] ∧ unquoteStr true (quote3 '\'' []) = .ok [] := by decide +kernel

/-- Python itself evaluates it to the empty string: the loss was in the recogniser only -/
theorem quote3_empty_python : pyEval (quote3 '"' []) = .ok [] ∧ pyEval (quote3 '\'' []) = .ok [] := by
  decide +kernel

example : isQuoted false (quote3 '"' []) = false := by decide +kernel

example : isQuoted false (quote3 '"' "ab".toList) = false := by decide +kernel
example : unquoteStr true (quote3 '"' "a\nb \"\"\" c\\".toList) = .ok "a\nb \"\"\" c\\".toList := by
  repeat rw [String.toList_ofList]
  decide +kernel

/-- **Config.unquoted_passthrough**: a text that is not recognised as quoted is returned unchanged -/
theorem unquoted_passthrough (triple : Bool) (text : Str) (h : isQuoted triple text = false) :
    unquoteStr triple text = .ok text := by
  simp [unquoteStr, h]

theorem matchSingle_head (q c : Char) (rest : Str) (h : c ≠ q) : matchSingle q (c :: rest) = false := by
  simp [matchSingle, h]

theorem dropFinalNl_prefix (t : Str) : ∃ z, t = dropFinalNl t ++ z := by
  unfold dropFinalNl
  split
  · next r heq => exact ⟨['\n'], by simpa using congrArg List.reverse heq⟩
  · exact ⟨[], by simp⟩

theorem matchTriple_head (q c : Char) (rest : Str) (h : c ≠ q) : matchTriple q (c :: rest) = false := by
  unfold matchTriple
  obtain ⟨z, hz⟩ := dropFinalNl_prefix (c :: rest)
  cases hd : dropFinalNl (c :: rest) with
  | nil => rfl
  | cons x xs =>
    rw [hd, List.cons_append, List.cons.injEq] at hz
    rw [← hz.1]
    match xs with
    | [] => rfl
    | [_] => rfl
    | _ :: _ :: _ => simp [stripTriple, h]

theorem not_quoted_of_head (triple : Bool) (text : Str) (h : ∀ c, text.head? = some c → isQuoteChar c = false) :
    isQuoted triple text = false := by
  cases text with
  | nil => cases triple <;> decide +kernel
  | cons c rest =>
    have hc := h c rfl
    have h1 : c ≠ '"' := IsQ.ne_of_not_quoteChar (.inl rfl) hc
    have h2 : c ≠ '\'' := IsQ.ne_of_not_quoteChar (.inr rfl) hc
    have he : isEmptyTriple (c :: rest) = false := by
      simp [isEmptyTriple, h1, h2]
    simp [isQuoted, he, matchSingle_head _ c rest h1, matchSingle_head _ c rest h2,
      matchTriple_head _ c rest h1, matchTriple_head _ c rest h2]

example : unquoteStr true "plain text".toList = .ok "plain text".toList := by
  repeat rw [String.toList_ofList]
  decide +kernel
-- the closing quote is escaped: not a quoted string, returned as is
example : unquoteStr true ['"', 'a', '\\', '"'] = .ok ['"', 'a', '\\', '"'] := by decide +kernel
-- recognised by the regex, refused by Python (raw newline in a one-line literal): the documented ValueError
example : isQuoted true ['"', 'a', '\n', 'b', '"'] = true ∧ unquoteStr true ['"', 'a', '\n', 'b', '"'] = .valueError := by
  decide +kernel

/-- HISTORICAL counterexample (fixed by cada0b1): a raw NUL between quotes was recognised as quoted but
`literal_eval` refused the text; today it is read back -/
theorem raw_nul_old_counterexample :
    isQuotedOld true ['\'', 'a', Char.ofNat 0, 'b', '\''] = true ∧
    unquoteStrOld true ['\'', 'a', Char.ofNat 0, 'b', '\''] = .valueError ∧
    unquoteStr true ['\'', 'a', Char.ofNat 0, 'b', '\''] = .ok ['a', Char.ofNat 0, 'b'] ∧
    quote1R '\'' ['a', Char.ofNat 0, 'b'] = ['\'', 'a', Char.ofNat 0, 'b', '\''] := by decide +kernel

/-! ## INI values: a quoted form written as a value is read back -/

/-- with `iniValue_eq_old`: the pipeline before d27392d read such a triple form as today's does -/
theorem not_mem_quote3_percent (q : Char) (hq : IsQ q) (s : Str) (hs : '%' ∉ s) : '%' ∉ quote3 q s :=
  fun h => FromQuoting.not_percent hq hs (fromQuoting_quote3 q s _ h)

/-- what the round trip needs of an interpolation step -/
def PercentFreeId (interp : Str → InterpR) : Prop := ∀ t, '%' ∉ t → interp t = .ok t

theorem basicInterp_percentFree : PercentFreeId basicInterp := by
  intro t ht
  induction t with
  | nil => rfl
  | cons c t ih =>
    have hc : c ≠ '%' := (List.ne_of_not_mem_cons ht).symm
    have hl := List.not_mem_of_not_mem_cons ht
    rw [basicInterp.eq_def]; simp [hc, ih hl, InterpR.cons]

/-- `interpolation=None` is such a step -/
theorem noInterp_percentFree : PercentFreeId noInterp := fun _ _ => rfl

theorem iniValueOld_eq (interp : Str → InterpR) (splitMl : Bool) (raw : Str) (hi : interp raw = .ok raw) :
    iniValueOld interp splitMl raw = iniValue splitMl raw := by
  rw [iniValue, iniValueOld, iniValueOld, hi]; rfl

theorem iniValue_of_quoted (splitMl : Bool) (q : Char) (rest s : Str) (hq : IsQ q)
    (h : isQuoted true (q :: rest) = true ∧ unquoteStr true (q :: rest) = .ok s) :
    iniValue splitMl (q :: rest) = .str s := by
  have hb : q ≠ '[' := (hq.ne_of_not_quoteChar rfl).symm
  simp [iniValue, iniValueOld, noInterp, hb, h.1, h.2]

/-- **Config.ini_quote_roundtrip** (the code since /repo commit d27392d, `ConfigParser(interpolation=None)`):
every string — `%` included — written in a one-line quoted form as an INI value is read back as that string, with
and without `split_ml_text_to_list`. -/
theorem ini_quote_roundtrip (splitMl : Bool) (q : Char) (hq : IsQ q) (s : Str) :
    iniValue splitMl (quote1 q s) = .str s :=
  iniValue_of_quoted splitMl q _ s hq (quote_roundtrip q hq s true)

/-- **Config.ini_quote3_roundtrip**: triple forms, every string (the empty one since commit 65e15f6).  About `iniValue`
on the text: whether configparser hands a value with raw newlines over unchanged (continuation lines) is outside the
model. -/
theorem ini_quote3_roundtrip (splitMl : Bool) (q : Char) (hq : IsQ q) (s : Str) :
    iniValue splitMl (quote3 q s) = .str s :=
  iniValue_of_quoted splitMl q _ s hq (quote3_roundtrip q hq s)

/-- INI path with a NUL left raw between the quotes (since commit cada0b1) -/
theorem ini_quote_roundtrip_rawnul (splitMl : Bool) (q : Char) (hq : IsQ q) (s : Str) :
    iniValue splitMl (quote1R q s) = .str s :=
  iniValue_of_quoted splitMl q _ s hq (quote_roundtrip_rawnul q hq s true)

example : iniValue true (quote3 '"' []) = .str [] := by decide +kernel
example : iniValue true ['\'', 'a', Char.ofNat 0, 'b', '\''] = .str ['a', Char.ofNat 0, 'b'] := by decide +kernel

example : iniValue true (quote1 '"' "100% a # b ; c = [d]\n".toList) = .str "100% a # b ; c = [d]\n".toList := by
  repeat rw [String.toList_ofList]
  decide +kernel
example : iniValue true (quote1 '\'' "50%% %(x)s".toList) = .str "50%% %(x)s".toList := by
  repeat rw [String.toList_ofList]
  decide +kernel
-- unquoted values: passed through, split at newlines, `[…]` evaluated as a list of literals
example : iniValue true "plain 100%".toList = .str "plain 100%".toList := by
  repeat rw [String.toList_ofList]
  decide +kernel
example : iniValue true "a\nb".toList = .list ["a".toList, "b".toList] := by decide +kernel
example : iniValue true "['x', \"y\"]".toList = .list ["x".toList, "y".toList] := by
  repeat rw [String.toList_ofList]
  decide +kernel
example : iniValue true [] = .skip := by decide +kernel

/-! ### Historical: the pipeline before /repo commit d27392d (`configparser.ConfigParser()`, BasicInterpolation)

`iniValueOld interp` with `interp = basicInterp`.  Reading the section's items interpolated every value, so a
`%` in a quoted value either raised or, doubled, was halved; the round trip needed "no `%` in the value". -/

/-- OLD pipeline: false without `hs` (the counterexamples below) -/
theorem ini_quote_roundtrip_old_partial (interp : Str → InterpR) (hi : PercentFreeId interp) (splitMl : Bool)
    (q : Char) (hq : IsQ q) (s : Str) (hs : '%' ∉ s) :
    iniValueOld interp splitMl (quote1 q s) = .str s :=
  (iniValueOld_eq interp splitMl _ (hi _ fun h => FromQuoting.not_percent hq hs (fromQuoting_quote1 q s _ h))).trans
    (ini_quote_roundtrip splitMl q hq s)

theorem ini_quote_roundtrip_old_basic (splitMl : Bool) (q : Char) (hq : IsQ q) (s : Str) (hs : '%' ∉ s) :
    iniValueOld basicInterp splitMl (quote1 q s) = .str s :=
  ini_quote_roundtrip_old_partial basicInterp basicInterp_percentFree splitMl q hq s hs

/-- HISTORICAL counterexample (fixed by d27392d): `project-name = "100%"` was refused (the whole file: exit 2) -/
theorem ini_quote_roundtrip_old_counterexample :
    iniValueOld basicInterp true (quote1 '"' ['1', '0', '0', '%']) = .error .interpolation ∧
    iniValue true (quote1 '"' ['1', '0', '0', '%']) = .str ['1', '0', '0', '%'] := by decide +kernel

/-- HISTORICAL counterexample (fixed by d27392d): a doubled `%` was read back halved -/
theorem ini_percent_percent_old_counterexample :
    iniValueOld basicInterp true (quote1 '\'' ['1', '0', '0', '%', '%']) = .str ['1', '0', '0', '%'] ∧
    iniValue true (quote1 '\'' ['1', '0', '0', '%', '%']) = .str ['1', '0', '0', '%', '%'] := by
  decide +kernel

theorem iniValue_eq_old (splitMl : Bool) (raw : Str) (h : '%' ∉ raw) :
    iniValueOld basicInterp splitMl raw = iniValue splitMl raw :=
  iniValueOld_eq basicInterp splitMl raw (basicInterp_percentFree raw h)

/-! ## Merge of config-file items into the argument vector (any option table)

What argparse guarantees about a table (conflicting option strings are refused by `add_argument`) is stated
as hypotheses; the harness checks them on the live parser through `flagsDisjointB`, `keysDisjointB`, `noSepFlagB`. -/

def FlagsDisjoint (T : List Opt) : Prop :=
  ∀ a ∈ T, ∀ b ∈ T, ∀ f ∈ a.flags, f ∈ b.flags → a = b

def KeysDisjoint (T : List Opt) : Prop :=
  ∀ a ∈ T, ∀ b ∈ T, ∀ k ∈ possibleKeys a, k ∈ possibleKeys b → a = b

def NoSepFlag (T : List Opt) : Prop := ∀ o ∈ T, ['-', '-'] ∉ o.flags

instance (T : List Opt) : Decidable (FlagsDisjoint T) := by unfold FlagsDisjoint; infer_instance
instance (T : List Opt) : Decidable (KeysDisjoint T) := by unfold KeysDisjoint; infer_instance
instance (T : List Opt) : Decidable (NoSepFlag T) := by unfold NoSepFlag; infer_instance

theorem disjointB_iff (g : Opt → List Str) (T : List Opt) :
    (T.all fun a => T.all fun b => (g a).all fun k => !((g b).contains k) || a == b) = true ↔
      ∀ a ∈ T, ∀ b ∈ T, ∀ k ∈ g a, k ∈ g b → a = b := by
  simp [Decidable.imp_iff_not_or]

theorem flagsDisjointB_iff (T : List Opt) : flagsDisjointB T = true ↔ FlagsDisjoint T := disjointB_iff Opt.flags T

theorem keysDisjointB_iff (T : List Opt) : keysDisjointB T = true ↔ KeysDisjoint T := disjointB_iff possibleKeys T

theorem noSepFlagB_iff (T : List Opt) : noSepFlagB T = true ↔ NoSepFlag T := by
  simp [noSepFlagB, NoSepFlag]

theorem lookupKey_some (T : List Opt) (k : Str) (o : Opt) (h : lookupKey T k = some o) :
    o ∈ T ∧ k ∈ possibleKeys o := by
  unfold lookupKey at h
  have h1 := List.mem_of_find?_eq_some h
  have h2 := List.find?_some h
  exact ⟨by simpa using h1, by simpa using h2⟩

theorem isKnown_iff_mem (T : List Opt) (k : Str) : isKnown T k = true ↔ ∃ o ∈ T, k ∈ possibleKeys o := by
  simp [isKnown, lookupKey]

theorem mem_possibleKeys (o : Opt) (k : Str) :
    k ∈ possibleKeys o ↔ ∃ k', ('-' :: '-' :: k') ∈ o.flags ∧ (k = k' ∨ k = '-' :: '-' :: k') := by
  simp only [possibleKeys, List.mem_flatMap]
  constructor
  · rintro ⟨f, hf, hk⟩
    split at hk
    · next k' => exact ⟨k', hf, by simpa using hk⟩
    · simp at hk
  · rintro ⟨k', hf, hk⟩
    exact ⟨_, hf, by simpa using hk⟩

theorem lookupKey_of_mem (T : List Opt) (hK : KeysDisjoint T) (o : Opt) (ho : o ∈ T) (k : Str)
    (hk : k ∈ possibleKeys o) : lookupKey T k = some o := by
  cases h : lookupKey T k with
  | none =>
    have := (isKnown_iff_mem T k).mpr ⟨o, ho, hk⟩
    simp [isKnown, h] at this
  | some o' =>
    obtain ⟨h1, h2⟩ := lookupKey_some T k o' h
    rw [hK o' h1 o ho k h2 hk]

theorem validate_known (T : List Opt) (d : List (Str × FileVal)) :
    ∀ kv ∈ (validate T d).1, isKnown T kv.1 = true := by
  intro kv h
  simp only [validate, List.mem_filter] at h
  exact h.2

/-- `convert_item_to_command_line_arg`: its arguments carry an option string of the action; its
`AssertionError`/`ValueError` only for a value the validator refuses -/
theorem convertItem_spec (o : Opt) (v : FileVal) :
    match convertItem o v with
    | .ok l => (∀ a ∈ l, a.name ∈ o.flags) ∧ badValue o v = false
    | .error e => (e = .assertion ∨ e = .intValueError) → badValue o v = true := by
  unfold convertItem badValue
  cases hl : o.flags.getLast? with
  | none => simp
  | some last =>
    have hlast : last ∈ o.flags := List.mem_of_getLast? hl
    have hhead : o.flags.head?.getD last ∈ o.flags := by
      cases hf : o.flags with
      | nil => simp [hf] at hlast
      | cons f fs => simp
    cases v with
    | list l => cases hk : o.kind <;> simp [hlast]
    | str s =>
      cases hk : o.kind
      · simp [hlast]
      · simp [hlast]
      -- flag and count: the true words, the false words, then (count) `int()`
      all_goals
        by_cases h1 : lowerAscii s ∈ trueWords
        · simp [hlast, h1]
        by_cases h2 : lowerAscii s ∈ falseWords
        · simp [h1, h2]
        cases hp : pyInt s <;> simp [hhead, h1, h2, hp]

theorem not_bad_of_convert_ok (o : Opt) (v : FileVal) (l : List Arg) (h : convertItem o v = .ok l) :
    badValue o v = false := by
  have hs := convertItem_spec o v
  rw [h] at hs
  exact hs.2

/-- `convertItem_spec` for an item with a known key -/
theorem itemArgs_spec (T : List Opt) (args : List Arg) (kv : Str × FileVal) (hk : isKnown T kv.1 = true) :
    match itemArgs T args kv with
    | .ok l => ∀ a ∈ l, ∃ o ∈ T, alreadyOn args o.flags = false ∧ a.name ∈ o.flags
    | .error e => (e = .assertion ∨ e = .intValueError) → itemBad T kv = true := by
  fun_cases itemArgs T args kv
  case case1 => simp
  case case2 o hl hon =>
    have hc := convertItem_spec o kv.2
    simp only [itemBad, hl]
    cases h : convertItem o kv.2 with
    | ok l => rw [h] at hc; exact fun a ha => ⟨o, (lookupKey_some T kv.1 o hl).1, by simpa using hon, hc.1 a ha⟩
    | error e => rw [h] at hc; exact hc
  -- the exits for a key no option claims
  all_goals simp [isKnown, *] at hk

theorem configArgs_spec (T : List Opt) (args : List Arg) (items : List (Str × FileVal))
    (hk : ∀ kv ∈ items, isKnown T kv.1 = true) :
    match configArgs T args items with
    | .ok extra => ∀ a ∈ extra, ∃ o ∈ T, alreadyOn args o.flags = false ∧ a.name ∈ o.flags
    | .error e => (e = .assertion ∨ e = .intValueError) → valuesBad T items = true := by
  induction items with
  | nil => simp [configArgs]
  | cons kv more ih =>
    have h1 := itemArgs_spec T args kv (hk kv (by simp))
    have h2 := ih fun x hx => hk x (by simp [hx])
    simp only [configArgs, valuesBad, List.any_cons, Bool.or_eq_true] at h2 ⊢
    cases hi : itemArgs T args kv with
    | error e => rw [hi] at h1; exact fun he => .inl (h1 he)
    | ok l1 =>
      rw [hi] at h1
      cases hc : configArgs T args more with
      | error e => rw [hc] at h2; exact fun he => .inr (h2 he)
      | ok l2 => rw [hc] at h2; exact fun a ha => (List.mem_append.mp ha).elim (h1 a) (h2 a)

theorem firstIdx_take (p : Arg → Bool) (l : List Arg) :
    ∀ a ∈ l.take ((firstIdx p l).getD l.length), p a = false := by
  fun_induction firstIdx p l with
  | case1 => simp
  | case2 => simp
  | case3 x l hp ih =>
    have hx : p x = false := by simpa using hp
    cases h : firstIdx p l <;> simp [h] at ih <;> simpa [hx] using ih

theorem insertionIndex_noSep (l : List Arg) : ∀ a ∈ l.take (insertionIndex l), isSep a = false := by
  have h := firstIdx_take isSep l
  unfold insertionIndex
  cases hi : firstIdx isSep l with
  | some i => simpa [hi] using h
  | none => exact fun a ha => by simpa [hi] using h a (by simpa [hi] using List.mem_of_mem_take ha)

theorem live_insert (l x : List Arg) (idx : Nat) (hx : ∀ a ∈ x, isSep a = false)
    (hidx : ∀ a ∈ l.take idx, isSep a = false) :
    live (l.take idx ++ x ++ l.drop idx) = l.take idx ++ x ++ live (l.drop idx) := by
  unfold live
  rw [List.append_assoc, List.takeWhile_append_of_pos (by intro a ha; simp [hidx a ha]),
    List.takeWhile_append_of_pos (by intro a ha; simp [hx a ha]), List.append_assoc]

theorem occurrences_insert (o : Opt) (l x : List Arg) (hx : ∀ a ∈ x, isSep a = false) :
    ∃ A B, occurrences o l = A ++ B ∧
      occurrences o (l.take (insertionIndex l) ++ x ++ l.drop (insertionIndex l)) =
        A ++ x.filter (fun a => o.flags.contains a.name) ++ B := by
  have hidx := insertionIndex_noSep l
  refine ⟨(l.take (insertionIndex l)).filter fun a => o.flags.contains a.name,
    (live (l.drop (insertionIndex l))).filter fun a => o.flags.contains a.name, ?_, ?_⟩
  · have := live_insert l [] _ (by simp) hidx
    simp only [List.append_nil, List.take_append_drop] at this
    rw [occurrences, this, List.filter_append]
  · rw [occurrences, live_insert l x _ hx hidx, List.filter_append, List.filter_append]

theorem alreadyOn_iff (args : List Arg) (flags : List Str) :
    alreadyOn args flags = true ↔ ∃ f ∈ flags, ∃ a ∈ args, a.name = f := by
  simp [alreadyOn]

theorem alreadyOn_of_mem (args : List Arg) (flags : List Str) (a : Arg) (ha : a ∈ args) (hf : a.name ∈ flags) :
    alreadyOn args flags = true :=
  (alreadyOn_iff args flags).mpr ⟨a.name, hf, a, ha, rfl⟩

theorem live_of_noSep (l : List Arg) (h : ∀ a ∈ l, isSep a = false) : live l = l := by
  simpa [live] using live_insert [] l 0 h (by simp)

theorem occurrences_of_all (o : Opt) (l : List Arg) (h1 : ∀ a ∈ l, a.name ∈ o.flags)
    (h2 : ∀ a ∈ l, isSep a = false) : occurrences o l = l := by
  rw [occurrences, live_of_noSep l h2, List.filter_eq_self]
  simpa using h1

theorem occurrences_of_not_on (o : Opt) (args : List Arg) (h : alreadyOn args o.flags = false) :
    occurrences o args = [] := by
  rw [occurrences, List.filter_eq_nil_iff]
  intro a ha hmem
  have := alreadyOn_of_mem args o.flags a (List.takeWhile_subset _ ha) (by simpa using hmem)
  rw [h] at this; cases this

/-! ### One file behind `ValidatorParser`'s value check (commit ae278e0) -/

/-- a file with a value its action cannot take is refused as a whole: option error, exit 2 -/
theorem bad_value_refused (T : List Opt) (a : List Arg) (d : List (Str × FileVal)) (h : valuesBad T d = true) :
    mergeFile T a d = .error .badValue := by
  simp [mergeFile, h]

theorem mergeFile_of_not_bad (T : List Opt) (a : List Arg) (d : List (Str × FileVal))
    (h : valuesBad T d = false) : mergeFile T a d = mergeFileOld T a d := by
  simp [mergeFile, mergeFileOld, h]

theorem mergeFile_ok (T : List Opt) (a : List Arg) (d : List (Str × FileVal)) (r : List Arg)
    (h : mergeFile T a d = .ok r) : valuesBad T d = false ∧ mergeFileOld T a d = .ok r := by
  cases hb : valuesBad T d with
  | true => rw [bad_value_refused T a d hb] at h; cases h
  | false => exact ⟨rfl, mergeFile_of_not_bad T a d hb ▸ h⟩

theorem mergeFile_spec (T : List Opt) (a : List Arg) (d : List (Str × FileVal)) :
    match mergeFile T a d with
    | .ok r => ∃ extra, r = a.take (insertionIndex a) ++ extra ++ a.drop (insertionIndex a) ∧
        ∀ x ∈ extra, ∃ o ∈ T, alreadyOn a o.flags = false ∧ x.name ∈ o.flags
    | .error e => ¬ (e = .assertion ∨ e = .intValueError) := by
  cases hb : valuesBad T d with
  | true => rw [bad_value_refused T a d hb]; exact nofun
  | false =>
    have hs := configArgs_spec T a _ (validate_known T d)
    rw [mergeFile_of_not_bad T a d hb, mergeFileOld, mergeOne]
    cases hc : configArgs T a (validate T d).1 with
    | ok extra => rw [hc] at hs; exact ⟨extra, rfl, hs⟩
    | error e =>
      -- the validator let every item through, so the error is not one of an item it would have refused
      rw [hc] at hs
      intro he
      obtain ⟨kv, hkv, hbad⟩ := List.any_eq_true.mp (hs he)
      exact List.any_eq_false.mp hb kv (List.mem_filter.mp hkv).1 hbad

theorem mergeFile_keeps (T : List Opt) (args : List Arg) (d : List (Str × FileVal)) (r : List Arg)
    (h : mergeFile T args d = .ok r) : ∀ x ∈ args, x ∈ r := by
  have hs := mergeFile_spec T args d
  rw [h] at hs
  obtain ⟨extra, rfl, -⟩ := hs
  intro x hx
  rw [← List.take_append_drop (insertionIndex args) args] at hx
  simp only [List.mem_append] at hx ⊢
  exact hx.elim (fun h => .inl (.inl h)) .inr

/-- **no traceback from a config value** (since ae278e0): behind the validator the merge of a file never ends in the
`AssertionError` / `ValueError` of configargparse's conversion — a bad value is an option error -/
theorem mergeFile_no_traceback (T : List Opt) (a : List Arg) (d : List (Str × FileVal)) :
    mergeFile T a d ≠ .error .assertion ∧ mergeFile T a d ≠ .error .intValueError := by
  have hs := mergeFile_spec T a d
  constructor <;> intro h <;> rw [h] at hs
  · exact hs (.inl rfl)
  · exact hs (.inr rfl)

/-- **Config.cli_overrides_file**: for any option table, config file and command line, an option given on the
command line (by one of its option strings) gets exactly the value the command line alone gives it — whatever the
file says about it or about any other option. -/
theorem cli_overrides_file (T : List Opt) (hF : FlagsDisjoint T) (hS : NoSepFlag T) (o : Opt) (ho : o ∈ T)
    (cli : List Arg) (data : List (Str × FileVal)) (args : List Arg)
    (hon : alreadyOn cli o.flags = true) (hm : mergeFile T cli data = .ok args) :
    effective o args = effective o cli := by
  -- every argument of the file belongs to an option that is not on the command line, so not to `o`
  have hs := mergeFile_spec T cli data
  rw [hm] at hs
  obtain ⟨extra, rfl, hnames⟩ := hs
  have hsep : ∀ a ∈ extra, isSep a = false := by
    intro a ha
    obtain ⟨o', ho', -, hin⟩ := hnames a ha
    simp only [isSep, Bool.and_eq_false_iff, beq_eq_false_iff_ne]
    exact .inl fun e => hS o' ho' (e ▸ hin)
  have hnone : extra.filter (fun a => o.flags.contains a.name) = [] := by
    rw [List.filter_eq_nil_iff]
    intro a ha hmem
    obtain ⟨o', ho', hoff, hin⟩ := hnames a ha
    have : o' = o := hF o' ho' o ho a.name hin (by simpa using hmem)
    subst this; rw [hon] at hoff; cases hoff
  obtain ⟨A, B, h1, h2⟩ := occurrences_insert o cli extra hsep
  simp only [effective, h1, h2, hnone, List.append_nil]

/-- **Config.unknown_key_filtered**: `ValidatorParser` returns the known items in their order, warns once
about each unknown key (in order) and never raises. -/
theorem unknown_key_filtered (T : List Opt) (d : List (Str × FileVal)) :
    (validate T d).1 = d.filter (fun kv => isKnown T kv.1) ∧
    (validate T d).2 = (d.filter (fun kv => !isKnown T kv.1)).map (·.1) ∧
    (∀ kv ∈ (validate T d).1, isKnown T kv.1 = true) ∧
    (∀ k, k ∈ (validate T d).2 ↔ ∃ v, (k, v) ∈ d ∧ isKnown T k = false) := by
  refine ⟨rfl, rfl, validate_known T d, ?_⟩
  intro k
  simp only [validate, List.mem_map, List.mem_filter, Bool.not_eq_true']
  constructor
  · rintro ⟨⟨k', v⟩, ⟨hmem, hk⟩, rfl⟩; exact ⟨v, hmem, hk⟩
  · rintro ⟨v, hmem, hk⟩; exact ⟨(k, v), ⟨hmem, hk⟩, rfl⟩

/-- an unknown key is warned about and changes nothing: same outcome (arguments or error) as the file
without it, for every command line -/
theorem unknown_key_not_applied (T : List Opt) (cli : List Arg) (d1 d2 : List (Str × FileVal)) (k : Str)
    (v : FileVal) (hk : isKnown T k = false) :
    mergeFile T cli (d1 ++ (k, v) :: d2) = mergeFile T cli (d1 ++ d2) ∧
    (validate T (d1 ++ (k, v) :: d2)).2 = (validate T d1).2 ++ k :: (validate T d2).2 := by
  constructor
  · have hl : lookupKey T k = none := by simpa [isKnown] using hk
    have hb : valuesBad T (d1 ++ (k, v) :: d2) = valuesBad T (d1 ++ d2) := by
      simp [valuesBad, itemBad, hl]
    unfold mergeFile; rw [hb]; simp [validate, List.filter_append, hk]
  · simp [validate, List.filter_append, hk]

theorem firstIdx_none_of (p : Arg → Bool) (l : List Arg) (h : ∀ a ∈ l, p a = false) : firstIdx p l = none := by
  induction l with
  | nil => rfl
  | cons a l ih => simp [firstIdx, h a (by simp), ih (fun b hb => h b (by simp [hb]))]

theorem startsWithDash_iff (s : Str) : startsWithDash s = true ↔ ∃ r, s = '-' :: r := by
  unfold startsWithDash
  split
  · simp
  · next h => simpa using h

theorem insertionIndex_positional (pos : List Arg) (hpos : ∀ a ∈ pos, startsWithDash a.name = false) :
    insertionIndex pos = pos.length := by
  have h1 : firstIdx isSep pos = none := firstIdx_none_of _ pos fun a ha => by
    have h := hpos a ha
    simp only [isSep, Bool.and_eq_false_iff, beq_eq_false_iff_ne]
    exact .inl fun e => by rw [e] at h; cases h
  simp [insertionIndex, h1, firstIdx_none_of _ pos hpos]

theorem alreadyOn_positional (pos : List Arg) (hpos : ∀ a ∈ pos, startsWithDash a.name = false)
    (flags : List Str) (hdash : ∀ f ∈ flags, startsWithDash f = true) : alreadyOn pos flags = false := by
  rw [← Bool.not_eq_true]
  intro h
  obtain ⟨f, hf, a, ha, heq⟩ := (alreadyOn_iff pos flags).mp h
  have := hdash f hf
  rw [← heq, hpos a ha] at this
  cases this

theorem mergeFile_single (T : List Opt) (hK : KeysDisjoint T) (o : Opt) (ho : o ∈ T) (key : Str)
    (hkey : key ∈ possibleKeys o) (v : FileVal) (args extra : List Arg) (hoff : alreadyOn args o.flags = false)
    (hc : convertItem o v = .ok extra) :
    mergeFile T args [(key, v)] =
      .ok (args.take (insertionIndex args) ++ extra ++ args.drop (insertionIndex args)) := by
  have hl := lookupKey_of_mem T hK o ho key hkey
  have hknown : isKnown T key = true := by simp [isKnown, hl]
  have hb : valuesBad T [(key, v)] = false := by
    simp [valuesBad, itemBad, hl, not_bad_of_convert_ok o v extra hc]
  simp [mergeFile, hb, mergeOne, validate, hknown, configArgs, itemArgs, hl, hoff, hc]

theorem mergeFile_positional (T : List Opt) (hK : KeysDisjoint T) (o : Opt) (ho : o ∈ T)
    (hdash : ∀ f ∈ o.flags, startsWithDash f = true) (key : Str) (hkey : key ∈ possibleKeys o) (v : FileVal)
    (pos : List Arg) (hpos : ∀ a ∈ pos, startsWithDash a.name = false) (extra : List Arg)
    (hc : convertItem o v = .ok extra) :
    mergeFile T pos [(key, v)] = .ok (pos ++ extra) := by
  rw [mergeFile_single T hK o ho key hkey v pos extra (alreadyOn_positional pos hpos o.flags hdash) hc,
    insertionIndex_positional pos hpos]
  simp

/-- **Config.file_eq_cli** (valued options): the file item `key = v` yields exactly the argument `--opt=v` the
command line would carry, so the same converter (`type=`, `choices=`, `Options` converters) sees the same text.  Stated
for a command line of positionals only; `mergeFile_single` covers any command line the option is not on. -/
theorem file_eq_cli (T : List Opt) (hK : KeysDisjoint T) (o : Opt) (ho : o ∈ T)
    (hkind : o.kind = .store ∨ o.kind = .append)
    (hdash : ∀ f ∈ o.flags, startsWithDash f = true) (key : Str) (hkey : key ∈ possibleKeys o) (v : Str)
    (pos : List Arg) (hpos : ∀ a ∈ pos, startsWithDash a.name = false)
    (last : Str) (hlast : o.flags.getLast? = some last) :
    mergeFile T pos [(key, .str v)] = .ok (pos ++ [⟨last, some v⟩]) := by
  apply mergeFile_positional T hK o ho hdash key hkey _ pos hpos
  rcases hkind with hk | hk <;> simp [convertItem, hlast, hk]

/-- the argument built from a file item is the one `--opt=v` parses to -/
theorem parseArg_render (name v : Str) (h1 : startsWithDash name = true) (h2 : '=' ∉ name) :
    parseArg (Arg.render ⟨name, some v⟩) = ⟨name, some v⟩ := by
  obtain ⟨r, rfl⟩ := (startsWithDash_iff name).mp h1
  have hall : ∀ x ∈ r, (!decide (x = '=')) = true := by
    intro x hx; simpa using fun (e : x = '=') => h2 (e ▸ List.mem_cons_of_mem _ hx)
  simp [parseArg, Arg.render, startsWithDash, List.takeWhile_append_of_pos hall, List.dropWhile_append_of_pos hall]

theorem falseWords_not_true : ∀ s ∈ falseWords, s ∉ trueWords := by
  unfold falseWords trueWords
  repeat rw [String.toList_ofList]
  decide +kernel

theorem convertItem_flag (o : Opt) (hkind : o.kind = .flag) (last : Str) (hlast : o.flags.getLast? = some last)
    (s : Str) :
    (lowerAscii s ∈ trueWords → convertItem o (.str s) = .ok [⟨last, none⟩]) ∧
    (lowerAscii s ∈ falseWords → convertItem o (.str s) = .ok []) :=
  ⟨fun h => by simp [convertItem, hlast, hkind, h],
   fun h => by simp [convertItem, hlast, hkind, h, falseWords_not_true _ h]⟩

/-- **Config.file_eq_cli**, flags: `key = true|yes|on|1` is the bare option, `false|no|off|0` is its absence -/
theorem file_eq_cli_flag (T : List Opt) (hK : KeysDisjoint T) (o : Opt) (ho : o ∈ T) (hkind : o.kind = .flag)
    (hdash : ∀ f ∈ o.flags, startsWithDash f = true) (key : Str) (hkey : key ∈ possibleKeys o) (v : Str)
    (pos : List Arg) (hpos : ∀ a ∈ pos, startsWithDash a.name = false)
    (last : Str) (hlast : o.flags.getLast? = some last) :
    (trueWords.contains (lowerAscii v) = true → mergeFile T pos [(key, .str v)] = .ok (pos ++ [⟨last, none⟩])) ∧
    (falseWords.contains (lowerAscii v) = true → mergeFile T pos [(key, .str v)] = .ok pos) := by
  have hc := convertItem_flag o hkind last hlast v
  constructor <;> intro hv
  · exact mergeFile_positional T hK o ho hdash key hkey _ pos hpos _ (hc.1 (by simpa using hv))
  · simpa using mergeFile_positional T hK o ho hdash key hkey _ pos hpos _ (hc.2 (by simpa using hv))

/-- **Config.file_eq_cli**, count options: `key = n` is the option repeated `n` times -/
theorem file_eq_cli_count (T : List Opt) (hK : KeysDisjoint T) (o : Opt) (ho : o ∈ T) (hkind : o.kind = .count)
    (hdash : ∀ f ∈ o.flags, startsWithDash f = true) (key : Str) (hkey : key ∈ possibleKeys o) (v : Str)
    (pos : List Arg) (hpos : ∀ a ∈ pos, startsWithDash a.name = false)
    (first last : Str) (hfirst : o.flags.head? = some first) (hlast : o.flags.getLast? = some last)
    (h1 : trueWords.contains (lowerAscii v) = false) (h0 : falseWords.contains (lowerAscii v) = false)
    (n : Int) (hn : pyInt v = some n) :
    mergeFile T pos [(key, .str v)] = .ok (pos ++ List.replicate n.toNat ⟨first, none⟩) := by
  have h1' : lowerAscii v ∉ trueWords := by simpa using h1
  have h0' : lowerAscii v ∉ falseWords := by simpa using h0
  apply mergeFile_positional T hK o ho hdash key hkey _ pos hpos
  simp [convertItem, hlast, hkind, h1', h0', hn, hfirst]

theorem mapM_value_map (f : Str) (vs : List Str) :
    (vs.map fun e => (⟨f, some e⟩ : Arg)).mapM (·.value) = some vs := by
  induction vs with
  | nil => rfl
  | cons v vs ih => simp [List.mapM_cons, ih]

/-- **Config.append_in_order** (command line): repeated `--opt=v` accumulate in the order given -/
theorem append_cli_in_order (o : Opt) (hkind : o.kind = .append) (f : Str) (hf : f ∈ o.flags)
    (vs : List Str) :
    effective o (vs.map fun v => ⟨f, some v⟩) = .many vs := by
  have hocc : occurrences o (vs.map fun v => (⟨f, some v⟩ : Arg)) = vs.map fun v => ⟨f, some v⟩ := by
    apply occurrences_of_all <;> intro a ha <;> obtain ⟨e, -, rfl⟩ := List.mem_map.mp ha
    · exact hf
    · simp [isSep]
  simp only [effective, hkind, hocc, mapM_value_map]

theorem effective_insert_not_on (o : Opt) (l x : List Arg) (hoff : alreadyOn l o.flags = false)
    (hx : ∀ a ∈ x, isSep a = false) :
    effective o (l.take (insertionIndex l) ++ x ++ l.drop (insertionIndex l)) = effective o x := by
  obtain ⟨A, B, h1, h2⟩ := occurrences_insert o l x hx
  rw [occurrences_of_not_on o l hoff] at h1
  obtain ⟨rfl, rfl⟩ := List.append_eq_nil_iff.mp h1.symm
  have h3 : occurrences o x = x.filter fun a => o.flags.contains a.name := by rw [occurrences, live_of_noSep x hx]
  simp only [effective, h2, h3, List.nil_append, List.append_nil]

/-- **Config.append_in_order** (file): a list given in a file for an `append` option that is not on the
command line is what the option accumulates, in the order written. -/
theorem append_in_order (T : List Opt) (hK : KeysDisjoint T) (o : Opt) (ho : o ∈ T)
    (hkind : o.kind = .append) (key : Str) (hkey : key ∈ possibleKeys o) (vs : List Str)
    (cli : List Arg) (hoff : alreadyOn cli o.flags = false) (args : List Arg)
    (hm : mergeFile T cli [(key, .list vs)] = .ok args) :
    effective o args = .many vs := by
  obtain ⟨k', hk', -⟩ := (mem_possibleKeys o key).mp hkey
  obtain ⟨last, hlast⟩ : ∃ last, o.flags.getLast? = some last :=
    ⟨_, List.getLast?_eq_some_getLast (List.ne_nil_of_mem hk')⟩
  have hc : convertItem o (.list vs) = .ok (vs.map fun e => ⟨last, some e⟩) := by
    simp [convertItem, hlast, hkind]
  rw [mergeFile_single T hK o ho key hkey _ cli _ hoff hc, MergeR.ok.injEq] at hm
  rw [← hm, effective_insert_not_on o cli _ hoff fun a ha => by obtain ⟨e, -, rfl⟩ := List.mem_map.mp ha; simp [isSep],
    append_cli_in_order o hkind last (List.mem_of_getLast? hlast)]

/-! ### Non-vacuity: a small table exercised on concrete files and command lines -/

def exTable : List Opt :=
  [⟨["--project-name".toList], .store⟩, ⟨["--privacy".toList], .append⟩,
   ⟨["--warnings-as-errors".toList, "-W".toList], .flag⟩, ⟨["--verbose".toList, "-v".toList], .count⟩]

def exName : Opt := ⟨["--project-name".toList], .store⟩
def exPriv : Opt := ⟨["--privacy".toList], .append⟩

/-- file value used when the option is absent from the command line; command line wins when present -/
example :
    (match mergeFile exTable [] [("project-name".toList, .str "F".toList)] with
     | .ok a => effective exName a | .error _ => .unmodelled) = .one (some "F".toList) ∧
    (match mergeFile exTable [parseArg "--project-name=C".toList] [("project-name".toList, .str "F".toList)] with
     | .ok a => effective exName a | .error _ => .unmodelled) = .one (some "C".toList) := by decide +kernel

/-- an `append` option: the file's list in order; once the option is on the command line the file's list is
dropped (no accumulation across the two sources) -/
example :
    (match mergeFile exTable [] [("privacy".toList, .list ["a".toList, "b".toList])] with
     | .ok a => effective exPriv a | .error _ => .unmodelled) = .many ["a".toList, "b".toList] ∧
    (match mergeFile exTable [parseArg "--privacy=c".toList, parseArg "--privacy=d".toList]
        [("privacy".toList, .list ["a".toList, "b".toList])] with
     | .ok a => effective exPriv a | .error _ => .unmodelled) = .many ["c".toList, "d".toList] := by decide +kernel

/-- an unknown key: one warning, nothing applied, no error -/
example :
    (validate exTable [("nosuch".toList, .str "1".toList), ("project-name".toList, .str "x".toList)]).2 =
      ["nosuch".toList] ∧
    (match mergeFile exTable [] [("nosuch".toList, .str "1".toList), ("project-name".toList, .str "x".toList)] with
     | .ok a => a.map Arg.render | .error _ => []) = ["--project-name=x".toList] := by
  unfold exTable
  repeat rw [String.toList_ofList]
  decide +kernel

/-- file arguments go before the first option of the command line and after its positionals; of several
files the last one read first wins (`reversed(config_streams)`) -/
example :
    (match mergeFiles exTable [parseArg "src".toList, parseArg "-W".toList]
        [[("project-name".toList, .str "toml".toList), ("verbose".toList, .str "2".toList)],
         [("project-name".toList, .str "ini".toList)]] with
     | .ok a => a.map Arg.render | .error _ => []) =
      ["src".toList, "--verbose".toList, "--verbose".toList, "--project-name=ini".toList, "-W".toList] := by
  decide +kernel

/-- the hypotheses of the merge theorems are satisfiable -/
example : FlagsDisjoint exTable ∧ KeysDisjoint exTable ∧ NoSepFlag exTable := by
  unfold exTable
  repeat rw [String.toList_ofList]
  decide +kernel

/-! ## Lists written as a Python list display of quoted strings (INI `key = ["a", "b"]`) -/

def itemsTail (q : Char) : List Str → Str
  | [] => [']']
  | [s] => quote1 q s ++ [']']
  | s :: more => quote1 q s ++ (',' :: ' ' :: itemsTail q more)

def listLit (q : Char) (ss : List Str) : Str := '[' :: itemsTail q ss

theorem evalItems_ws (fuel : Nat) (after : Bool) (c : Char) (t : Str) (hc : isListWs c = true) :
    evalItems fuel after (c :: t) = evalItems fuel after t := by
  cases fuel with
  | zero => rfl
  | succ f => rw [evalItems, evalItems, List.dropWhile_cons_of_pos hc]

theorem evalItems_comma (fuel : Nat) (rest : Str) :
    evalItems (fuel + 1) true (',' :: rest) = evalItems fuel false rest := by
  rw [evalItems.eq_def]
  simp [isListWs, isInlineWs]

theorem evalItems_close (fuel : Nat) (after : Bool) : evalItems (fuel + 1) after [']'] = .ok [] := by
  rw [evalItems.eq_def]
  simp [isListWs, isInlineWs]

/-- one unit of fuel goes to the call; `more` runs on the remaining `fuel + 1` and takes one turn to see that `c`
opens no further literal -/
theorem evalItems_item (q : Char) (hq : IsQ q) (fuel : Nat) (s tail : Str) (c : Char) (hcws : isListWs c = false)
    (hcqc : isQuoteChar c = false) :
    evalItems (fuel + 2) false (quote1 q s ++ c :: tail) = (evalItems (fuel + 1) true (c :: tail)).cons s := by
  have hqws : isListWs q = false := by rcases hq with rfl | rfl <;> decide
  have hqb : q ≠ ']' := (hq.ne_of_not_quoteChar rfl).symm
  have hcq : (c :: tail).head? ≠ some q := fun h => hq.ne_of_not_quoteChar hcqc (Option.some.inj h)
  have hscan := scanLiteral_quote1 q hq s (c :: tail) hcq
  have hdec := decodeEsc_flatMap (esc1 q) (decodeEsc_esc1 q · hq) s
  simp only [quote1, List.cons_append] at hscan ⊢
  rw [evalItems.eq_def]
  simp only [List.dropWhile_cons, hqws, Bool.false_eq_true, if_false, hqb, hq.quoteChar, if_true]
  rw [hscan]
  simp only [hdec]
  rw [evalItems.more.eq_def]
  simp [hcws, hcqc]

theorem evalItems_itemsTail (q : Char) (hq : IsQ q) (ss : List Str) (fuel : Nat)
    (hf : (itemsTail q ss).length ≤ fuel) : evalItems fuel false (itemsTail q ss) = .ok ss := by
  fun_induction itemsTail q ss generalizing fuel with
  | case1 =>
    obtain ⟨f, rfl⟩ : ∃ f, fuel = f + 1 := ⟨fuel - 1, by simp only [List.length_cons] at hf; omega⟩
    exact evalItems_close f false
  | case2 s =>
    obtain ⟨f, rfl⟩ : ∃ f, fuel = f + 2 :=
      ⟨fuel - 2, by simp only [quote1, List.length_append, List.length_cons] at hf; omega⟩
    rw [evalItems_item q hq f s [] ']' rfl rfl, evalItems_close]; rfl
  | case3 s more _ ih =>
    obtain ⟨f, rfl, hf'⟩ : ∃ f, fuel = f + 2 ∧ (itemsTail q more).length ≤ f :=
      ⟨fuel - 2, by simp only [List.length_append, List.length_cons] at hf; omega⟩
    rw [evalItems_item q hq f s _ ',' rfl rfl, evalItems_comma, evalItems_ws _ _ ' ' _ (by decide), ih f hf']; rfl

theorem mem_itemsTail (q : Char) (ss : List Str) (x : Char) (hx : x ∈ itemsTail q ss) :
    (∃ s ∈ ss, FromQuoting q s x) ∨ x ∈ ['[', ',', ' ', ']'] := by
  fun_induction itemsTail q ss with
  | case1 => exact .inr (by simp_all)
  | case2 s =>
    rcases List.mem_append.mp hx with h | h
    · exact .inl ⟨s, by simp, fromQuoting_quote1 q s x h⟩
    · exact .inr (by simp_all)
  | case3 s more _ ih =>
    simp only [List.mem_append, List.mem_cons] at hx
    rcases hx with h | rfl | rfl | h
    · exact .inl ⟨s, by simp, fromQuoting_quote1 q s x h⟩
    · exact .inr (by simp)
    · exact .inr (by simp)
    · rcases ih h with ⟨s', hs', h'⟩ | h'
      · exact .inl ⟨s', List.mem_cons_of_mem _ hs', h'⟩
      · exact .inr h'

theorem mem_listLit (q : Char) (ss : List Str) (x : Char) (hx : x ∈ listLit q ss) :
    (∃ s ∈ ss, FromQuoting q s x) ∨ x ∈ ['[', ',', ' ', ']'] := by
  rcases List.mem_cons.mp hx with rfl | hx
  · exact .inr (by simp)
  · exact mem_itemsTail q ss x hx

theorem getLast?_itemsTail (q : Char) (ss : List Str) : (itemsTail q ss).getLast? = some ']' := by
  fun_induction itemsTail q ss with
  | case1 => rfl
  | case2 s => simp
  | case3 s more _ ih => rw [List.getLast?_append, List.getLast?_cons_cons, List.getLast?_cons, ih]; rfl

theorem evalList_listLit (q : Char) (hq : IsQ q) (ss : List Str) : evalList (listLit q ss) = .ok ss := by
  have hsep : ∀ x ∈ ['[', ',', ' ', ']'], x ≠ '\r' ∧ x ≠ Char.ofNat 0 := by decide
  have hclean := tokenizer_clean (listLit q ss) fun x hx =>
    (mem_listLit q ss x hx).elim (fun ⟨_, _, h⟩ => h.clean hq) (hsep x)
  unfold evalList
  simp only [hclean.1, hclean.2]
  exact evalItems_itemsTail q hq ss _ (by simp [listLit]; omega)

/-- **Config.ini_list_roundtrip** (the code since /repo commit d27392d): a list option written `key = ["a", "b", …]`
in an INI file is read back as that list, in order — whatever the items contain. -/
theorem ini_list_roundtrip (splitMl : Bool) (q : Char) (hq : IsQ q) (ss : List Str) :
    iniValue splitMl (listLit q ss) = .list ss := by
  have hlast : (listLit q ss).getLast? = some ']' := by
    rw [listLit, List.getLast?_cons, getLast?_itemsTail]; rfl
  unfold iniValue iniValueOld
  simp only [noInterp, evalList_listLit q hq ss, hlast]
  simp [listLit]

/-- OLD pipeline (before d27392d): the same needed `%`-free items -/
theorem ini_list_roundtrip_old_partial (interp : Str → InterpR) (hi : PercentFreeId interp) (splitMl : Bool)
    (q : Char) (hq : IsQ q) (ss : List Str) (hs : ∀ s ∈ ss, '%' ∉ s) :
    iniValueOld interp splitMl (listLit q ss) = .list ss :=
  (iniValueOld_eq interp splitMl _ <| hi _ fun h =>
    (mem_listLit q ss _ h).elim (fun ⟨s, hs', h'⟩ => FromQuoting.not_percent hq (hs s hs') h') (by decide)).trans
    (ini_list_roundtrip splitMl q hq ss)

example : iniValue true (listLit '"' ["it's".toList, "a \"b\"".toList, [], "x\ny".toList, "100%".toList]) =
    .list ["it's".toList, "a \"b\"".toList, [], "x\ny".toList, "100%".toList] := by
  repeat rw [String.toList_ofList]
  decide +kernel
example : listLit '\'' ["a".toList, "b'c".toList] = "['a', 'b\\'c']".toList := by
  repeat rw [String.toList_ofList]
  decide +kernel

/-- HISTORICAL counterexample (fixed by d27392d): one item with `%` refused the whole list (and file) -/
theorem ini_list_roundtrip_old_counterexample :
    iniValueOld basicInterp true (listLit '"' ["100%".toList]) = .error .interpolation ∧
    iniValue true (listLit '"' ["100%".toList]) = .list ["100%".toList] := by decide +kernel

/-! ## What counts as a known key, files in order, the rule per action type -/

/-- **the exact rule of `ValidatorParser`**: a key is known iff it is a long option string of some option, with
or without its leading `--` — nothing else (not the `dest`, not `_` for `-`, not another case) -/
theorem isKnown_iff (T : List Opt) (k : Str) :
    isKnown T k = true ↔ ∃ o ∈ T, ∃ k', ('-' :: '-' :: k') ∈ o.flags ∧ (k = k' ∨ k = '-' :: '-' :: k') := by
  simp only [isKnown_iff_mem, mem_possibleKeys]

-- the `dest` (`projectname`), `_` for `-`, another case, a single dash: all unknown; both spellings of the option: known
example : isKnown exTable "projectname".toList = false ∧ isKnown exTable "project_name".toList = false ∧
    isKnown exTable "Project-Name".toList = false ∧ isKnown exTable "-project-name".toList = false ∧
    isKnown exTable "W".toList = false ∧ isKnown exTable "-W".toList = false ∧
    isKnown exTable "project-name".toList = true ∧ isKnown exTable "--project-name".toList = true := by
  unfold exTable
  repeat rw [String.toList_ofList]
  decide +kernel

/-- one turn of `for stream in reversed(config_streams)` -/
def mergeStep (T : List Opt) (acc : MergeR (List Arg)) (f : List (Str × FileVal)) : MergeR (List Arg) :=
  match acc with
  | .ok args => mergeFile T args f
  | e => e

theorem mergeFiles_eq (T : List Opt) (cli : List Arg) (files : List (List (Str × FileVal))) :
    mergeFiles T cli files = files.reverse.foldl (mergeStep T) (.ok cli) := rfl

theorem foldl_mergeStep_error (T : List Opt) (e : MergeErr) (gs : List (List (Str × FileVal))) :
    gs.foldl (mergeStep T) (.error e) = .error e := by
  induction gs with
  | nil => rfl
  | cons g gs ih => exact ih

theorem foldl_merge_keeps (T : List Opt) (hF : FlagsDisjoint T) (hS : NoSepFlag T) (o : Opt) (ho : o ∈ T)
    (gs : List (List (Str × FileVal))) (a r : List Arg) (hon : alreadyOn a o.flags = true)
    (h : gs.foldl (mergeStep T) (.ok a) = .ok r) : effective o r = effective o a := by
  induction gs generalizing a with
  | nil => cases h; rfl
  | cons g gs ih =>
    rw [List.foldl_cons, mergeStep] at h
    cases hg : mergeFile T a g with
    | error e => rw [hg, foldl_mergeStep_error] at h; cases h
    | ok a' =>
      rw [hg] at h
      obtain ⟨f, hf, x, hx, he⟩ := (alreadyOn_iff a o.flags).mp hon
      rw [ih a' (alreadyOn_of_mem a' _ x (mergeFile_keeps T a g a' hg x hx) (he ▸ hf)) h,
        cli_overrides_file T hF hS o ho a g a' hon hg]

/-- **files in order, any number**: the file read first in `reversed(config_streams)` — the LAST of the list:
an explicit `--config` file, else `pydoctor.ini`, `setup.cfg`, `pyproject.toml` — decides every option it sets -/
theorem last_file_wins (T : List Opt) (hF : FlagsDisjoint T) (hS : NoSepFlag T) (o : Opt) (ho : o ∈ T)
    (cli : List Arg) (fs : List (List (Str × FileVal))) (f : List (Str × FileVal)) (a2 args : List Arg)
    (h2 : mergeFile T cli f = .ok a2) (hon : alreadyOn a2 o.flags = true)
    (h : mergeFiles T cli (fs ++ [f]) = .ok args) :
    effective o args = effective o a2 := by
  rw [mergeFiles_eq, List.reverse_append, List.reverse_singleton, List.singleton_append, List.foldl_cons, mergeStep,
    h2] at h
  exact foldl_merge_keeps T hF hS o ho fs.reverse a2 args hon h

/-- two files: the second one decides; no list is accumulated across files (the test vector below) -/
theorem later_file_wins (T : List Opt) (hF : FlagsDisjoint T) (hS : NoSepFlag T) (o : Opt) (ho : o ∈ T)
    (cli : List Arg) (f1 f2 : List (Str × FileVal)) (args2 args : List Arg)
    (h2 : mergeFile T cli f2 = .ok args2) (hon : alreadyOn args2 o.flags = true)
    (h : mergeFiles T cli [f1, f2] = .ok args) :
    effective o args = effective o args2 :=
  last_file_wins T hF hS o ho cli [f1] f2 args2 args h2 hon h

example :
    (match mergeFiles exTable [] [[("privacy".toList, .list ["toml".toList])], [("privacy".toList, .list ["cfg".toList])],
        [("privacy".toList, .list ["ini1".toList, "ini2".toList])]] with
     | .ok a => effective exPriv a | .error _ => .unmodelled) = .many ["ini1".toList, "ini2".toList] := by
  decide +kernel

/-- the command line beats every file, any number of them -/
theorem cli_overrides_files (T : List Opt) (hF : FlagsDisjoint T) (hS : NoSepFlag T) (o : Opt) (ho : o ∈ T)
    (cli : List Arg) (fs : List (List (Str × FileVal))) (args : List Arg)
    (hon : alreadyOn cli o.flags = true) (h : mergeFiles T cli fs = .ok args) :
    effective o args = effective o cli :=
  foldl_merge_keeps T hF hS o ho fs.reverse cli args hon h

/-- **per action type**: `cli_overrides_files` on a command line that holds this option only, under one spelling
(`--opt=v` where it takes a value).  `append` (what C13 relies on for `--privacy`): values given on the command line
REPLACE the file's list -/
theorem append_cli_replaces_file (T : List Opt) (hF : FlagsDisjoint T) (hS : NoSepFlag T) (o : Opt) (ho : o ∈ T)
    (hkind : o.kind = .append) (f : Str) (hf : f ∈ o.flags) (vs : List Str) (hvs : vs ≠ [])
    (fs : List (List (Str × FileVal))) (args : List Arg)
    (h : mergeFiles T (vs.map fun v => ⟨f, some v⟩) fs = .ok args) :
    effective o args = .many vs := by
  obtain ⟨v, vs', rfl⟩ := List.exists_cons_of_ne_nil hvs
  rw [cli_overrides_files T hF hS o ho _ fs args (alreadyOn_of_mem _ _ ⟨f, some v⟩ (by simp) hf) h,
    append_cli_in_order o hkind f hf]

/-- `store`: one `--opt=v` on the command line, and the option has the value `v` whatever the files say -/
theorem store_cli_replaces_file (T : List Opt) (hF : FlagsDisjoint T) (hS : NoSepFlag T) (o : Opt) (ho : o ∈ T)
    (hkind : o.kind = .store) (f : Str) (hf : f ∈ o.flags) (v : Str)
    (fs : List (List (Str × FileVal))) (args : List Arg) (h : mergeFiles T [⟨f, some v⟩] fs = .ok args) :
    effective o args = .one (some v) := by
  rw [cli_overrides_files T hF hS o ho _ fs args (alreadyOn_of_mem _ _ ⟨f, some v⟩ (by simp) hf) h]
  simp [effective, hkind, occurrences, live, isSep, hf]

/-- `count`: the file's count is dropped as soon as the exact option string is on the command line -/
theorem count_cli_replaces_file (T : List Opt) (hF : FlagsDisjoint T) (hS : NoSepFlag T) (o : Opt) (ho : o ∈ T)
    (hkind : o.kind = .count) (f : Str) (hf : f ∈ o.flags) (hsep : f ≠ ['-', '-']) (n : Nat) (hn : n ≠ 0)
    (fs : List (List (Str × FileVal))) (args : List Arg)
    (h : mergeFiles T (List.replicate n ⟨f, none⟩) fs = .ok args) :
    effective o args = .count n := by
  rw [cli_overrides_files T hF hS o ho _ fs args
    (alreadyOn_of_mem _ _ ⟨f, none⟩ (by simp [List.mem_replicate, hn]) hf) h]
  have hocc := occurrences_of_all o (List.replicate n ⟨f, none⟩)
    (fun a ha => (List.mem_replicate.mp ha).2 ▸ hf) (fun a ha => (List.mem_replicate.mp ha).2 ▸ by simp [isSep, hsep])
  simp [effective, hkind, hocc]

/-- `-v`/`-q`: `verbosity` is the difference of the two counts -/
theorem verbosity_spec (a b q : Nat) : verbosity (a + b) q = verbosity a q + b ∧ verbosity a (q + b) = verbosity a q - b := by
  simp only [verbosity, Int.ofNat_eq_natCast, Int.natCast_add]; constructor <;> omega

/-! ### INI: a plain multi-line value is the list of its lines -/

def joinLines (first : Str) (more : List Str) : Str := ['\n'].intercalate (first :: more)

theorem joinLines_cons (first l : Str) (more : List Str) :
    joinLines first (l :: more) = first ++ '\n' :: joinLines l more := by
  simp [joinLines, List.intercalate]

theorem rstripNl_append (a b : Str) (c : Char) (hc : c ≠ '\n') : rstripNl (a ++ c :: b) = a ++ c :: rstripNl b := by
  simp [rstripNl, List.dropWhile_append, hc]

/-- **INI, one item per line**: a value of two or more non-empty lines, the first not starting with a quote or
`[`, is — with `split_ml_text_to_list` — the list of its lines in order (and the text itself without it) -/
theorem ini_multiline_list (c : Char) (r l : Str) (more : List Str)
    (hc : isQuoteChar c = false) (hb : c ≠ '[')
    (hnl : ∀ x ∈ (c :: r) :: l :: more, '\n' ∉ x) (hne : ∀ x ∈ (c :: r) :: l :: more, x ≠ []) :
    iniValue true (joinLines (c :: r) (l :: more)) = .list ((c :: r) :: l :: more) ∧
    iniValue false (joinLines (c :: r) (l :: more)) = .str (joinLines (c :: r) (l :: more)) := by
  -- the newline after the first line is followed by the first character of the second: `rstrip('\n')` keeps it
  have hcontains : '\n' ∈ rstripNl (joinLines (c :: r) (l :: more)) := by
    obtain ⟨d, l', rfl⟩ := List.exists_cons_of_ne_nil (hne l (by simp))
    obtain ⟨t, ht⟩ : ∃ t, joinLines (d :: l') more = d :: t := by cases more <;> exact ⟨_, rfl⟩
    rw [joinLines_cons, ht, List.append_cons,
      rstripNl_append _ _ d fun e => hnl (d :: l') (by simp) (e ▸ List.mem_cons_self)]
    simp
  have hsplit : (joinLines (c :: r) (l :: more)).splitOn '\n' = (c :: r) :: l :: more :=
    List.splitOn_intercalate '\n' hnl (by simp)
  have hfilter : ((c :: r) :: l :: more).filter (fun i => !i.isEmpty) = (c :: r) :: l :: more :=
    List.filter_eq_self.mpr fun x hx => by simpa using hne x hx
  rw [joinLines_cons, List.cons_append] at hcontains hsplit ⊢
  have hq := not_quoted_of_head true (c :: (r ++ '\n' :: joinLines l more)) fun d hd =>
    Option.some.inj hd ▸ hc
  simp [iniValue, iniValueOld, noInterp, hb, hq, hcontains, hsplit, hfilter]

example : iniValue true (joinLines "HIDDEN:a.b".toList ["PUBLIC:a.b.c".toList, "x y".toList]) =
    .list ["HIDDEN:a.b".toList, "PUBLIC:a.b.c".toList, "x y".toList] := by
  repeat rw [String.toList_ofList]
  decide +kernel

/-! ### section names and the TOML section lookup -/

/-- `parse_toml_section_name` on the three names pydoctor uses (`CONFIG_SECTIONS`) -/
theorem section_constants :
    parseSectionName "tool.pydoctor".toList = some ["tool".toList, "pydoctor".toList] ∧
    parseSectionName "tool:pydoctor".toList = some ["tool:pydoctor".toList] ∧
    parseSectionName "pydoctor".toList = some ["pydoctor".toList] := by
  repeat rw [String.toList_ofList]
  decide +kernel

-- the docstring's examples: blanks around the parts, quoted parts (quotes after a blank are not csv quotes)
example : parseSectionName " g .  h  . i ".toList = some ["g".toList, "h".toList, "i".toList] := by
  repeat rw [String.toList_ofList]
  decide +kernel
example : parseSectionName " j . \"k\" . 'l' ".toList = some ["j".toList, "k".toList, "l".toList] := by
  repeat rw [String.toList_ofList]
  decide +kernel
example : parseSectionName "\"a.b\".c".toList = some ["a.b".toList, "c".toList] := by decide +kernel

def pydoctorSectionPaths : List (List Str) :=
  [["tool".toList, "pydoctor".toList], ["tool:pydoctor".toList], ["pydoctor".toList]]

def kTool : Str := "tool".toList
def kPydoctor : Str := "pydoctor".toList

/-- the `[tool.pydoctor]` table is found whatever else the document holds -/
theorem getTomlSection_tool_pydoctor (doc t sec : List (Str × TNode))
    (h1 : lookupNode doc kTool = some (.table t)) (h2 : lookupNode t kPydoctor = some (.table sec))
    (hne : sec ≠ []) (htne : t ≠ []) :
    getTomlSection doc [kTool, kPydoctor] = .found sec := by
  simp [getTomlSection, h1, h2, TNode.truthy, hne, htne]

/-- the first section of the list that exists and is non-empty decides; the later ones are not looked at -/
theorem tomlParse_first (path : List Str) (more : List (List Str)) (doc kvs : List (Str × TNode))
    (h : getTomlSection doc path = .found kvs) :
    tomlParse (path :: more) doc = tomlParse [path] doc := by
  simp only [tomlParse, h]

/-- a section that is absent or empty is skipped -/
theorem tomlParse_skip (path : List Str) (more : List (List Str)) (doc : List (Str × TNode))
    (h : getTomlSection doc path = .notFound) :
    tomlParse (path :: more) doc = tomlParse more doc := by
  simp only [tomlParse, h]

/-- `true`/`false` become the lower-case words (commit 67194dc) the flag conversion understands; the integer zero and
the empty string are not dropped for being falsy -/
theorem tnodeItem_spec (s : Str) :
    tnodeItem (.str s) = some (some (.str s)) ∧
    tnodeItem (.bool true) = some (some (.str "true".toList)) ∧
    tnodeItem (.bool false) = some (some (.str "false".toList)) ∧
    tnodeItem (.int 0) = some (some (.str "0".toList)) ∧
    tnodeItem (.str []) = some (some (.str [])) := by
  refine ⟨rfl, rfl, rfl, by decide +kernel, rfl⟩

/-- a TOML boolean for a flag option means the bare option / nothing -/
theorem toml_bool_flag (o : Opt) (hkind : o.kind = .flag) (last : Str) (hlast : o.flags.getLast? = some last) :
    (match convertItem o (.str "true".toList) with | .ok l => l = [⟨last, none⟩] | .error _ => False) ∧
    (match convertItem o (.str "false".toList) with | .ok l => l = [] | .error _ => False) := by
  rw [(convertItem_flag o hkind last hlast _).1 (by decide +kernel),
    (convertItem_flag o hkind last hlast _).2 (by decide +kernel)]
  exact ⟨rfl, rfl⟩

example :
    (match tomlParse pydoctorSectionPaths
        [("build-system".toList, .table [("requires".toList, .list [] true)]),
         ("tool".toList, .table [("other".toList, .table [("x".toList, .int 1)]),
                                  ("pydoctor".toList, .table [("project-name".toList, .str "P".toList),
                                                               ("verbose".toList, .int 0),
                                                               ("warnings-as-errors".toList, .bool true),
                                                               ("privacy".toList, .list [.str "HIDDEN:a".toList] true)])]),
         ("pydoctor".toList, .table [("project-name".toList, .str "ignored".toList)])] with
     | .ok items => items.map (·.1) | _ => []) =
    ["project-name".toList, "verbose".toList, "warnings-as-errors".toList, "privacy".toList] := by decide +kernel

/-! ### `CompositeConfigParser.parse` -/

def IniName (name : Option Str) : Bool :=
  match name with
  | some n => endsWith n ".ini".toList || endsWith n ".cfg".toList
  | none => false

theorem compositeOrder_eq (name : Option Str) (ps : List ParserKind) :
    compositeOrder name ps = if IniName name then ps.filter (· = .ini) ++ ps.filter (· ≠ .ini) else ps := by
  cases name <;> rfl

theorem compositeOrder_spec (name : Option Str) (ps : List ParserKind) :
    (IniName name = false → compositeOrder name ps = ps) ∧
    (IniName name = true → compositeOrder name ps = ps.filter (· = .ini) ++ ps.filter (· ≠ .ini)) := by
  rw [compositeOrder_eq]
  constructor <;> intro h <;> rw [h] <;> rfl

theorem compositeParse_pydoctor {α : Type} (outcome : ParserKind → Option α) (name : Option Str) :
    compositeParse outcome name pydoctorParsers =
      if IniName name then firstSuccess outcome [.ini, .toml] else firstSuccess outcome [.toml, .ini] := by
  rw [compositeParse, compositeOrder_eq]
  cases IniName name <;> rfl

/-- **an INI file is read with the INI rules**: for a stream named `*.ini` / `*.cfg` the INI parser's result is
the result whenever it accepts the file — whatever the TOML parser would make of it -/
theorem composite_ini_first {α : Type} (outcome : ParserKind → Option α) (name : Option Str) (r : α)
    (hn : IniName name = true) (hi : outcome .ini = some r) :
    compositeParse outcome name pydoctorParsers = some r := by
  simp [compositeParse_pydoctor, hn, firstSuccess, hi]

/-- any other name (`pyproject.toml`, a `--config` file without these extensions, a stream without a name):
TOML first -/
theorem composite_toml_first {α : Type} (outcome : ParserKind → Option α) (name : Option Str) (r : α)
    (hn : IniName name = false) (ht : outcome .toml = some r) :
    compositeParse outcome name pydoctorParsers = some r := by
  simp [compositeParse_pydoctor, hn, firstSuccess, ht]

/-- fall-back: whatever the name, the file is refused iff both parsers refuse it, and when exactly one accepts
it that one's result is used -/
theorem composite_fallback {α : Type} (outcome : ParserKind → Option α) (name : Option Str) :
    (compositeParse outcome name pydoctorParsers = none ↔ outcome .toml = none ∧ outcome .ini = none) ∧
    (outcome .toml = none → compositeParse outcome name pydoctorParsers = outcome .ini) ∧
    (outcome .ini = none → compositeParse outcome name pydoctorParsers = outcome .toml) := by
  rw [compositeParse_pydoctor]
  cases IniName name <;> simp only [firstSuccess] <;>
    cases ht : outcome .toml <;> cases hi : outcome .ini <;> simp

example : IniName (some "./pydoctor.ini".toList) = true ∧ IniName (some "./setup.cfg".toList) = true ∧
    IniName (some "./pyproject.toml".toList) = false ∧ IniName (some "pydoctor.conf".toList) = false ∧
    IniName (some "PYDOCTOR.INI".toList) = false ∧ IniName none = false := by
  unfold IniName
  repeat rw [String.toList_ofList]
  decide +kernel

/-! ### `Options.from_namespace` -/

/-- `--make-html` is on by default unless `--testing` or `--make-intersphinx` is given; given explicitly it is on -/
theorem makeHtml_spec (given testing mi : Bool) : makeHtml given testing mi = (given || (!testing && !mi)) := by
  cases given <;> cases testing <;> cases mi <;> rfl

/-- an explicit `--html-viewsource-template` is kept; without one and without a `--html-viewsource-base` (absent or
empty) the template is the `#L{lineno}` one (other bases: the test vector below) -/
theorem sourceTemplate_spec (t : Str) (base : Option Str) :
    sourceTemplate (some t) base = t ∧ sourceTemplate none none = tmplL ∧ sourceTemplate none (some []) = tmplL := by
  simp [sourceTemplate, viewsourceTemplate]

example : viewsourceTemplate (some "https://github.com/twisted/pydoctor/tree/master".toList) = tmplL ∧
    viewsourceTemplate (some "https://sourceforge.net/p/x/code/HEAD/tree".toList) = tmplSf ∧
    viewsourceTemplate (some "http://bitbucket.org/u/r/src/master".toList) = tmplBb ∧
    viewsourceTemplate (some "https://sourceforge.net".toList) = tmplL ∧
    viewsourceTemplate (some " https://bitbucket.org/x".toList) = tmplL := by
  unfold tmplL tmplSf tmplBb viewsourceTemplate
  repeat rw [String.toList_ofList]
  decide +kernel

/-- `--add-package` entries (the way to give source paths in a file) follow the positional ones, in order -/
theorem finalSourcepath_spec {α : Type} (pos pkgs : List α) :
    finalSourcepath pos pkgs = pos ++ pkgs ∧ finalSourcepath [] pkgs = pkgs := ⟨rfl, rfl⟩

theorem sidebarOk_spec (e t : Int) : sidebarOk e t = true ↔ 1 ≤ e ∧ 0 ≤ t := by
  simp only [sidebarOk, Bool.and_eq_true, Bool.not_eq_true', decide_eq_false_iff_not]
  omega

/-! ## Line-boundary characters, clustered short flags, `[DEFAULT]` -/

/-- only `\n` separates the items of a one-item-per-line value: an item with FF, VT, FS, GS, RS, NEL, U+2028,
U+2029 or CR in its middle stays one item (instance of `ini_multiline_list`, which excludes nothing but `\n`) -/
example :
    iniValue true (joinLines ['a', Char.ofNat 0x0c, 'b'] [['c', Char.ofNat 0x2028, 'd'], ['e', '\r', 'f'],
        ['g', Char.ofNat 0x0b, Char.ofNat 0x1c, Char.ofNat 0x1d, Char.ofNat 0x1e, Char.ofNat 0x85, Char.ofNat 0x2029, 'h']]) =
      .list [['a', Char.ofNat 0x0c, 'b'], ['c', Char.ofNat 0x2028, 'd'], ['e', '\r', 'f'],
        ['g', Char.ofNat 0x0b, Char.ofNat 0x1c, Char.ofNat 0x1d, Char.ofNat 0x1e, Char.ofNat 0x85, Char.ofNat 0x2029, 'h']] := by
  decide +kernel

/-- configargparse looks for EXACT option strings: a cluster of short flags (`-vv`, `-vq`) or an abbreviation does
not count as "the option is on the command line", so the file's count is added to it; `count_cli_replaces_file` says
nothing of them (open findings `cli-clustered-short-count:file-count-added`, `cli-abbreviation:file-not-overridden`) -/
theorem cluster_not_already_on :
    alreadyOn [parseArg "-vv".toList] ["--verbose".toList, "-v".toList] = false ∧
    alreadyOn [parseArg "-vq".toList] ["--verbose".toList, "-v".toList] = false ∧
    alreadyOn [parseArg "--verb".toList] ["--verbose".toList, "-v".toList] = false ∧
    alreadyOn [parseArg "-v".toList, parseArg "-v".toList] ["--verbose".toList, "-v".toList] = true := by
  repeat rw [String.toList_ofList]
  decide +kernel

/-- with `verbose = 1` in a file: `-v -v` gives 2 occurrences (the file's one is dropped), `-vv` leaves the file's
`-v` in the vector next to the cluster -/
example :
    (match mergeFile exTable [parseArg "-v".toList, parseArg "-v".toList] [("verbose".toList, .str "1".toList)] with
     | .ok a => a.map Arg.render | .error _ => []) = ["-v".toList, "-v".toList] ∧
    (match mergeFile exTable [parseArg "-vv".toList] [("verbose".toList, .str "1".toList)] with
     | .ok a => a.map Arg.render | .error _ => []) = ["-v".toList, "-vv".toList] := by decide +kernel

/-- `[DEFAULT]` entries reach every section: a key set only there is applied to pydoctor, one the section sets
itself keeps the section's value (INI semantics of configparser, not a defect) -/
theorem default_section_leaks :
    iniItems true ["tool:pydoctor".toList]
      [("DEFAULT".toList, [("project-name".toList, "leaked".toList), ("verbose".toList, "3".toList)]),
       ("tool:pydoctor".toList, [("verbose".toList, "1".toList)])] =
    some (some [("verbose".toList, .str "1".toList), ("project-name".toList, .str "leaked".toList)]) := by
  repeat rw [String.toList_ofList]
  decide +kernel

theorem sectionItems_spec (defaults own : List (Str × Str)) :
    (∀ kv ∈ own, kv ∈ sectionItems defaults own) ∧
    (∀ d ∈ defaults, (∀ o ∈ own, o.1 ≠ d.1) → d ∈ sectionItems defaults own) ∧
    (∀ d ∈ defaults, (∃ o ∈ own, o.1 = d.1) → d ∈ sectionItems defaults own → d ∈ own) := by
  simp only [sectionItems, List.mem_append, List.mem_filter, Bool.not_eq_true', List.any_eq_false, beq_iff_eq]
  refine ⟨fun kv h => .inl h, fun d hd hno => .inr ⟨hd, hno⟩, ?_⟩
  rintro d - ⟨o, ho, he⟩ (h | ⟨-, h⟩)
  · exact h
  · exact absurd he (h o ho)

/-! ## Historical: before the value check of `ValidatorParser` (ae278e0), the text of TOML booleans before 67194dc -/

def MergeR.err {α : Type} : MergeR α → Option MergeErr
  | .error e => some e
  | .ok _ => none
def MergeR.val {α : Type} : MergeR α → Option α
  | .ok a => some a
  | .error _ => none

/-- HISTORICAL counterexamples (fixed by ae278e0): `verbose = x` and a list for a flag reached configargparse and
escaped as ValueError / AssertionError; today both are option errors -/
theorem bad_count_old_counterexample :
    (mergeFileOld exTable [] [("verbose".toList, .str "x".toList)]).err = some .intValueError ∧
    (mergeFileOld exTable [] [("warnings-as-errors".toList, .list ["true".toList])]).err = some .assertion ∧
    (mergeFile exTable [] [("verbose".toList, .str "x".toList)]).err = some .badValue ∧
    (mergeFile exTable [] [("warnings-as-errors".toList, .list ["true".toList])]).err = some .badValue ∧
    (mergeFile exTable [] [("verbose".toList, .str " 2".toList)]).val =
      some [parseArg "--verbose".toList, parseArg "--verbose".toList] := by
  unfold exTable
  repeat rw [String.toList_ofList]
  decide +kernel

/-- HISTORICAL counterexample (fixed by 67194dc): a TOML boolean for a string option read `True`; today it is the
word an INI file or the command line carries (inside an array `str(i)` still capitalises) -/
theorem toml_bool_text_old_counterexample :
    tomlItemOld (.scalar (.bool true)) = some (.str "True".toList) ∧
    tomlItem (.scalar (.bool true)) = some (.str "true".toList) ∧
    tomlItem (.scalar (.bool false)) = some (.str "false".toList) ∧
    tomlItem (.list [.bool true]) = some (.list ["True".toList]) := by decide +kernel

/-! ## Kernel-checked witnesses of what the code does on the inputs of the open findings

The readings "an unknown key never aborts", "every string written quoted in a list is read back", "a `*.toml` file is
read with TOML rules", "every option can be set from a file" are FALSE of the code; the statements proved above hold
under the hypotheses they name (`unknown_key_not_applied` is about the items the file parser returns,
`ini_multiline_list` about a first line that does not start with a quote and claims no unquoting, `composite_toml_first`
about a TOML parser that accepts the file).  Each witness names the signature of its finding in the harness. -/

/-- `unknown-key:aborts:unevaluable-ini-value`: `IniConfigParser.parse` evaluates every value before the validator sees
the keys, so an UNKNOWN key with a bracketed or quoted value that does not evaluate refuses the whole file (exit 2) -/
theorem unknown_key_bad_value_counterexample :
    iniItems true ["tool:pydoctor".toList]
      [("tool:pydoctor".toList, [("project-name".toList, "Demo".toList), ("future-option".toList, "[a, b]".toList)])] = some none ∧
    iniItems true ["tool:pydoctor".toList]
      [("tool:pydoctor".toList, [("future-option".toList, ['\'', 'C', ':', '\\', 'x', '\'']), ("project-name".toList, "Demo".toList)])] = some none ∧
    iniItems true ["tool:pydoctor".toList]
      [("tool:pydoctor".toList, [("project-name".toList, "Demo".toList), ("future-option".toList, "a, b".toList)])] =
      some (some [("project-name".toList, .str "Demo".toList), ("future-option".toList, .str "a, b".toList)]) := by
  repeat rw [String.toList_ofList]
  decide +kernel

/-- `ini-multiline-list:quoted-items-keep-quotes`: the lines of a one-item-per-line value are not unquoted (pydoctor's
own test asserts this) -/
theorem ini_multiline_quoted_items_counterexample :
    iniValue true (joinLines "a".toList [['"', 'b', '"'], ['\'', 'c', ' ', '\'']]) =
      .list ["a".toList, ['"', 'b', '"'], ['\'', 'c', ' ', '\'']] ∧
    iniValue true ['"', 'b', '"'] = .str ['b'] := by decide +kernel

/-- `toml-file-read-as-ini:quoted-value-differs`: for `pyproject.toml` the INI parser is the fall-back: when the toml
package refuses the file (it knows TOML 0.5 only) and the INI parser accepts it, the INI reading is used, silently
(instance of `composite_fallback`) -/
theorem toml_file_falls_back_to_ini {α : Type} (outcome : ParserKind → Option α) (r : α)
    (ht : outcome .toml = none) (hi : outcome .ini = some r) :
    compositeParse outcome (some "./pyproject.toml".toList) pydoctorParsers = some r := by
  rw [(composite_fallback outcome _).2.1 ht, hi]

/-- `config-key-in-file:neither-applied-nor-warned`, fixed by /repo commit 6190835: `ValidatorParser` does not count the
keys of the config-file option as known, so `config = …` in a file is warned about once and not applied (instance of
`unknown_key_filtered` on a table without that option) -/
theorem config_key_unknown :
    (validate exTable [("config".toList, .str "extra.ini".toList), ("project-name".toList, .str "x".toList)]).2 = ["config".toList] ∧
    (mergeFile exTable [] [("config".toList, .str "extra.ini".toList), ("project-name".toList, .str "x".toList)]).val =
      some [parseArg "--project-name=x".toList] := by
  unfold exTable
  repeat rw [String.toList_ofList]
  decide +kernel

/-- HISTORICAL counterexample (fixed by 6190835): with the config-file option in the validator's table the key `config` was
known: no warning, and the item only became a late `--config=…` argument — no file was read for it -/
theorem config_key_old_counterexample :
    (validate (⟨["-c".toList, "--config".toList], .store⟩ :: exTable) [("config".toList, .str "extra.ini".toList)]).2 = [] ∧
    (mergeFile (⟨["-c".toList, "--config".toList], .store⟩ :: exTable) [] [("config".toList, .str "extra.ini".toList)]).val =
      some [parseArg "--config=extra.ini".toList] := by
  unfold exTable
  repeat rw [String.toList_ofList]
  decide +kernel

/-- `positional-equal-to-option-string:file-value-dropped`: a source path equal to an option string counts as the option
being on the command line (`already_on_command_line` looks at every argument, also behind `--`): the file's value is
dropped -/
theorem positional_equal_to_option_string_counterexample :
    (mergeFile exTable [parseArg "--".toList, parseArg "--verbose".toList] [("verbose".toList, .str "1".toList)]).val =
      some [parseArg "--".toList, parseArg "--verbose".toList] ∧
    effective ⟨["--verbose".toList, "-v".toList], .count⟩ [parseArg "--".toList, parseArg "--verbose".toList] = .count 0 := by
  decide +kernel

end Config
