/-
C04, re-exports, layer C — the move: `doMove` (= `Documentable.reparent` onto the free name of
the re-exporter) preserves the relocated invariant.
-/
import PdProps.C04ReexpB

namespace Imports.Rx
open Registry Imports

/-! ## structure of module paths and sites -/

/-- a proper, non-empty prefix of a module path is the path of a package -/
theorem mod_path_prefix {proj : Project} {rank : List Nat} (wf : WFacts proj rank) :
    ∀ (k m : Nat) (p q : Path), q.length = k → m < proj.length → pathOf proj m = p ++ q → p ≠ [] → q ≠ [] →
      ∃ t, modIdx proj p = some t ∧ isPkg proj t = true
  | 0, _, _, q, hk, _, _, _, hq => absurd (List.eq_nil_of_length_eq_zero hk) hq
  | k+1, m, p, q, hk, hm, hpq, hp, hq => by
    obtain ⟨_, hpar⟩ := wf.parentOk m hm
    have hlen : 2 ≤ (pathOf proj m).length := by
      rw [hpq, List.length_append]
      have := List.length_pos_iff.2 hp; omega
    obtain ⟨par, hparm, _, hpk⟩ := hpar hlen
    have hdl : (pathOf proj m).dropLast = p ++ q.dropLast := by
      rw [hpq, List.dropLast_append_of_ne_nil hq]
    rw [hdl] at hparm
    by_cases hq' : q.dropLast = []
    · rw [hq', List.append_nil] at hparm; exact ⟨par, hparm, hpk⟩
    · obtain ⟨hparlt, hparp⟩ := modIdx_spec hparm
      exact mod_path_prefix wf k par p q.dropLast (by simp [hk]) hparlt hparp hp hq'

theorem plain_no_submodule {proj : Project} {rank : List Nat} (wf : WFacts proj rank) {d m : Nat} (hd : d < proj.length)
    (hplain : isPkg proj d = false) (hm : m < proj.length) {q : Path} (hq : q ≠ [])
    (he : pathOf proj m = pathOf proj d ++ q) : False := by
  obtain ⟨t, ht, hpk⟩ := mod_path_prefix wf _ m (pathOf proj d) q rfl hm he (wf.parentOk d hd).1 hq
  rw [modIdx_of_path wf.modNodup hd] at ht
  injection ht with ht; subst ht
  rw [hplain] at hpk; cases hpk

/-- the object of a top-level definition sits directly below a module: its own, or the one that re-exports it -/
theorem loc_top (proj : Project) (s : St) {m : Nat} (hm : m < proj.length) (n : Name) :
    ∃ x a, x < proj.length ∧ loc proj s (m, [n]) = pathOf proj x ++ [a] := by
  rcases relocSite_cases proj (movedB proj s) (m, [n]) with h | ⟨r, hr, rest, hSe, _, h⟩
  · exact ⟨m, n, hm, h⟩
  · cases hSe
    exact ⟨r.2.2.1, r.2.2.2, (req_stmt hr).1, h.trans (List.append_nil _)⟩

theorem below_sites {proj : Project} {rank : List Nat} (wf : WFacts proj rank) (rx : RxFacts proj) {s : St}
    (hI : PdInv proj s) {d : Nat} {n : Name} {ob : Nat} (hd : d < proj.length) (hplain : isPkg proj d = false)
    (hSn : StaticSite proj (d, [n])) (hob : path s.reg ob = some (pathOf proj d ++ [n]))
    (hun : ∀ rest, loc proj s (d, n :: rest) = pathOf proj d ++ n :: rest) :
    ∀ i, Below s.reg.objs ob i → ∀ S, StaticSite proj S → path s.reg i = some (loc proj s S) →
      ∃ rest, S = (d, n :: rest) := by
  intro i hb
  induction hb with
  | refl =>
    intro S hS hp
    exact ⟨[], loc_inj wf rx s hS hSn (by rw [hun]; exact Option.some.inj (hp.symm.trans hob))⟩
  | @step i o p ho hpar _ ih =>
    intro S hS hpi
    obtain ⟨Si, hki, hpi'⟩ := hI.site i o ho
    obtain rfl : S = Si := loc_inj wf rx s hS hki.static (Option.some.inj (hpi.symm.trans hpi'))
    obtain ⟨pq, hpq, he⟩ := (path_sound hpi).child_inv ho hpar
    obtain ⟨Sp, hkp, hpp⟩ := hI.site p _ (List.getElem?_eq_getElem hpq.lt)
    obtain ⟨restp, rfl⟩ := ih Sp hkp.static hpp
    obtain rfl : pq = loc proj s (d, n :: restp) := hpq.func (path_sound hpp)
    rw [hun] at he
    -- the parent sits at `d.n…` and no module path goes through the plain module `d`: the child is neither a module
    -- nor a top-level definition
    have hno : ∀ m, m < proj.length → ∀ q, pathOf proj m ≠ (pathOf proj d ++ n :: restp) ++ q := fun m hm q e =>
      plain_no_submodule wf hd hplain hm (q := n :: restp ++ q) (by simp) (by rw [e]; simp)
    generalize o.cls = cj at hki
    cases hki with
    | @mod m0 hm' => exact absurd ((loc_mod proj s m0).symm.trans he) (hno m0 hm' _)
    | @dfn m cp b0 st n' c hb0 hst hkind =>
      by_cases hcp : cp = []
      · subst hcp
        obtain ⟨m', x', hm', e⟩ := loc_top proj s (siteBody_lt hb0) n'
        exact absurd ((List.append_inj' (e.symm.trans he) rfl).1.trans (List.append_nil _).symm) (hno m' hm' [])
      · rw [loc_snoc proj s (S := (m, cp)) hcp n'] at he
        obtain ⟨rfl, rfl⟩ := Prod.mk.inj (loc_inj wf rx s (static_of_body hb0) hkp.static
          (by rw [hun]; exact (List.append_inj' he rfl).1))
        exact ⟨restp ++ [n'], rfl⟩

/-! ## the move -/

/-- the registry after `reparent s.reg ob x a` (onto a free name), read entry by entry: the objects are the old ones,
the definer's alias for `n` is the new name and its entry `n` is gone, the re-exporter holds `ob` under `a`, every other
entry reads as before; below `ob` the names change their prefix, elsewhere they stay -/
structure MoveReg (proj : Project) (s : St) (r' : State) (d : Nat) (n : Name) (x : Nat) (a : Name) (ob : Nat) : Prop where
  inv : Inv r'
  back : ∀ (w : Nat) (wo' : Obj), r'.objs[w]? = some wo' → ∃ wo, s.reg.objs[w]? = some wo
  obj : ∀ (w : Nat) (wo : Obj), s.reg.objs[w]? = some wo → ∃ wo' : Obj, r'.objs[w]? = some wo' ∧ wo'.cls = wo.cls ∧
    (∀ k, dget wo'.aliases k = if w = d ∧ k = n then some (pathOf proj x ++ [a]) else dget wo.aliases k) ∧
    (∀ k, dget wo'.contents k =
      if w = d ∧ k = n then none else if w = x ∧ k = a then some ob else dget wo.contents k)
  keep : ∀ i k, path s.reg i = some k → ¬Below s.reg.objs ob i → path r' i = some k
  moved : ∀ i rest, path s.reg i = some (pathOf proj d ++ [n] ++ rest) → path r' i = some (pathOf proj x ++ [a] ++ rest)

theorem moveReg_of {proj : Project} {s : St} (hI : Inv s.reg) {d x ob : Nat} {n a : Name} {r' : State} (hdx : d ≠ x)
    {od : Obj} (hod : s.reg.objs[d]? = some od) (hdc : dget od.contents n = some ob)
    (hpd : path s.reg d = some (pathOf proj d)) (hpx : path s.reg x = some (pathOf proj x))
    (hfree : dget s.reg.all (pathOf proj x ++ [a]) = none)
    (h : reparent s.reg ob x a = .ok r') : MoveReg proj s r' d n x a ob := by
  have hA : path s.reg ob = some (pathOf proj d ++ [n]) := path_child hI hod hdc hpd
  obtain ⟨hI', o, op, opo, oc, F, _⟩ := reparent_free hI h hA hpx hfree
  obtain ⟨hkeep, hmoved⟩ := reparent_free_paths hI h hA hpx hfree
  obtain ⟨co, hco, hcp, hcn⟩ := hI.tree.coh d od n ob hod (mem_of_dget hdc)
  obtain rfl : co = o := Option.some.inj (hco.symm.trans F.ho)
  obtain rfl : d = op := Option.some.inj (hcp.symm.trans F.hop)
  obtain rfl : od = opo := Option.some.inj (hod.symm.trans F.hopo)
  have hdd := F.hdd
  rw [hcn] at hdd
  -- the definer's entries without `n`
  have hoc : ∀ k, dget oc k = if k = n then none else dget od.contents k := by
    intro k
    split
    · rename_i hk
      exact dget_none_iff.2 fun v hm => (((ddel_spec (hI.tree.cuniq d od hod) hdd).2 k v).1 hm).1 hk
    · rename_i hk; exact ddel_get_other _ _ _ _ hdd hk
  refine ⟨hI', fun w wo' hw => (reparent_cls hI h hw).imp fun _ => And.left, fun w wo hwo => ?_, hkeep, hmoved⟩
  obtain ⟨G, h1, h2⟩ := F.fields w
  obtain ⟨g4, g3, g5⟩ := h2 wo
  refine ⟨G wo, by rw [h1, hwo]; rfl, g4, fun k => ?_, fun k => ?_⟩
  · rw [g5, hcn]
    by_cases hw : w = d
    · rw [if_pos hw, dget_dset]; simp [hw]
    · simp [hw]
  · rw [g3]
    by_cases hw : w = d
    · subst hw
      obtain rfl : wo = od := Option.some.inj (hwo.symm.trans hod)
      simp [hdx, hoc]
    · by_cases hx : w = x
      · simp [hx, dget_dset, Ne.symm hdx]
      · simp [hw, hx]

/-- **the move preserves the invariant**: a request `(d, n, x, a)` whose definer `d` is processed, that
has not been carried out, whose re-exporter `x` is being processed (`hxp`) and holds no entry `a` yet (`hxc`: the new
name is free), is carried out by `doMove` (when it raises nothing): every object below `d.n`
is afterwards the object of its site at the relocated name `x.a…` -/
theorem doMove_ok {proj : Project} {rank : List Nat} (wf : WFacts proj rank) (rx : RxFacts proj) {s : St}
    (hI : PdInv proj s) {d x : Nat} {n a : Name} (hr : ((d, n, x, a) : Req) ∈ reexportReqs proj)
    (hnm : movedB proj s (d, n, x, a) = false) (hdp : getPs s d = .processed) (hxp : getPs s x = .processing)
    {od : Obj} {ob : Nat} (hod : s.reg.objs[d]? = some od) (hdc : dget od.contents n = some ob)
    {ox : Obj} (hox : s.reg.objs[x]? = some ox) (hxc : dget ox.contents a = none)
    (hns : isSupersededName a = false) (hb : (doMove s x ob a).1.bad = false) :
    (doMove s x ob a).2 = true ∧ PdInv proj (doMove s x ob a).1 ∧ Ext proj s (doMove s x ob a).1 ∧
    movedB proj (doMove s x ob a).1 (d, n, x, a) = true ∧ HasEntry (doMove s x ob a).1 x a ∧
    (doMove s x ob a).1.ps = s.ps ∧ (doMove s x ob a).1.alls = s.alls ∧ (doMove s x ob a).1.cinfo = s.cinfo ∧
    FrameX proj (some x) [a] s (doMove s x ob a).1 := by
  have hdl : d < proj.length := req_definer_lt hr
  have hxl : x < proj.length := (req_stmt hr).1
  obtain ⟨hdx, hplain, hdef, _⟩ := rx.reqOk _ hr
  simp only at hdx hplain hdef
  obtain ⟨od0, hod0, hpd, _⟩ := hI.mods d hdl
  obtain ⟨ox0, hox0, hpx, _⟩ := hI.mods x hxl
  have hA : path s.reg ob = some (pathOf proj d ++ [n]) := path_child hI.reg hod hdc hpd
  have hfree : dget s.reg.all (pathOf proj x ++ [a]) = none :=
    fresh_of_not_content hI.reg hox hpx hns hxc
  revert hb
  fun_cases doMove s x ob a
  case case2 e hrp => nofun
  case case1 r' hrp =>
  intro _
  have M := moveReg_of (proj := proj) hI.reg hdx hod hdc hpd hpx hfree hrp
  generalize hs' : ({ s with reg := r', bad := _ } : St) = s'
  have hps' : ∀ t, getPs s' t = getPs s t := fun t => by rw [← hs']; rfl
  replace M : MoveReg proj s s'.reg d n x a ob := by rw [← hs']; exact M
  -- the site of the moved definition
  obtain ⟨st0, hst0, hd0, _⟩ := definesTop_spec hdef
  have hSn : StaticSite proj (d, [n]) := def_static (siteBody_zero hdl) hst0 hd0
  have hlocs : ∀ rest, loc proj s (d, n :: rest) = pathOf proj d ++ n :: rest := by
    intro rest
    have : loc proj s (d, n :: rest) = sitePath proj (d, n :: rest) :=
      relocSite_unmoved (fun r hr' h1 h2 => by
        simp only [List.head?_cons, Option.some.injEq] at h2
        have := rx.same hr' hr h1 h2.symm
        subst this; exact hnm)
    rw [this]; simp [sitePath]
  have hsites := below_sites wf rx hI hdl hplain hSn hA hlocs
  -- which moves have happened afterwards
  have hmvr : movedB proj s' (d, n, x, a) = true := by
    obtain ⟨od', hod', _, hal, _⟩ := M.obj d od hod
    unfold movedB
    simp only [hod', hal, and_self, if_true, beq_self_eq_true]
  have hmvo : ∀ r ∈ reexportReqs proj, r ≠ (d, n, x, a) → movedB proj s' r = movedB proj s r := by
    intro r hr' hne
    obtain ⟨om, hom, _, _⟩ := hI.mods r.1 (req_definer_lt hr')
    obtain ⟨om', hom', _, hal, _⟩ := M.obj r.1 om hom
    exact movedB_of_alias hom hom' (by rw [hal, if_neg fun h => hne (rx.same hr' hr h.1 h.2)])
  have hmono : ∀ r ∈ reexportReqs proj, movedB proj s r = true → movedB proj s' r = true := by
    intro r hr' h
    by_cases he : r = (d, n, x, a)
    · subst he; exact hmvr
    · rw [hmvo r hr' he]; exact h
  -- locations afterwards
  have hloc_in : ∀ rest, loc proj s' (d, n :: rest) = pathOf proj x ++ [a] ++ rest :=
    fun rest => relocSite_moved rx hr hmvr rest
  have hloc_out : ∀ S : Site, (¬∃ rest, S = (d, n :: rest)) → loc proj s' S = loc proj s S :=
    fun S hS => relocSite_congr S fun r hr' h1 h2 => hmvo r hr' fun he => by
      subst he
      obtain ⟨rest, h2⟩ := List.head?_eq_some_iff.1 h2
      exact hS ⟨rest, Prod.ext h1.symm h2⟩
  -- every object stays the object of its site: the sites `(d, n :: rest)` are those of the objects below `ob`
  have hfwd : ∀ i S, path s.reg i = some (loc proj s S) → StaticSite proj S → path s'.reg i = some (loc proj s' S) := by
    intro i S hp hS
    by_cases hSd : ∃ rest, S = (d, n :: rest)
    · obtain ⟨rest, rfl⟩ := hSd
      rw [hloc_in]
      exact M.moved i rest (by rw [hp, hlocs]; simp)
    · rw [hloc_out S hSd]
      exact M.keep i _ hp fun hbi => hSd (hsites i hbi S hS hp)
  have hext : Ext proj s s' := by
    refine ⟨fun i o ho => ?_, hfwd, fun t => by rw [hps' t]; exact PsRel.refl s t, hmono⟩
    obtain ⟨o', ho', hcl, hal, hco⟩ := M.obj i o ho
    refine ⟨o', ho', hcl, fun k hk => ?_⟩
    rw [hal, hco]
    by_cases h1 : i = d ∧ k = n
    · simp [h1]
    · rw [if_neg h1, if_neg h1]
      by_cases h2 : i = x ∧ k = a
      · simp [h2]
      · rw [if_neg h2]; exact hk
  obtain ⟨ox', hox', _, _, hxa⟩ := M.obj x ox hox
  replace hxa : dget ox'.contents a = some ob := by rw [hxa, if_neg fun h => hdx h.1.symm, if_pos ⟨rfl, rfl⟩]
  have hentry : HasEntry s' x a := ⟨ox', hox', Or.inl (by rw [hxa]; simp)⟩
  have hframe : FrameX proj (some x) [a] s s' := by
    intro i o ho _
    obtain ⟨o', ho', _, _, hco⟩ := M.obj i o ho
    refine ⟨o', ho', fun k hk hd' => ?_⟩
    rw [hco]
    split
    · rfl
    · rw [if_neg fun h => hk (by rw [h.1]) (by simp [h.2])]; exact hd'
  obtain ⟨h1, h2, h3⟩ : s'.ps = s.ps ∧ s'.alls = s.alls ∧ s'.cinfo = s.cinfo := by rw [← hs']; exact ⟨rfl, rfl, rfl⟩
  refine ⟨rfl, ?_, hext, hmvr, hentry, h1, h2, h3, hframe⟩
  refine hI.carry wf rx M.inv hext h1 h2 h3
    (fun i o' ho' => Or.inl (M.back i o' ho')) ?_ ?_ (fun r hr' hm => ?_) ?_
  · intro i o' S' ho' hp' hS' y tgt hy
    obtain ⟨o, ho⟩ := M.back i o' ho'
    obtain ⟨o'', ho'', _, hal, _⟩ := M.obj i o ho
    obtain rfl : o'' = o' := Option.some.inj (ho''.symm.trans ho')
    obtain ⟨S0, hk, hp⟩ := hI.site i o ho
    obtain rfl : S' = S0 :=
      loc_inj wf rx s' hS' hk.static (Option.some.inj (hp'.symm.trans (hfwd i S0 hp hk.static)))
    rw [hal] at hy
    split at hy
    · rename_i h
      obtain ⟨hid, hyn⟩ := h
      subst hid; subst hyn
      injection hy with hy; subst hy
      obtain rfl := hI.mod_site wf rx hdl hS' hp
      exact JpdR.marker hr
    · exact hI.alias i o S' ho hp hS' y tgt hy
  · intro m o' hm ho' y c hy
    obtain ⟨o, ho⟩ := M.back m o' ho'
    obtain ⟨o'', ho'', _, _, hco⟩ := M.obj m o ho
    obtain rfl : o'' = o' := Option.some.inj (ho''.symm.trans ho')
    rw [hco] at hy
    split at hy
    · cases hy
    · split at hy
      · rename_i h
        exact Or.inr (Or.inr ⟨(d, n, x, a), hr, h.1.symm, h.2.symm, hmvr⟩)
      · exact Or.inl ⟨o, c, ho, hy⟩
  · by_cases he : r = (d, n, x, a)
    · subst he
      exact Or.inr ⟨hdp, by simp only; rw [hxp]; simp⟩
    · exact Or.inl (by rw [← hmvo r hr' he]; exact hm)
  · intro r hr' hm
    by_cases he : r = (d, n, x, a)
    · subst he
      exact ⟨ox', ob, hox', hxa⟩
    · rw [hmvo r hr' he] at hm
      obtain ⟨o, c, ho, hd⟩ := hI.movedIn r hr' hm
      obtain ⟨o', ho', _, _, hco⟩ := M.obj r.2.2.1 o ho
      -- the new name of `r` is import-bound in its re-exporter, so it is not the definition `n` of `d`
      have hne : ¬ (r.2.2.1 = d ∧ r.2.2.2 = n) := by
        rintro ⟨hid, hcontra⟩
        obtain ⟨_, hbx, lvl, M', asn, hst', ha', _⟩ := req_stmt hr'
        exact import_name_not_req wf rx hbx hst' (k := r.2.2.2) (stmtNames_of_explicit (by simp [explicitNames, ha'])) rfl
          (d, n, x, a) hr (by simp [hid]) rfl hcontra.symm
      by_cases h2 : r.2.2.1 = x ∧ r.2.2.2 = a
      · exact ⟨o', ob, ho', by rw [hco, if_neg hne, if_pos h2]⟩
      · exact ⟨o', c, ho', by rw [hco, if_neg hne, if_neg h2]; exact hd⟩

end Imports.Rx
