/-
C04, re-exports, layer B — the invariant of the pydoctor machine with RELOCATED paths:
`PdInv` (here `Rx.PdInv`) says `path i = loc s S` where `loc` relocates the sites below a moved top-level
definition; which moves have happened is read off the state (`movedB`: the alias `reparent` left in
the definer).  `Ext` (what persists from state to state), and the primitive steps `setAlias`, `addObj`.

`PdInv`, `Ext`, `CompleteStmt(s)`, `Ctx`, `FrameX`, `Pending` of this namespace are the counterparts, for states with
moves, of the definitions of the same names in PdProps/C04Pd.lean (each docstring says what the move changes).
-/
import PdProps.C04ReexpA

namespace Imports.Rx
open Registry Imports

/-! ## which moves have happened; the location of a site -/

/-- the re-export `r` has been carried out: the definer holds the alias `reparent` leaves behind -/
def movedB (proj : Project) (s : St) (r : Req) : Bool :=
  match s.reg.objs[r.1]? with
  | some o => dget o.aliases r.2.1 == some (pathOf proj r.2.2.1 ++ [r.2.2.2])
  | none => false

/-- the qualified name of the object of site `S` in state `s` -/
def loc (proj : Project) (s : St) (S : Site) : Path := relocSite proj (movedB proj s) S

theorem loc_mod (proj : Project) (s : St) (m : Nat) : loc proj s (m, []) = pathOf proj m := by
  simp [loc, relocSite, sitePath]

theorem loc_snoc (proj : Project) (s : St) {S : Site} (hS : S.2 ≠ []) (n : Name) :
    loc proj s (S.1, S.2 ++ [n]) = loc proj s S ++ [n] := relocSite_snoc proj _ hS n

theorem loc_inj {proj : Project} {rank : List Nat} (wf : WFacts proj rank) (rx : RxFacts proj) (s : St) {S S' : Site}
    (hS : StaticSite proj S) (hS' : StaticSite proj S') (h : loc proj s S = loc proj s S') : S = S' :=
  relocSite_inj wf rx _ hS hS' h

theorem loc_congr {proj : Project} {s s' : St} (h : ∀ r ∈ reexportReqs proj, movedB proj s' r = movedB proj s r)
    (S : Site) : loc proj s' S = loc proj s S := relocSite_congr S (fun r hr _ _ => h r hr)

/-! ## what a visited statement leaves behind -/

mutual
/-- every binding statement of a visited body left an entry in the scope's object; a class statement a
class object (found at the location of its site) whose own body is complete; a re-exporting import its move -/
def CompleteStmt (proj : Project) (s : St) (S : Site) (ctx : Nat) : Stmt → Prop
  | .classDef n _ body => HasEntry s ctx n ∧ StaticSite proj (S.1, S.2 ++ [n]) ∧
      ∃ c o, path s.reg c = some (loc proj s (S.1, S.2 ++ [n])) ∧
      s.reg.objs[c]? = some o ∧ o.cls = .cls ∧ CompleteStmts proj s (S.1, S.2 ++ [n]) c body
  | .importMod t a => ∀ x ∈ explicitNames (.importMod t a), HasEntry s ctx x
  | .importFrom lvl M n a => HasEntry s ctx (a.getD n) ∧
      ∀ d, S.2 = [] → target proj S.1 lvl M = some d → ((d, n, S.1, a.getD n) : Req) ∈ reexportReqs proj →
        movedB proj s (d, n, S.1, a.getD n) = true
  | .importStar _ _ => True
  | .funcDef n => HasEntry s ctx n
  | .assign n _ => HasEntry s ctx n
  | .allAssign _ => True
def CompleteStmts (proj : Project) (s : St) (S : Site) (ctx : Nat) : List Stmt → Prop
  | [] => True
  | st :: rest => CompleteStmt proj s S ctx st ∧ CompleteStmts proj s S ctx rest
end

/-- the later state extends the earlier one: objects and their classes persist, entries persist (as
an entry of `contents` or of the alias map), every object stays the object of its site, moves are not undone -/
structure Ext (proj : Project) (s s' : St) : Prop where
  objs : ∀ (i : Nat) (o : Obj), s.reg.objs[i]? = some o → ∃ o' : Obj, s'.reg.objs[i]? = some o' ∧ o'.cls = o.cls ∧
    (∀ k, (dget o.contents k ≠ none ∨ dget o.aliases k ≠ none) → (dget o'.contents k ≠ none ∨ dget o'.aliases k ≠ none))
  sites : ∀ i S, path s.reg i = some (loc proj s S) → StaticSite proj S → path s'.reg i = some (loc proj s' S)
  ps : PsRel s s'
  moved : ∀ r ∈ reexportReqs proj, movedB proj s r = true → movedB proj s' r = true

theorem Ext.refl (proj : Project) (s : St) : Ext proj s s :=
  ⟨fun _ o h => ⟨o, h, rfl, fun _ h => h⟩, fun _ _ h _ => h, PsRel.refl s, fun _ _ h => h⟩

theorem Ext.trans {proj : Project} {a b c : St} (h1 : Ext proj a b) (h2 : Ext proj b c) : Ext proj a c := by
  refine ⟨fun i o ho => ?_, fun i S hp hS => h2.sites i S (h1.sites i S hp hS) hS, h1.ps.trans h2.ps,
    fun r hr h => h2.moved r hr (h1.moved r hr h)⟩
  obtain ⟨o1, ho1, c1, e1⟩ := h1.objs i o ho
  obtain ⟨o2, ho2, c2, e2⟩ := h2.objs i o1 ho1
  exact ⟨o2, ho2, c2.trans c1, fun k h => e2 k (e1 k h)⟩

theorem hasEntry_ext {proj : Project} {s s' : St} (h : Ext proj s s') {ctx : Nat} {x : Name} (he : HasEntry s ctx x) :
    HasEntry s' ctx x := by
  obtain ⟨o, ho, hx⟩ := he
  obtain ⟨o', ho', _, hc⟩ := h.objs ctx o ho
  exact ⟨o', ho', hc x hx⟩

/-- what `CompleteStmt` needs of a later state: entries persist, class objects stay at the location of their site,
moves are not undone -/
structure Keeps (proj : Project) (s s' : St) : Prop where
  ent : ∀ {ctx x}, HasEntry s ctx x → HasEntry s' ctx x
  obj : ∀ c o S, path s.reg c = some (loc proj s S) → StaticSite proj S → s.reg.objs[c]? = some o →
    path s'.reg c = some (loc proj s' S) ∧ ∃ o' : Obj, s'.reg.objs[c]? = some o' ∧ o'.cls = o.cls
  moved : ∀ r ∈ reexportReqs proj, movedB proj s r = true → movedB proj s' r = true

theorem Ext.keeps {proj : Project} {s s' : St} (h : Ext proj s s') : Keeps proj s s' :=
  ⟨hasEntry_ext h, fun c o S hp hS ho => ⟨h.sites c S hp hS, (h.objs c o ho).imp fun _ h' => ⟨h'.1, h'.2.1⟩⟩, h.moved⟩

mutual
theorem CompleteStmt.mono {proj : Project} {s s' : St} (h : Keeps proj s s') :
    ∀ {S : Site} {ctx : Nat} (st : Stmt), CompleteStmt proj s S ctx st → CompleteStmt proj s' S ctx st
  | _, _, .classDef _ _ body, ⟨he, hst, c, o, hp, ho, hcl, hb⟩ =>
    have ⟨hp', o', ho', hcl'⟩ := h.obj c o _ hp hst ho
    ⟨h.ent he, hst, c, o', hp', ho', hcl'.trans hcl, CompleteStmts.mono h body hb⟩
  | _, _, .importMod _ _, hc => fun x hx => h.ent (hc x hx)
  | _, _, .importFrom _ _ _ _, hc => ⟨h.ent hc.1, fun d h0 ht hr => h.moved _ hr (hc.2 d h0 ht hr)⟩
  | _, _, .importStar _ _, _ => trivial
  | _, _, .funcDef _, hc => h.ent hc
  | _, _, .assign _ _, hc => h.ent hc
  | _, _, .allAssign _, _ => trivial
theorem CompleteStmts.mono {proj : Project} {s s' : St} (h : Keeps proj s s') :
    ∀ {S : Site} {ctx : Nat} (sts : List Stmt), CompleteStmts proj s S ctx sts → CompleteStmts proj s' S ctx sts
  | _, _, [], _ => trivial
  | _, _, st :: rest, hc => ⟨CompleteStmt.mono h st hc.1, CompleteStmts.mono h rest hc.2⟩
end

theorem CompleteStmts.ext {proj : Project} {s s' : St} (h : Ext proj s s') {S : Site} {ctx : Nat} (sts : List Stmt) :
    CompleteStmts proj s S ctx sts → CompleteStmts proj s' S ctx sts := CompleteStmts.mono h.keeps sts

theorem cbase_ext {proj : Project} {s s' : St} (h : CBase s) (he : Ext proj s s') (hc : s'.cinfo = s.cinfo) : CBase s' := by
  intro e hm b hb
  rw [hc] at hm
  obtain ⟨o, ho, hcl⟩ := h e hm b hb
  obtain ⟨o', ho', hc', _⟩ := he.objs b o ho
  exact ⟨o', ho', hc'.trans hcl⟩

/-! ## the invariant -/

/-- **the invariant of reachable, well-behaved states**, with re-export moves.  Against C04Pd's, `alls` is an
equation, not an inclusion: `_handleReExport` reads the `__all__` of the re-exporter and of the definer, and they must be
exactly what `reexportReqs` is computed from. -/
structure PdInv (proj : Project) (s : St) : Prop where
  reg : Inv s.reg
  cbase : CBase s
  lens : s.ps.length = proj.length ∧ s.alls.length = proj.length
  mods : ∀ m, m < proj.length → ∃ o, s.reg.objs[m]? = some o ∧ path s.reg m = some (pathOf proj m) ∧ o.cls = modCls proj m
  site : ∀ i o, s.reg.objs[i]? = some o → ∃ S, ObjKind proj S o.cls ∧ path s.reg i = some (loc proj s S)
  alias : ∀ i o S, s.reg.objs[i]? = some o → path s.reg i = some (loc proj s S) → StaticSite proj S →
    ∀ x tgt, dget o.aliases x = some tgt → JpdR proj S x tgt
  cont : ∀ m o, m < proj.length → s.reg.objs[m]? = some o → ∀ x c, dget o.contents x = some c →
    x ∈ childNames proj m ∨ (∃ st ∈ bodyOf proj m, st.defName = some x) ∨
    (∃ r ∈ reexportReqs proj, r.2.2.1 = m ∧ r.2.2.2 = x ∧ movedB proj s r = true)
  alls : ∀ m, m < proj.length → getAll s m = if getPs s m = .unprocessed then none else lastAll (bodyOf proj m)
  started : ∀ i S, path s.reg i = some (loc proj s S) → StaticSite proj S → S.2 ≠ [] → getPs s S.1 ≠ .unprocessed
  complete : ∀ m md, proj[m]? = some md → getPs s m = .processed → CompleteStmts proj s (m, []) m md.body
  movedPs : ∀ r ∈ reexportReqs proj, movedB proj s r = true → getPs s r.1 = .processed ∧ getPs s r.2.2.1 ≠ .unprocessed
  movedIn : ∀ r ∈ reexportReqs proj, movedB proj s r = true → HasContent s r.2.2.1 r.2.2.2

theorem PdInv.complete_body {proj : Project} {s : St} (hI : PdInv proj s) {m : Nat} (hm : m < proj.length)
    (hp : getPs s m = .processed) : CompleteStmts proj s (m, []) m (bodyOf proj m) := by
  have hmd := List.getElem?_eq_getElem (l := proj) hm
  exact bodyOf_eq hmd ▸ hI.complete m _ hmd hp

/-- below a module that is not processed yet nothing has moved -/
theorem PdInv.loc_eq {proj : Project} {s : St} (hI : PdInv proj s) {S : Site} (h : getPs s S.1 ≠ .processed) :
    loc proj s S = sitePath proj S :=
  relocSite_unmoved (fun r hr h1 _ => by
    cases hm : movedB proj s r with
    | false => rfl
    | true => exact absurd (h1 ▸ (hI.movedPs r hr hm).1) h)

theorem PdInv.mod_site {proj : Project} {rank : List Nat} (wf : WFacts proj rank) (rx : RxFacts proj) {s : St}
    (hI : PdInv proj s) {m : Nat} (hm : m < proj.length) {S : Site} (hS : StaticSite proj S)
    (hp : path s.reg m = some (loc proj s S)) : S = (m, []) := by
  obtain ⟨_, _, hpm, _⟩ := hI.mods m hm
  exact loc_inj wf rx s hS ⟨hm, Or.inl rfl⟩ (by rw [loc_mod]; exact Option.some.inj (hp.symm.trans hpm))

/-- `movedB` only looks at one alias entry of the definer -/
theorem movedB_of_alias {proj : Project} {s s' : St} {r : Req} {o o' : Obj} (ho : s.reg.objs[r.1]? = some o)
    (ho' : s'.reg.objs[r.1]? = some o') (h : dget o'.aliases r.2.1 = dget o.aliases r.2.1) :
    movedB proj s' r = movedB proj s r := by
  simp only [movedB, ho, ho', h]

/-- a name that an import statement of the scope binds is not a re-exported definition of that module -/
theorem import_name_not_req {proj : Project} {rank : List Nat} (wf : WFacts proj rank) (rx : RxFacts proj) {S : Site}
    {b : List Stmt} {st : Stmt} {k : Name} (hb : siteBody proj S = some b) (hst : st ∈ b)
    (hk : k ∈ stmtNamesR proj rank S st) (hd : st.defName = none) :
    ∀ r ∈ reexportReqs proj, r.1 = S.1 → S.2 = [] → r.2.1 ≠ k := by
  intro r hr h1 h2 hne
  obtain ⟨m, cp⟩ := S
  simp only at h1 h2; subst h1; subst h2
  obtain ⟨st', hst', hd', _⟩ := definesTop_spec (rx.reqOk r hr).2.2.1
  have hbm := siteBody_mod hb; subst hbm
  have := same_stmt wf hb hst hst' hk (by rw [← hne]; exact stmtNames_of_explicit (defName_explicit hd'))
  subst this
  rw [hd] at hd'; cases hd'

/-- a step that writes into the registry only: `Ext` carries the fields on classes, modules, sites and completeness;
what is left to show is what the step wrote — new objects (`hobj`), aliases, new entries of `contents`, moves -/
theorem PdInv.carry {proj : Project} {rank : List Nat} (wf : WFacts proj rank) (rx : RxFacts proj) {s s' : St}
    (hI : PdInv proj s) (reg : Inv s'.reg) (he : Ext proj s s') (hps : s'.ps = s.ps) (hal : s'.alls = s.alls)
    (hci : s'.cinfo = s.cinfo)
    (hobj : ∀ i o', s'.reg.objs[i]? = some o' → (∃ o, s.reg.objs[i]? = some o) ∨
      ∃ S, ObjKind proj S o'.cls ∧ path s'.reg i = some (loc proj s' S) ∧ getPs s S.1 ≠ .unprocessed)
    (alias : ∀ i o S, s'.reg.objs[i]? = some o → path s'.reg i = some (loc proj s' S) → StaticSite proj S →
      ∀ x tgt, dget o.aliases x = some tgt → JpdR proj S x tgt)
    (cont : ∀ m o, m < proj.length → s'.reg.objs[m]? = some o → ∀ x c, dget o.contents x = some c →
      HasContent s m x ∨ (∃ st ∈ bodyOf proj m, st.defName = some x) ∨
      (∃ r ∈ reexportReqs proj, r.2.2.1 = m ∧ r.2.2.2 = x ∧ movedB proj s' r = true))
    (movedPs : ∀ r ∈ reexportReqs proj, movedB proj s' r = true → movedB proj s r = true ∨
      (getPs s r.1 = .processed ∧ getPs s r.2.2.1 ≠ .unprocessed))
    (movedIn : ∀ r ∈ reexportReqs proj, movedB proj s' r = true → HasContent s' r.2.2.1 r.2.2.2) : PdInv proj s' := by
  have hps' : ∀ t, getPs s' t = getPs s t := fun t => by unfold getPs; rw [hps]
  -- an object is the object of a site; below a module the module has been started
  have hsite : ∀ i o', s'.reg.objs[i]? = some o' → ∃ S, ObjKind proj S o'.cls ∧ path s'.reg i = some (loc proj s' S) ∧
      (S.2 ≠ [] → getPs s S.1 ≠ .unprocessed) := by
    intro i o' ho'
    rcases hobj i o' ho' with ⟨o, ho⟩ | ⟨S, hk, hp, hst⟩
    · obtain ⟨S, hk, hp⟩ := hI.site i o ho
      obtain ⟨o'', ho'', hcl, _⟩ := he.objs i o ho
      rw [ho'] at ho''; injection ho'' with ho''; subst ho''
      exact ⟨S, hcl ▸ hk, he.sites i S hp hk.static, hI.started i S hp hk.static⟩
    · exact ⟨S, hk, hp, fun _ => hst⟩
  exact
    { reg, alias, movedIn
      cont := fun m o' hm ho' x c hx => (cont m o' hm ho' x c hx).elim
        (fun ⟨o, c0, ho, h0⟩ => (hI.cont m o hm ho x c0 h0).imp id
          (Or.imp id fun ⟨r, hr, h1, h2, h3⟩ => ⟨r, hr, h1, h2, he.moved r hr h3⟩)) Or.inr
      cbase := cbase_ext hI.cbase he hci
      lens := by rw [hps, hal]; exact hI.lens
      mods := fun m hm => by
        obtain ⟨o, ho, hpm, hc⟩ := hI.mods m hm
        obtain ⟨o', ho', hc', _⟩ := he.objs m o ho
        have := he.sites m (m, []) (by rw [loc_mod]; exact hpm) ⟨hm, Or.inl rfl⟩
        exact ⟨o', ho', by rwa [loc_mod] at this, hc'.trans hc⟩
      site := fun i o' ho' => (hsite i o' ho').imp fun S h => ⟨h.1, h.2.1⟩
      alls := fun m hm => by
        have : getAll s' m = getAll s m := by unfold getAll; rw [hal]
        rw [this, hps']; exact hI.alls m hm
      started := fun i S hp hS hne => by
        obtain ⟨S0, hk, hp0, hst⟩ := hsite i _ (List.getElem?_eq_getElem (path_lt hp))
        have : S = S0 := loc_inj wf rx s' hS hk.static (by rw [hp] at hp0; injection hp0)
        subst this; rw [hps']; exact hst hne
      complete := fun m md hm hp => CompleteStmts.ext he _ (hI.complete m md hm (hps' m ▸ hp))
      movedPs := fun r hr hm => by
        rw [hps', hps']
        rcases movedPs r hr hm with h | h
        · exact hI.movedPs r hr h
        · exact h }

/-! ## the visiting context -/

/-- `ctx` is the object of scope `S` (of module `mod`, which is being processed), whose body is `full`;
every module that is being processed has at least the rank of `mod` (the call stack descends in rank: `low`, which
C04Pd's `Ctx` does not have — here it shows that an import target is `processed`, not still `processing`, when
`_handleReExport` moves a definition out of it) -/
structure Ctx (proj : Project) (rank : List Nat) (s : St) (mod ctx : Nat) (S : Site) (full : List Stmt) : Prop where
  hmod : mod < proj.length
  hS1 : S.1 = mod
  body : siteBody proj S = some full
  stat : StaticSite proj S
  pathc : path s.reg ctx = some (sitePath proj S)
  clsc : ∃ o, s.reg.objs[ctx]? = some o ∧ ((S.2 = [] ∧ isModuleCls o.cls = true) ∨ (S.2 ≠ [] ∧ o.cls = .cls))
  ctxmod : S.2 = [] → ctx = mod
  ps : getPs s mod = .processing
  low : ∀ u, getPs s u = .processing → rankOf rank mod ≤ rankOf rank u

/-- the context of the machine without moves (PdProps/C04Pd.lean): what does not look at ranks applies as it stands -/
theorem Ctx.plain {proj : Project} {rank : List Nat} {s : St} {mod ctx : Nat} {S : Site} {full : List Stmt}
    (h : Ctx proj rank s mod ctx S full) : Imports.Ctx proj s mod ctx S full :=
  ⟨h.hmod, h.hS1, h.body, h.pathc, h.clsc, h.ctxmod, h.ps⟩

theorem Ctx.locc {proj : Project} {rank : List Nat} {s : St} {mod ctx : Nat} {S : Site} {full : List Stmt}
    (hI : PdInv proj s) (h : Ctx proj rank s mod ctx S full) : loc proj s S = sitePath proj S :=
  hI.loc_eq (by rw [h.hS1, h.ps]; simp)

theorem Ctx.ext {proj : Project} {rank : List Nat} {s s' : St} {mod ctx : Nat} {S : Site} {full : List Stmt}
    (h : Ctx proj rank s mod ctx S full) (hI : PdInv proj s) (hI' : PdInv proj s') (he : Ext proj s s') :
    Ctx proj rank s' mod ctx S full := by
  obtain ⟨o, ho, hc⟩ := h.clsc
  obtain ⟨o', ho', hc', _⟩ := he.objs ctx o ho
  have hps' : getPs s' mod = .processing := (he.ps mod).1 h.ps
  refine ⟨h.hmod, h.hS1, h.body, h.stat, ?_, ⟨o', ho', by rw [hc']; exact hc⟩, h.ctxmod, hps',
    fun u hu => h.low u (psRel_processing he.ps hu)⟩
  have := he.sites ctx S (by rw [h.locc hI]; exact h.pathc) h.stat
  rw [hI'.loc_eq (by rw [h.hS1, hps']; simp)] at this
  exact this

/-! ## frames (for the clean-run part): which `contents` keys a step can add -/

/-- started objects gain no key of `contents`, except that `ctx` may gain the keys `names`.  (C04Pd's `FrameX` says
`contents` is kept; here a move takes the key `n` out of the definer, a started object, so only "no key gained" holds.) -/
def FrameX (proj : Project) (ctx : Option Nat) (names : List Name) (s s' : St) : Prop :=
  ∀ (i : Nat) (o : Obj), s.reg.objs[i]? = some o → Prot proj s i → ∃ o' : Obj, s'.reg.objs[i]? = some o' ∧
    ∀ k, (some i = ctx → k ∉ names) → dget o.contents k = none → dget o'.contents k = none

theorem FrameX.refl (proj : Project) (ctx : Option Nat) (names : List Name) (s : St) : FrameX proj ctx names s s :=
  fun _ o ho _ => ⟨o, ho, fun _ _ h => h⟩

theorem FrameX.trans {proj : Project} {ctx : Option Nat} {l1 l2 : List Name} {a b c : St}
    (h1 : FrameX proj ctx l1 a b) (hp : PsRel a b) (h2 : FrameX proj ctx l2 b c) : FrameX proj ctx (l1 ++ l2) a c := by
  intro i o ho hpr
  obtain ⟨o1, ho1, k1⟩ := h1 i o ho hpr
  obtain ⟨o2, ho2, k2⟩ := h2 i o1 ho1 (hpr.ext hp)
  refine ⟨o2, ho2, fun k hk hd => ?_⟩
  have hk1 : some i = ctx → k ∉ l1 := fun h hin => hk h (List.mem_append_left _ hin)
  have hk2 : some i = ctx → k ∉ l2 := fun h hin => hk h (List.mem_append_right _ hin)
  exact k2 k hk2 (k1 k hk1 hd)

theorem FrameX.weaken {proj : Project} {ctx : Option Nat} {l : List Name} {a b : St}
    (h : FrameX proj none [] a b) : FrameX proj ctx l a b := by
  intro i o ho hpr
  obtain ⟨o1, ho1, k1⟩ := h i o ho hpr
  exact ⟨o1, ho1, fun k _ hd => k1 k (fun h => by cases h) hd⟩

theorem FrameX.mono {proj : Project} {ctx : Option Nat} {l l' : List Name} {a b : St}
    (h : FrameX proj ctx l a b) (hs : ∀ x ∈ l, x ∈ l') : FrameX proj ctx l' a b := by
  intro i o ho hpr
  obtain ⟨o1, ho1, k1⟩ := h i o ho hpr
  exact ⟨o1, ho1, fun k hk hd => k1 k (fun he hx => hk he (hs k hx)) hd⟩

/-- the statements still to come have left no entry in `contents` of the scope's object yet — over `explicitNames`,
not only `defName` as in C04Pd: a re-exporting `from … import` puts the moved object under the bound name -/
def Pending (s : St) (ctx : Nat) (sts : List Stmt) : Prop :=
  ∀ o, s.reg.objs[ctx]? = some o → ∀ st ∈ sts, ∀ n ∈ explicitNames st, dget o.contents n = none

/-- a step from `s` to `s'` that raises nothing, keeps the invariant, extends the state, and adds to `contents` of
started objects at most the keys `l` of `ctx` (C04Pd's `Good`, over the relocated `PdInv`, `Ext`, `FrameX`) -/
structure OkStep (proj : Project) (ctx : Option Nat) (l : List Name) (s s' : St) : Prop where
  bad : s'.bad = false
  inv : PdInv proj s'
  ext : Ext proj s s'
  frame : FrameX proj ctx l s s'

theorem OkStep.refl {proj : Project} {ctx : Option Nat} {l : List Name} {s : St} (hb : s.bad = false) (hI : PdInv proj s) :
    OkStep proj ctx l s s := ⟨hb, hI, Ext.refl _ _, FrameX.refl _ _ _ _⟩

theorem OkStep.trans {proj : Project} {ctx : Option Nat} {l1 l2 : List Name} {a b c : St}
    (h1 : OkStep proj ctx l1 a b) (h2 : OkStep proj ctx l2 b c) : OkStep proj ctx (l1 ++ l2) a c :=
  ⟨h2.bad, h2.inv, h1.ext.trans h2.ext, h1.frame.trans h1.ext.ps h2.frame⟩

theorem OkStep.weaken {proj : Project} {ctx : Option Nat} {l : List Name} {a b : St} (h : OkStep proj none [] a b) :
    OkStep proj ctx l a b := ⟨h.bad, h.inv, h.ext, h.frame.weaken⟩

/-! ## `setAlias`, `addObj`: steps of the machine without moves that leave every move as it is -/

/-- every `loc` stays, so what the step keeps there it keeps here -/
theorem Ext.of_plain {proj : Project} {s s' : St} (h : Imports.Ext s s')
    (hmv : ∀ r ∈ reexportReqs proj, movedB proj s' r = movedB proj s r) : Ext proj s s' := by
  refine ⟨fun i o ho => ?_, fun i S hp _ => by rw [loc_congr hmv]; exact h.paths i _ hp, h.ps,
    fun r hr hm => by rw [hmv r hr]; exact hm⟩
  obtain ⟨o', ho', hcl, hc, ha⟩ := h.objs i o ho
  refine ⟨o', ho', hcl, fun k => Or.imp (fun hk => ?_) (ha k)⟩
  cases hd : dget o.contents k with
  | none => exact absurd hd hk
  | some c => rw [hc k c hd]; simp

theorem FrameX.of_plain {proj : Project} {ctx : Option Nat} {l : List Name} {s s' : St}
    (h : Imports.FrameX proj ctx l s s') : FrameX proj ctx l s s' := by
  intro i o ho hpr
  obtain ⟨o', ho', e, k⟩ := h i o ho hpr
  refine ⟨o', ho', fun k' hk hd => ?_⟩
  by_cases hi : some i = ctx
  · rw [k hi k' (hk hi)]; exact hd
  · rw [e hi]; exact hd

/-- writing the alias that an import statement of the body being visited justifies -/
theorem setAlias_ok {proj : Project} {rank : List Nat} (wf : WFacts proj rank) (rx : RxFacts proj) {s : St}
    (hI : PdInv proj s) {mod ctx : Nat} {S : Site} {full : List Stmt} (hc : Ctx proj rank s mod ctx S full)
    {st : Stmt} (hst : st ∈ full) (hd : st.defName = none) {k : Name} (hx : k ∈ stmtNamesR proj rank S st) {v : Path}
    (hj : JpdR proj S k v) (hb : s.bad = false) (l : List Name) :
    OkStep proj (some ctx) l s (setAlias s ctx k v) ∧ HasEntry (setAlias s ctx k v) ctx k := by
  obtain ⟨o0, ho0, _⟩ := hc.clsc
  have hp : path s.reg ctx = some (loc proj s S) := by rw [hc.locc hI]; exact hc.pathc
  have hS := hc.stat
  have hk := import_name_not_req wf rx hc.body hst hx hd
  -- no move is forged or undone: the alias written is not the one a move leaves in a definer
  have hmv : ∀ r ∈ reexportReqs proj, movedB proj (setAlias s ctx k v) r = movedB proj s r := by
    intro r hr
    obtain ⟨om, hom, _, _⟩ := hI.mods r.1 (req_definer_lt hr)
    refine movedB_of_alias hom (setAlias_get hom) ?_
    split
    · rename_i h
      subst h
      obtain rfl := hI.mod_site wf rx (req_definer_lt hr) hS hp
      exact dset_get_other _ _ _ _ (hk r hr rfl rfl)
    · rfl
  have hpl := setAlias_ext s ctx k v
  have hext := Ext.of_plain hpl hmv
  refine ⟨⟨hb, ?_, hext, .of_plain (setAlias_frame proj (some ctx) l s ctx k v)⟩, setAlias_entry ho0⟩
  refine hI.carry wf rx (hI.reg.setAliases _ _) hext rfl rfl rfl
    (fun i o' ho' => Or.inl ((setAlias_inv ho').imp fun _ h => h.1)) ?_ ?_
    (fun r hr hm => Or.inl (hmv r hr ▸ hm)) (fun r hr hm => (hI.movedIn r hr (hmv r hr ▸ hm)).extObjs hpl.objs)
  · intro i o' S' ho' hp' hS' x tgt hx
    obtain ⟨o, ho, _, _, ha⟩ := setAlias_inv ho'
    rw [setAlias_path, loc_congr hmv] at hp'
    rw [ha] at hx
    split at hx
    · rename_i hic; subst hic
      by_cases hxk : x = k
      · subst hxk
        rw [dset_get_same] at hx
        obtain rfl : v = tgt := Option.some.inj hx
        obtain rfl : S' = S := loc_inj wf rx s hS' hS (Option.some.inj (hp'.symm.trans hp))
        exact hj
      · rw [dset_get_other _ _ _ _ hxk] at hx; exact hI.alias i o S' ho hp' hS' x tgt hx
    · exact hI.alias i o S' ho hp' hS' x tgt hx
  · intro m o' hm ho' x c hx
    obtain ⟨o, ho, _, hco, _⟩ := setAlias_inv ho'
    exact Or.inl ⟨o, c, ho, hco ▸ hx⟩

/-- creating the object of a `def`, a `class` or an assignment in the scope being visited -/
theorem addObj_ok {proj : Project} {rank : List Nat} (wf : WFacts proj rank) (rx : RxFacts proj) {s : St}
    (hI : PdInv proj s) {mod ctx : Nat} {S : Site} {full : List Stmt} (hc : Ctx proj rank s mod ctx S full) {st : Stmt}
    (hst : st ∈ full) {name : Name} {c : Cls} (hk : stKind st = some (name, c)) (hbad : s.bad = false)
    (hpend : ∀ o, s.reg.objs[ctx]? = some o → dget o.contents name = none) :
    OkStep proj (some ctx) [name] s (addObj s c name ctx) ∧
    (addObj s c name ctx).reg.objs[s.reg.objs.length]? = some (⟨name, some ctx, c, [], []⟩ : Obj) ∧
    path (addObj s c name ctx).reg s.reg.objs.length = some (sitePath proj (S.1, S.2 ++ [name])) ∧
    HasEntry (addObj s c name ctx) ctx name := by
  obtain ⟨o0, ho0, _⟩ := hc.clsc
  have hp := hc.pathc
  have hps : getPs s S.1 = .processing := hc.hS1 ▸ hc.ps
  have hf := fresh_of_not_content hI.reg ho0 hp (wf.namesOk hc.body hst (stKind_defName hk)) (hpend o0 ho0)
  have hb : (addObj s c name ctx).bad = false := addObj_clean (c := c) hI.reg hbad hp hf
  have hframe := addObj_frame proj hI.reg hp hb
  have hpl := addObj_ext hI.reg hp hb
  have R := addObj_reg hI.reg hp hb
  generalize addObj s c name ctx = s' at R hb hframe hpl ⊢
  obtain ⟨hinv, ⟨hps0, hal0, hci0⟩, hnew, hold, hcases, _, hpback, hpn, _⟩ := R
  have hnewpath : path s'.reg s.reg.objs.length = some (sitePath proj (S.1, S.2 ++ [name])) := by
    rw [hpn]; simp [sitePath]
  -- no move is forged or undone
  have hmv : ∀ r ∈ reexportReqs proj, movedB proj s' r = movedB proj s r := by
    intro r hr
    obtain ⟨om, hom, _, _⟩ := hI.mods r.1 (req_definer_lt hr)
    exact movedB_of_alias hom (hold _ _ hom) (by split <;> rfl)
  have hloc : ∀ S', loc proj s' S' = loc proj s S' := loc_congr hmv
  have hSproc : getPs s S.1 ≠ .processed := by rw [hps]; simp
  have hlocnew : loc proj s' (S.1, S.2 ++ [name]) = sitePath proj (S.1, S.2 ++ [name]) := by
    rw [hloc]; exact hI.loc_eq (S := (S.1, S.2 ++ [name])) hSproc
  have hext := Ext.of_plain hpl hmv
  refine ⟨⟨hb, ?_, hext, .of_plain hframe⟩, hnew, hnewpath, _, hold ctx o0 ho0, Or.inl (by simp [dset_get_same])⟩
  refine hI.carry wf rx hinv hext hps0 hal0 hci0 (fun i o' ho' => ?_) ?_ ?_
    (fun r hr hm => Or.inl (hmv r hr ▸ hm)) (fun r hr hm => (hI.movedIn r hr (hmv r hr ▸ hm)).extObjs hpl.objs)
  · rcases hcases i o' ho' with ⟨rfl, rfl⟩ | ⟨o, ho, _⟩
    · exact Or.inr ⟨(S.1, S.2 ++ [name]), ObjKind.dfn hc.body hst hk, by rw [hlocnew]; exact hnewpath, by
        simp only; rw [hps]; simp⟩
    · exact Or.inl ⟨o, ho⟩
  · intro i o' S' ho' hp' hS' x tgt hx
    rw [hloc] at hp'
    rcases hcases i o' ho' with ⟨rfl, rfl⟩ | ⟨o, ho, rfl⟩
    · simp [dget] at hx
    · have hx' : dget o.aliases x = some tgt := by split at hx <;> exact hx
      exact hI.alias i o S' ho (hpback i _ (List.getElem?_eq_some_iff.1 ho).1 hp') hS' x tgt hx'
  · intro m o' hm ho' x c' hx
    rcases hcases m o' ho' with ⟨rfl, rfl⟩ | ⟨o, ho, rfl⟩
    · simp [dget] at hx
    · split at hx
      · rename_i hmc; subst hmc
        simp only at hx
        by_cases hxn : x = name
        · subst hxn
          obtain rfl := hI.mod_site wf rx hm hc.stat (by rw [hI.loc_eq hSproc]; exact hp)
          exact Or.inr (Or.inl ⟨st, siteBody_mod hc.body ▸ hst, stKind_defName hk⟩)
        · rw [dset_get_other _ _ _ _ hxn] at hx
          exact Or.inl ⟨o, c', ho, hx⟩
      · exact Or.inl ⟨o, c', ho, hx⟩

end Imports.Rx
