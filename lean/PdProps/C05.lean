/-
C05 — inheritance is computed as Python computes it.

Theorems over `PdModel.Mro` (pydoctor's `mro.py` / `model.py`) and `PyMro` (CPython's
`typeobject.c`).  The general statements quantify over every hierarchy `bases : Nat → List Nat`; the
hypothesis `Acyclic bases` (bases are defined before the class) is one Python itself enforces, `Acyclic1`
adds that class 0 is `object` and is never written as a base.  Some consumers are stated for resolved bases only
(`ext = fun _ => false`); the second-pass section is over `Decls`, not a hierarchy.
-/
import PdModel.Mro

namespace Mro

theorem pop_eq (x : Nat) (l : List Nat) : pop x l = if l.head? = some x then l.tail else l := by
  cases l with
  | nil => rfl
  | cons h t => simp [pop]

theorem pop_sublist (x : Nat) (l : List Nat) : (pop x l).Sublist l := by
  rw [pop_eq]; split
  · exact List.tail_sublist l
  · exact List.Sublist.refl l

theorem not_mem_pop {h : Nat} {l : List Nat} (hn : h ∉ l.tail) : h ∉ pop h l := by
  cases l with
  | nil => simp [pop]
  | cons x t =>
    simp only [pop]
    split
    · exact hn
    · exact List.not_mem_cons_of_ne_of_not_mem (Ne.symm ‹_›) hn

theorem sublist_cons_pop (c : Nat) : ∀ l : List Nat, l.Sublist (c :: pop c l)
  | [] => List.nil_sublist _
  | x :: t => by
    by_cases h : x = c <;> simp [pop, h]

theorem mem_pop_of_ne {h a : Nat} {l : List Nat} (ha : a ∈ l) (hne : a ≠ h) : a ∈ pop h l :=
  (List.mem_cons.1 ((sublist_cons_pop h l).subset ha)).resolve_left hne

theorem pick_eq_findSome? (ls : List (List Nat)) :
    ∀ hs, pick ls hs = hs.findSome? (Option.filter fun h => !inTails h ls)
  | [] => rfl
  | none :: hs => by simp [pick, pick_eq_findSome? ls hs]
  | some h :: hs => by
    cases hin : inTails h ls <;> simp [pick, hin, Option.filter, pick_eq_findSome? ls hs]

theorem findSome?_congr {α β : Type} {f g : α → Option β} :
    ∀ {l : List α}, (∀ a ∈ l, f a = g a) → l.findSome? f = l.findSome? g
  | [], _ => rfl
  | a :: l, h => by
    rw [List.findSome?_cons, List.findSome?_cons, h a (List.mem_cons_self ..),
      findSome?_congr fun x hx => h x (List.mem_cons_of_mem _ hx)]

theorem pick_heads {ls : List (List Nat)} {h : Nat} (hp : pick ls (ls.map head) = some h) :
    (∃ l ∈ ls, ∃ t, l = h :: t) ∧ ∀ l ∈ ls, h ∉ l.tail := by
  rw [pick_eq_findSome?, List.findSome?_map] at hp
  obtain ⟨l, hl, hf⟩ := List.exists_of_findSome?_eq_some hp
  obtain ⟨hh, hin⟩ := Option.filter_eq_some_iff.1 hf
  refine ⟨⟨l, hl, List.head?_eq_some_iff.1 hh⟩, ?_⟩
  simpa [inTails, inTail] using hin

theorem eq_nil_of_exhausted {ls : List (List Nat)} (h : exhausted ls = true) {l : List Nat}
    (hl : l ∈ ls) : l = [] :=
  List.isEmpty_iff.1 (List.all_eq_true.1 h l hl)

theorem pick_exhausted (ls : List (List Nat)) (h : exhausted ls = true) :
    pick ls (ls.map head) = none := by
  rw [pick_eq_findSome?, List.findSome?_map, List.findSome?_eq_none_iff]
  intro l hl
  cases eq_nil_of_exhausted h hl
  rfl

/-! ## `_merge` (popping lists) and `pmerge` (index vector) are the same function -/

/-- the lists CPython still has to merge: `to_merge[i][remain[i]:]` -/
def view (ps : List (List Nat × Nat)) : List (List Nat) := ps.map fun p => p.1.drop p.2

theorem tailContains_eq (l : List Nat) (r c : Nat) :
    PyMro.tailContains l r c = inTail c (l.drop r) := by
  simp [PyMro.tailContains, inTail, List.tail_drop]

theorem any_tailContains (ps : List (List Nat × Nat)) (c : Nat) :
    ps.any (fun q => PyMro.tailContains q.1 q.2 c) = inTails c (view ps) := by
  simp [inTails, view, List.any_map, tailContains_eq, Function.comp_def]

theorem view_bump (c : Nat) (ps : List (List Nat × Nat)) :
    view (PyMro.bump c ps) = remove c (view ps) := by
  simp only [view, PyMro.bump, remove, List.map_map]
  apply List.map_congr_left
  intro p _
  by_cases h : p.1[p.2]? = some c <;> simp [pop_eq, h, List.tail_drop]

/-- `empty_cnt` of `pmerge` -/
def emptyCnt (ps : List (List Nat × Nat)) : Nat := (view ps).countP List.isEmpty

theorem scan_eq (all : List (List Nat × Nat)) :
    ∀ (rest : List (List Nat × Nat)) (e : Nat),
      PyMro.scan all rest e =
        match pick (view all) ((view rest).map head) with
        | some h => .found h
        | none => .notFound (e + emptyCnt rest)
  | [], e => rfl
  | (l, r) :: rest, e => by
    simp only [PyMro.scan, ← List.head?_drop, any_tailContains, scan_eq all rest, view, List.map_cons,
      head, emptyCnt, List.countP_cons]
    cases l.drop r with
    | nil => simp only [List.head?_nil, pick, List.isEmpty_nil, if_true, Nat.add_assoc, Nat.add_comm 1]
    | cons x t =>
      simp only [List.head?_cons, pick, List.isEmpty_cons, Bool.false_eq_true, if_false, Nat.add_zero]
      split <;> rfl

theorem emptyCnt_eq_length (ps : List (List Nat × Nat)) :
    emptyCnt ps = ps.length ↔ exhausted (view ps) = true := by
  have : ps.length = (view ps).length := by simp [view]
  rw [emptyCnt, this, List.countP_eq_length]
  simp [exhausted, List.all_eq_true]

theorem pmergeFuel_eq (f : Nat) : ∀ ps : List (List Nat × Nat),
    PyMro.pmergeFuel f ps = mergeFuel f (view ps) := by
  induction f with
  | zero => intro ps; rfl
  | succ f ih =>
    intro ps
    simp only [PyMro.pmergeFuel, mergeFuel, scan_eq, ih, view_bump]
    by_cases hex : exhausted (view ps) = true
    · simp [hex, pick_exhausted _ hex, emptyCnt_eq_length]
    · cases pick (view ps) ((view ps).map head) <;> simp [hex, emptyCnt_eq_length]

/-- **merge_eq_pmerge**: on *every* list of lists (whether or not it comes from a hierarchy),
pydoctor's `_merge` and CPython's `pmerge` return the same linearisation or both fail. -/
theorem merge_eq_pmerge (ls : List (List Nat)) : merge ls = PyMro.pmerge ls := by
  simp [merge, PyMro.pmerge, pmergeFuel_eq, view, Function.comp_def]

/-! ## Facts about `_merge` that hold for every input and any number of rounds -/

theorem mergeFuel_induct {P : List (List Nat) → List Nat → Prop}
    (done : ∀ ls, exhausted ls = true → P ls [])
    (step : ∀ f ls c out, pick ls (ls.map head) = some c → mergeFuel f (remove c ls) = some out →
      P (remove c ls) out → P ls (c :: out)) :
    ∀ f ls out, mergeFuel f ls = some out → P ls out := by
  intro f
  induction f with
  | zero => intro ls out h; cases h
  | succ f ih =>
    intro ls out h
    rw [mergeFuel] at h
    split at h
    · cases h; exact done ls ‹_›
    · split at h
      · cases h
      · obtain ⟨out', hm, rfl⟩ := Option.map_eq_some_iff.1 h
        exact step f ls _ out' ‹_› hm (ih _ _ hm)

/-- local precedence and monotonicity in one -/
theorem mergeFuel_sublist : ∀ (f : Nat) (ls : List (List Nat)) (out : List Nat),
    mergeFuel f ls = some out → ∀ l ∈ ls, l.Sublist out := by
  refine mergeFuel_induct (fun ls hex l hl => ?_) (fun f ls c out _ _ ih l hl => ?_)
  · exact eq_nil_of_exhausted hex hl ▸ List.nil_sublist _
  · exact (sublist_cons_pop c l).trans ((ih (pop c l) (List.mem_map_of_mem hl)).cons_cons c)

theorem mergeFuel_mem : ∀ {f : Nat} {ls : List (List Nat)} {out : List Nat},
    mergeFuel f ls = some out → ∀ x ∈ out, ∃ l ∈ ls, x ∈ l := by
  refine @mergeFuel_induct _ (fun ls _ x hx => nomatch hx) (fun f ls c out hp _ ih x hx => ?_)
  rcases List.mem_cons.1 hx with rfl | hx
  · obtain ⟨⟨l, hl, t, rfl⟩, _⟩ := pick_heads hp
    exact ⟨_, hl, List.mem_cons_self ..⟩
  · obtain ⟨l', hl', hxl⟩ := ih x hx
    obtain ⟨l, hl, rfl⟩ := List.mem_map.1 hl'
    exact ⟨l, hl, (pop_sublist c l).subset hxl⟩

theorem mergeFuel_nodup : ∀ {f : Nat} {ls : List (List Nat)} {out : List Nat},
    mergeFuel f ls = some out → out.Nodup := by
  refine @mergeFuel_induct _ (fun _ _ => List.nodup_nil)
    (fun f ls c out hp hm ih => List.nodup_cons.2 ⟨fun hc => ?_, ih⟩)
  obtain ⟨l', hl', hcl⟩ := mergeFuel_mem hm c hc
  obtain ⟨l, hl, rfl⟩ := List.mem_map.1 hl'
  exact not_mem_pop ((pick_heads hp).2 l hl) hcl

/-! ### the number of rounds: `size + 1` is enough, more changes nothing -/

/-- A loop run with fuel whose body calls itself only on states of smaller measure (`hbody`) gives
the same answer for every amount of fuel above the measure. -/
theorem fuel_stable {σ α : Type} (μ : σ → Nat) (body : (σ → α) → σ → α)
    (hbody : ∀ k k' s, (∀ s', μ s' < μ s → k s' = k' s') → body k s = body k' s)
    (loop : Nat → σ → α) (hloop : ∀ f s, loop (f + 1) s = body (loop f) s) :
    ∀ f g s, μ s < f → μ s < g → loop f s = loop g s := by
  intro f
  induction f with
  | zero => intro g s h; exact absurd h (Nat.not_lt_zero _)
  | succ f ih =>
    intro g s hf hg
    cases g with
    | zero => exact absurd hg (Nat.not_lt_zero _)
    | succ g =>
      rw [hloop, hloop]
      exact hbody _ _ s fun s' h =>
        ih g s' (Nat.lt_of_lt_of_le h (Nat.le_of_lt_succ hf)) (Nat.lt_of_lt_of_le h (Nat.le_of_lt_succ hg))

theorem size_remove_le (c : Nat) : ∀ ls : List (List Nat), size (remove c ls) ≤ size ls
  | [] => Nat.le_refl _
  | l :: ls => Nat.add_le_add (pop_sublist c l).length_le (size_remove_le c ls)

theorem size_remove_lt (c : Nat) : ∀ ls : List (List Nat), (∃ l ∈ ls, ∃ t, l = c :: t) →
    size (remove c ls) < size ls
  | l :: ls, ⟨l', hl', t, e⟩ => by
    rcases List.mem_cons.1 hl' with rfl | hm
    · subst e
      exact Nat.add_lt_add_of_lt_of_le (by simp [pop]) (size_remove_le c ls)
    · exact Nat.add_lt_add_of_le_of_lt (pop_sublist c l).length_le
        (size_remove_lt c ls ⟨_, hm, t, e⟩)

/-- one round of the `while True` loop of `_merge`, `k` being the rest of the loop -/
def mergeBody (k : List (List Nat) → Option (List Nat)) (ls : List (List Nat)) : Option (List Nat) :=
  if exhausted ls then some []
  else match pick ls (ls.map head) with
    | none => none
    | some h => (k (remove h ls)).map (h :: ·)

theorem mergeFuel_succ (f : Nat) (ls : List (List Nat)) :
    mergeFuel (f + 1) ls = mergeBody (mergeFuel f) ls := rfl

/-- every round pops the candidate from at least one list -/
theorem mergeBody_congr (k k' : List (List Nat) → Option (List Nat)) (ls : List (List Nat))
    (h : ∀ ls', size ls' < size ls → k ls' = k' ls') : mergeBody k ls = mergeBody k' ls := by
  unfold mergeBody
  cases hp : pick ls (ls.map head) with
  | none => rfl
  | some c => simp only [h _ (size_remove_lt c ls (pick_heads hp).1)]

/-- **mergeFuel_stable**: `none` from `merge` is the `ValueError`, never exhaustion of the fuel. -/
theorem mergeFuel_stable : ∀ (f g : Nat) (ls : List (List Nat)), size ls < f → size ls < g →
    mergeFuel f ls = mergeFuel g ls :=
  fuel_stable size mergeBody mergeBody_congr mergeFuel mergeFuel_succ

/-- the loop of `_merge`, without any fuel: the recurrence the Python code runs -/
theorem merge_unfold (ls : List (List Nat)) :
    merge ls =
      if exhausted ls then some []
      else match pick ls (ls.map head) with
        | none => none
        | some h => (merge (remove h ls)).map (h :: ·) :=
  mergeBody_congr (mergeFuel (size ls)) merge ls fun ls' h =>
    mergeFuel_stable _ _ ls' h (Nat.lt_succ_self _)

/-! ## The linearisation of a hierarchy -/

/-- bases are defined before the class -/
def Acyclic (bases : Nat → List Nat) : Prop := ∀ c, ∀ b ∈ bases c, b < c

/-- `Anc bases x c`: `x` is `c` or a (transitive) base of `c` -/
inductive Anc (bases : Nat → List Nat) : Nat → Nat → Prop
  | refl (c : Nat) : Anc bases c c
  | step {x b c : Nat} : b ∈ bases c → Anc bases x b → Anc bases x c

theorem anc_trans {bases : Nat → List Nat} {x y z : Nat} (h1 : Anc bases x y) (h2 : Anc bases y z) :
    Anc bases x z := by
  induction h2 with
  | refl => exact h1
  | step hb _ ih => exact Anc.step hb ih

theorem anc_le {bases : Nat → List Nat} (hA : Acyclic bases) {x y : Nat} (h : Anc bases x y) :
    x ≤ y := by
  induction h with
  | refl => exact Nat.le_refl _
  | step hb _ ih => exact Nat.le_trans ih (Nat.le_of_lt (hA _ _ hb))

theorem anc_eq_or_base {bases : Nat → List Nat} {x c : Nat} (h : Anc bases x c) : x = c ∨ ∃ d, x ∈ bases d := by
  induction h with
  | refl => exact .inl rfl
  | step hb _ ih => exact .inr (ih.elim (fun e => ⟨_, e ▸ hb⟩) id)

theorem allbasesFuel_anc (bases : Nat → List Nat) (ext : Nat → Bool) : ∀ (f c x : Nat),
    x ∈ allbasesFuel bases ext f c → Anc bases x c
  | 0, _, _, h => by simp [allbasesFuel] at h
  | f+1, c, x, h => by
    simp only [allbasesFuel, List.mem_cons, List.mem_flatMap, List.mem_filter] at h
    rcases h with rfl | ⟨b, ⟨hb, _⟩, hx⟩
    · exact .refl _
    · exact .step hb (allbasesFuel_anc bases ext f b x hx)

section mapOpt
variable {α β : Type}

theorem mapOpt_eq_some {f : α → Option β} : ∀ {xs : List α} {ys : List β},
    mapOpt f xs = some ys ↔ xs.map f = ys.map some
  | [], ys => by cases ys <;> simp [mapOpt]
  | x :: xs, [] => by
    simp only [mapOpt]
    cases f x with
    | none => simp
    | some y => cases mapOpt f xs <;> simp
  | x :: xs, y :: ys => by
    simp only [mapOpt, List.map_cons, List.cons.injEq, ← mapOpt_eq_some (xs := xs) (ys := ys)]
    cases f x with
    | none => simp
    | some y' => cases mapOpt f xs <;> simp

theorem mapOpt_some_left {f : α → Option β} {xs : List α} {ys : List β}
    (h : mapOpt f xs = some ys) {x : α} (hx : x ∈ xs) : ∃ y ∈ ys, f x = some y := by
  have := List.mem_map_of_mem (f := f) hx
  rw [mapOpt_eq_some.1 h] at this
  simpa [eq_comm] using this

theorem mapOpt_some_right {f : α → Option β} {xs : List α} {ys : List β}
    (h : mapOpt f xs = some ys) {y : β} (hy : y ∈ ys) : ∃ x ∈ xs, f x = some y := by
  have := List.mem_map_of_mem (f := some) hy
  rw [← mapOpt_eq_some.1 h] at this
  simpa using this

theorem mapOpt_congr (f g : α → Option β) (xs : List α) (h : ∀ x ∈ xs, f x = g x) :
    mapOpt f xs = mapOpt g xs :=
  Option.ext fun ys => by rw [mapOpt_eq_some, mapOpt_eq_some, List.map_congr_left h]

theorem mapOpt_map {γ : Type} (f : α → Option β) (g : α → Option γ) (φ : β → γ) :
    ∀ xs : List α, (∀ x ∈ xs, g x = (f x).map φ) → mapOpt g xs = (mapOpt f xs).map (List.map φ)
  | [], _ => rfl
  | x :: xs, h => by
    have ih := mapOpt_map f g φ xs (fun a ha => h a (List.mem_cons_of_mem _ ha))
    simp only [mapOpt, h x (List.mem_cons_self ..), ih]
    cases f x with
    | none => rfl
    | some y => cases mapOpt f xs <;> rfl

end mapOpt

/-- one call of `mro(cls, getbases)`, `k` being the recursive calls -/
def mroBody (bases : Nat → List Nat) (k : Nat → Option (List Nat)) (c : Nat) : Option (List Nat) :=
  if (bases c).isEmpty then some [c]
  else match mapOpt k (bases c) with
    | none => none
    | some lins => (merge (lins ++ [bases c])).map (c :: ·)

theorem mroFuel_succ (bases : Nat → List Nat) (f c : Nat) :
    mroFuel bases (f + 1) c = mroBody bases (mroFuel bases f) c := rfl

/-- the shortcut for a class without bases returns what the general case computes: `_merge([])`
is `[]` -/
theorem mroBody_eq (bases : Nat → List Nat) (k : Nat → Option (List Nat)) (c : Nat) :
    mroBody bases k c =
      match mapOpt k (bases c) with
      | none => none
      | some lins => (merge (lins ++ [bases c])).map (c :: ·) := by
  unfold mroBody
  split
  · have hb : bases c = [] := List.isEmpty_iff.1 ‹_›
    rw [hb]; rfl
  · rfl

theorem mroFuel_some {bases : Nat → List Nat} {f c : Nat} {l : List Nat}
    (h : mroFuel bases (f + 1) c = some l) :
    ∃ lins out, mapOpt (mroFuel bases f) (bases c) = some lins ∧
      merge (lins ++ [bases c]) = some out ∧ l = c :: out := by
  rw [mroFuel_succ, mroBody_eq] at h
  split at h
  · cases h
  · obtain ⟨out, ho, rfl⟩ := Option.map_eq_some_iff.1 h
    exact ⟨_, out, ‹_›, ho, rfl⟩

theorem mroFuel_head (bases : Nat → List Nat) : ∀ (f c : Nat) (l : List Nat), mroFuel bases f c = some l →
    ∃ t, l = c :: t
  | _ + 1, _, _, h => let ⟨_, out, _, _, e⟩ := mroFuel_some h; ⟨out, e⟩

theorem mroFuel_mem_iff {bases : Nat → List Nat} :
    ∀ {f c : Nat} {l : List Nat}, mroFuel bases f c = some l → ∀ x, x ∈ l ↔ Anc bases x c := by
  intro f
  induction f with
  | zero => intro c l h; cases h
  | succ f ih =>
    intro c l h x
    obtain ⟨lins, out, hm, ho, rfl⟩ := mroFuel_some h
    constructor
    · intro hx
      rcases List.mem_cons.1 hx with rfl | hx
      · exact Anc.refl _
      · obtain ⟨l', hl', hxl⟩ := mergeFuel_mem ho x hx
        rcases List.mem_append.1 hl' with hl' | hl'
        · obtain ⟨b, hb, hfb⟩ := mapOpt_some_right hm hl'
          exact Anc.step hb ((ih hfb x).1 hxl)
        · cases List.mem_singleton.1 hl'
          exact Anc.step hxl (Anc.refl _)
    · intro ha
      cases ha with
      | refl => exact List.mem_cons_self ..
      | step hb hxb =>
        obtain ⟨lb, hlb, hfb⟩ := mapOpt_some_left hm hb
        have hsub := mergeFuel_sublist _ _ _ ho lb (List.mem_append_left _ hlb)
        exact List.mem_cons_of_mem _ (hsub.subset ((ih hfb x).2 hxb))

theorem mroFuel_head_tail {bases : Nat → List Nat} (hA : Acyclic bases) {f c : Nat} {l : List Nat}
    (h : mroFuel bases f c = some l) : ∃ t, l = c :: t ∧ (∀ x ∈ t, x < c) ∧ t.Nodup := by
  cases f with
  | zero => cases h
  | succ f =>
    obtain ⟨lins, out, hm, ho, rfl⟩ := mroFuel_some h
    refine ⟨out, rfl, fun x hx => ?_, mergeFuel_nodup ho⟩
    obtain ⟨l', hl', hxl⟩ := mergeFuel_mem ho x hx
    rcases List.mem_append.1 hl' with hl' | hl'
    · obtain ⟨b, hb, hfb⟩ := mapOpt_some_right hm hl'
      exact Nat.lt_of_le_of_lt (anc_le hA ((mroFuel_mem_iff hfb x).1 hxl)) (hA c b hb)
    · cases List.mem_singleton.1 hl'
      exact hA c x hxl

theorem mroFuel_nodup {bases : Nat → List Nat} (hA : Acyclic bases) {f c : Nat} {l : List Nat}
    (h : mroFuel bases f c = some l) : l.Nodup := by
  obtain ⟨t, rfl, ht, hn⟩ := mroFuel_head_tail hA h
  exact List.nodup_cons.2 ⟨fun hc => Nat.lt_irrefl c (ht c hc), hn⟩

/-- **mroFuel_stable**: on an acyclic hierarchy `none` from `mro` is the `ValueError`, never
exhaustion of the fuel. -/
theorem mroFuel_stable (bases : Nat → List Nat) (hA : Acyclic bases) :
    ∀ (f g c : Nat), c < f → c < g → mroFuel bases f c = mroFuel bases g c :=
  fuel_stable id (mroBody bases)
    (fun k k' c h => by unfold mroBody; rw [mapOpt_congr k k' _ fun b hb => h b (hA c b hb)])
    (mroFuel bases) (mroFuel_succ bases)

/-! ### the C3 facts, stated for `mro` -/

theorem mro_head (bases : Nat → List Nat) (hA : Acyclic bases) (c : Nat) (l : List Nat)
    (h : mro bases c = some l) : l.head? = some c := by
  obtain ⟨t, rfl, _⟩ := mroFuel_head_tail hA h
  rfl

theorem mro_nodup (bases : Nat → List Nat) (hA : Acyclic bases) (c : Nat) (l : List Nat)
    (h : mro bases c = some l) : l.Nodup :=
  mroFuel_nodup hA h

theorem mro_mem_iff_ancestor (bases : Nat → List Nat) (c : Nat) (l : List Nat)
    (h : mro bases c = some l) (x : Nat) : x ∈ l ↔ Anc bases x c :=
  mroFuel_mem_iff h x

theorem mro_local_precedence (bases : Nat → List Nat) (c : Nat) (l : List Nat)
    (h : mro bases c = some l) : (bases c).Sublist l.tail := by
  obtain ⟨lins, out, _, ho, rfl⟩ := mroFuel_some h
  exact mergeFuel_sublist _ _ _ ho (bases c) (by simp)

theorem mro_monotone (bases : Nat → List Nat) (hA : Acyclic bases) (c b : Nat) (l : List Nat)
    (h : mro bases c = some l) (hb : b ∈ bases c) :
    ∃ lb, mro bases b = some lb ∧ lb.Sublist l := by
  obtain ⟨lins, out, hm, ho, rfl⟩ := mroFuel_some h
  obtain ⟨lb, hlb, hfb⟩ := mapOpt_some_left hm hb
  refine ⟨lb, ?_, (mergeFuel_sublist _ _ _ ho lb (List.mem_append_left _ hlb)).cons _⟩
  rw [mro, mroFuel_stable bases hA (b + 1) c b (Nat.lt_succ_self b) (hA c b hb)]
  exact hfb

/-! ## pydoctor's `mro` and CPython's `mro_implementation` on the same hierarchy -/

theorem merge_head_step (x : Nat) (t s : List Nat) (hx : x ∉ t) (hs : s = [] ∨ s = [x]) :
    merge [x :: t, s] = (merge [t, []]).map (x :: ·) := by
  rw [merge_unfold]
  rcases hs with rfl | rfl <;> simp [exhausted, pick, head, inTails, inTail, hx, remove, pop]

theorem merge_single : ∀ t : List Nat, t.Nodup → merge [t, []] = some t
  | [], _ => rfl
  | x :: t, hn => by
    rw [merge_head_step x t [] (List.nodup_cons.1 hn).1 (.inl rfl),
      merge_single t (List.nodup_cons.1 hn).2]
    rfl

/-- CPython's single-base fast path is what the merge computes anyway -/
theorem merge_fast {b : Nat} {t : List Nat} (hn : (b :: t).Nodup) :
    merge [b :: t, [b]] = some (b :: t) := by
  rw [merge_head_step b t [b] (List.nodup_cons.1 hn).1 (.inr rfl),
    merge_single t (List.nodup_cons.1 hn).2]
  rfl

theorem hasDup_iff : ∀ l : List Nat, PyMro.hasDup l = true ↔ ¬ l.Nodup
  | [] => by simp [PyMro.hasDup]
  | x :: xs => by
    by_cases hx : x ∈ xs <;> simp [PyMro.hasDup, hasDup_iff xs, List.nodup_cons, hx]

/-- a base written twice stays twice in the merged order, which repeats nothing -/
theorem merge_dup (lins : List (List Nat)) {bs : List Nat} (hd : PyMro.hasDup bs = true) :
    merge (lins ++ [bs]) = none := by
  cases h : merge (lins ++ [bs]) with
  | none => rfl
  | some out =>
    exact absurd ((mergeFuel_sublist _ _ out h bs (by simp)).nodup (mergeFuel_nodup h))
      ((hasDup_iff bs).1 hd)

theorem pyMroFuel_succ (bases : Nat → List Nat) (f c : Nat) :
    PyMro.mroFuel bases (f + 1) c =
      match mapOpt (PyMro.mroFuel bases f) (bases c) with
      | none => none
      | some lins =>
        match lins with
        | [l] => some (c :: l)
        | _ =>
          if PyMro.hasDup (bases c) then none
          else (PyMro.pmerge (lins ++ [bases c])).map (c :: ·) := rfl

theorem pyMroFuel_head (bases : Nat → List Nat) : ∀ (f c : Nat) (l : List Nat), PyMro.mroFuel bases f c = some l →
    ∃ t, l = c :: t
  | f + 1, c, l, h => by
    rw [pyMroFuel_succ] at h
    split at h
    · cases h
    · split at h
      · exact ⟨_, (Option.some.inj h).symm⟩
      · split at h
        · cases h
        · obtain ⟨t, _, rfl⟩ := Option.map_eq_some_iff.1 h
          exact ⟨t, rfl⟩

/-- **pd_eq_cpython_same**: on one and the same acyclic hierarchy, `pydoctor.mro.mro` and
CPython's `mro_implementation` (fast path, duplicate check, `pmerge`) agree: the same
linearisation, or both reject. -/
theorem pd_eq_cpython_same (bases : Nat → List Nat) (hA : Acyclic bases) :
    ∀ f c : Nat, mroFuel bases f c = PyMro.mroFuel bases f c := by
  intro f
  induction f with
  | zero => intro c; rfl
  | succ f ih =>
    intro c
    have hfun : PyMro.mroFuel bases f = mroFuel bases f := funext fun b => (ih b).symm
    rw [mroFuel_succ, mroBody_eq, pyMroFuel_succ, hfun]
    cases hm : mapOpt (mroFuel bases f) (bases c) with
    | none => rfl
    | some lins =>
      simp only []
      split
      · -- one base `b`: its linearisation `l` is `b :: t` without repetition
        rename_i l
        have hl : (bases c).map (mroFuel bases f) = [some l] := mapOpt_eq_some.1 hm
        obtain ⟨b, hb, hfb⟩ : ∃ b, bases c = [b] ∧ mroFuel bases f b = some l := by
          simpa [List.map_eq_singleton_iff] using hl
        obtain ⟨t, rfl, _⟩ := mroFuel_head_tail hA hfb
        simp [hb, merge_fast (mroFuel_nodup hA hfb)]
      · by_cases hd : PyMro.hasDup (bases c) = true
        · rw [if_pos hd, merge_dup lins hd]
          rfl
        · rw [if_neg hd, merge_eq_pmerge]

/-! ## The implicit root `object`

CPython gives every class statement without bases the base `object`; pydoctor does not.  Appending
a common root `x` to every linearisation (but not to the list of direct bases) only appends `x`
to the merged result.  Each list carries a flag: does CPython's version of it end with the root?
`plain` is what pydoctor merges, `rooted x` what CPython merges. -/

def plain (ps : List (List Nat × Bool)) : List (List Nat) := ps.map (·.1)

def root (x : Nat) (p : List Nat × Bool) : List Nat := if p.2 then p.1 ++ [x] else p.1

def rooted (x : Nat) (ps : List (List Nat × Bool)) : List (List Nat) := ps.map (root x)

def popP (h : Nat) (ps : List (List Nat × Bool)) : List (List Nat × Bool) :=
  ps.map fun p => (pop h p.1, p.2)

/-- What keeps the root in some tail until everything else has been merged: it is not among the
classes to merge, some list ends with it, and an unflagged list holds only classes that a flagged
list holds too (so the flagged lists are not used up first). -/
structure RootInv (x : Nat) (ps : List (List Nat × Bool)) : Prop where
  fresh : ∀ p ∈ ps, x ∉ p.1
  covered : ∀ p ∈ ps, p.2 = false → ∀ a ∈ p.1, ∃ q ∈ ps, q.2 = true ∧ a ∈ q.1
  flagged : ∃ q ∈ ps, q.2 = true

theorem plain_popP (h : Nat) (ps : List (List Nat × Bool)) : plain (popP h ps) = remove h (plain ps) := by
  simp [plain, popP, remove, List.map_map, Function.comp_def]

theorem rooted_popP {x h : Nat} (hx : h ≠ x) (ps : List (List Nat × Bool)) :
    rooted x (popP h ps) = remove h (rooted x ps) := by
  simp only [rooted, popP, remove, List.map_map]
  apply List.map_congr_left
  rintro ⟨_ | ⟨a, t⟩, _ | _⟩ _ <;> simp [root, pop, Ne.symm hx]
  split <;> rfl

theorem inTails_rooted_ne {x c : Nat} (hc : c ≠ x) (ps : List (List Nat × Bool)) :
    inTails c (rooted x ps) = inTails c (plain ps) := by
  have : ∀ p : List Nat × Bool, inTail c (root x p) = inTail c p.1 := by
    rintro ⟨_ | ⟨a, t⟩, _ | _⟩ <;> simp [root, inTail, hc]
  simp [inTails, rooted, plain, List.any_map, Function.comp_def, this]

theorem inTails_root {x : Nat} {ps : List (List Nat × Bool)} (hI : RootInv x ps)
    (hex : exhausted (plain ps) = false) : inTails x (rooted x ps) = true := by
  have ⟨q, hq, hq2, hne⟩ : ∃ q ∈ ps, q.2 = true ∧ q.1 ≠ [] := by
    obtain ⟨_, hl, hne⟩ := List.all_eq_false.1 hex
    obtain ⟨p, hp, rfl⟩ := List.mem_map.1 hl
    replace hne : p.1 ≠ [] := fun e => hne (e ▸ rfl)
    cases hb : p.2 with
    | true => exact ⟨p, hp, hb, hne⟩
    | false =>
      obtain ⟨a, ha⟩ := List.exists_mem_of_ne_nil _ hne
      obtain ⟨q, hq, hq2, haq⟩ := hI.covered p hp hb a ha
      exact ⟨q, hq, hq2, List.ne_nil_of_mem haq⟩
  simp only [inTails, rooted, List.any_map, List.any_eq_true]
  refine ⟨q, hq, ?_⟩
  obtain ⟨_ | ⟨a, t⟩, b⟩ := q
  · exact absurd rfl hne
  · cases hq2; simp [root, inTail]

theorem pick_rooted {x : Nat} {ps : List (List Nat × Bool)} (hfresh : ∀ p ∈ ps, x ∉ p.1)
    (hroot : inTails x (rooted x ps) = true) :
    pick (rooted x ps) ((rooted x ps).map head) = pick (plain ps) ((plain ps).map head) := by
  have hr : (rooted x ps).map head = ps.map (head ∘ root x) := List.map_map
  have hp : (plain ps).map head = ps.map (head ∘ (·.1)) := List.map_map
  rw [pick_eq_findSome?, pick_eq_findSome?, hr, hp, List.findSome?_map, List.findSome?_map]
  apply findSome?_congr
  rintro ⟨_ | ⟨a, t⟩, b⟩ hp
  · cases b <;> simp [root, head, hroot]
  · have hax : a ≠ x := fun e => hfresh _ hp (e ▸ List.mem_cons_self ..)
    have hh : (root x (a :: t, b)).head? = some a := by cases b <;> rfl
    simp [hh, head, Option.filter_some, inTails_rooted_ne hax]

theorem merge_only_root {x : Nat} {ls : List (List Nat)} (hall : ∀ l ∈ ls, l = [x] ∨ l = [])
    (hx : [x] ∈ ls) : merge ls = some [x] := by
  have hex : exhausted ls = false := List.all_eq_false.2 ⟨[x], hx, by simp⟩
  have hin : inTails x ls = false := by
    simp only [inTails, List.any_eq_false]
    intro l hl
    rcases hall l hl with rfl | rfl <;> simp [inTail]
  have hp : pick ls (ls.map head) = some x := by
    cases hp : pick ls (ls.map head) with
    | none =>
      rw [pick_eq_findSome?, List.findSome?_map, List.findSome?_eq_none_iff] at hp
      simpa [head, hin] using hp _ hx
    | some y =>
      obtain ⟨⟨l, hl, t, rfl⟩, _⟩ := pick_heads hp
      rcases hall _ hl with h | h <;> cases h
      rfl
  have hrem : exhausted (remove x ls) = true := by
    simp only [exhausted, remove, List.all_map, List.all_eq_true]
    intro l hl
    rcases hall l hl with rfl | rfl <;> simp [pop]
  rw [merge_unfold, hex, hp, if_neg Bool.false_ne_true]
  simp only []
  rw [merge_unfold, hrem]
  rfl

theorem rootInv_popP {x h : Nat} {ps : List (List Nat × Bool)} (hI : RootInv x ps)
    (hnt : ∀ l ∈ plain ps, h ∉ l.tail) : RootInv x (popP h ps) := by
  constructor
  · intro p hp
    obtain ⟨p0, hp0, rfl⟩ := List.mem_map.1 hp
    exact fun hx => hI.fresh p0 hp0 ((pop_sublist h p0.1).subset hx)
  · intro p hp hp2 a ha
    obtain ⟨p0, hp0, rfl⟩ := List.mem_map.1 hp
    have hah : a ≠ h := by
      rintro rfl
      exact not_mem_pop (hnt p0.1 (List.mem_map_of_mem hp0)) ha
    obtain ⟨q, hq, hq2, haq⟩ := hI.covered p0 hp0 hp2 a ((pop_sublist h p0.1).subset ha)
    exact ⟨(pop h q.1, q.2), List.mem_map_of_mem hq, hq2, mem_pop_of_ne haq hah⟩
  · obtain ⟨q, hq, hq2⟩ := hI.flagged
    exact ⟨(pop h q.1, q.2), List.mem_map_of_mem hq, hq2⟩

theorem merge_rooted (x : Nat) : ∀ (k : Nat) (ps : List (List Nat × Bool)),
    size (plain ps) < k → RootInv x ps →
      merge (rooted x ps) = (merge (plain ps)).map (· ++ [x]) := by
  intro k
  induction k with
  | zero => intro ps h; exact absurd h (Nat.not_lt_zero _)
  | succ k ih =>
    intro ps hk hI
    cases hex : exhausted (plain ps) with
    | true =>
      have hnil : ∀ p ∈ ps, p.1 = [] := fun p hp =>
        eq_nil_of_exhausted hex (List.mem_map_of_mem hp)
      obtain ⟨q, hq, hq2⟩ := hI.flagged
      rw [merge_unfold (plain ps), hex]
      refine merge_only_root (fun l hl => ?_) (List.mem_map.2 ⟨q, hq, by simp [root, hq2, hnil q hq]⟩)
      obtain ⟨p, hp, rfl⟩ := List.mem_map.1 hl
      cases hb : p.2 <;> simp [root, hb, hnil p hp]
    | false =>
      have hroot := inTails_root hI hex
      have hexr : exhausted (rooted x ps) = false := by
        obtain ⟨l, hl, ht⟩ := List.any_eq_true.1 hroot
        exact List.all_eq_false.2 ⟨l, hl, by cases l <;> simp_all [inTail]⟩
      rw [merge_unfold (rooted x ps), merge_unfold (plain ps), hex, hexr,
        pick_rooted hI.fresh hroot]
      cases hp : pick (plain ps) ((plain ps).map head) with
      | none => rfl
      | some h =>
        obtain ⟨⟨l, hl, t, rfl⟩, hnt⟩ := pick_heads hp
        obtain ⟨p, hp', hpl⟩ := List.mem_map.1 hl
        have hhx : h ≠ x := fun e => hI.fresh p hp' (by rw [hpl, e]; exact List.mem_cons_self ..)
        have hlt := size_remove_lt h (plain ps) ⟨_, hl, t, rfl⟩
        have := ih (popP h ps) (plain_popP h ps ▸ Nat.lt_of_lt_of_le hlt (Nat.le_of_lt_succ hk))
          (rootInv_popP hI hnt)
        rw [rooted_popP hhx, plain_popP] at this
        simp [this, Option.map_map, Function.comp_def]

/-- `merge_rooted` for the lists `mro` merges -/
theorem merge_append_root (x : Nat) (lins : List (List Nat)) (bs : List Nat)
    (hfresh : ∀ l ∈ lins, x ∉ l) (hcov : ∀ a ∈ bs, ∃ l ∈ lins, a ∈ l) (hne : lins ≠ []) :
    merge (lins.map (· ++ [x]) ++ [bs]) = (merge (lins ++ [bs])).map (· ++ [x]) := by
  have hI : RootInv x (lins.map (·, true) ++ [(bs, false)]) := by
    refine ⟨?_, ?_, ?_⟩ <;> simp only [List.mem_append, List.mem_map, List.mem_singleton]
    · rintro p (⟨l, hl, rfl⟩ | rfl)
      · exact hfresh l hl
      · exact fun hx => let ⟨l, hl, hxl⟩ := hcov x hx; hfresh l hl hxl
    · rintro p (⟨l, hl, rfl⟩ | rfl) hp2 a ha
      · cases hp2
      · obtain ⟨l, hl, hal⟩ := hcov a ha
        exact ⟨(l, true), .inl ⟨l, hl, rfl⟩, rfl, hal⟩
    · obtain ⟨l, hl⟩ := List.exists_mem_of_ne_nil _ hne
      exact ⟨(l, true), .inl ⟨l, hl, rfl⟩, rfl⟩
  simpa [rooted, plain, root, List.map_map, Function.comp_def]
    using merge_rooted x _ _ (Nat.lt_succ_self _) hI

/-! ## pydoctor's `mro` and CPython's `mro_implementation` with the implicit `object` -/

/-- The hierarchy of the documented classes 1, 2, …: bases are earlier classes.  Class 0 is
`object`; no class statement names it (a class statement that does name `object` is covered by
`pd_eq_cpython_same`, where it is a class like any other). -/
def Acyclic1 (bases : Nat → List Nat) : Prop := ∀ c, ∀ b ∈ bases c, 0 < b ∧ b < c

theorem Acyclic1.acyclic {bases : Nat → List Nat} (hA : Acyclic1 bases) : Acyclic bases :=
  fun c b hb => (hA c b hb).2

theorem withObject_pos (bases : Nat → List Nat) {c : Nat} (hc : 0 < c) :
    PyMro.withObject bases c = if (bases c).isEmpty then [0] else bases c := by
  simp [PyMro.withObject, Nat.ne_of_gt hc]

theorem acyclic_withObject {bases : Nat → List Nat} (hA : Acyclic1 bases) :
    Acyclic (PyMro.withObject bases) := by
  intro c b hb
  cases c with
  | zero => cases hb
  | succ c =>
    rw [withObject_pos bases (Nat.succ_pos c)] at hb
    split at hb
    · cases List.mem_singleton.1 hb
      exact Nat.succ_pos c
    · exact (hA _ b hb).2

/-- **mro_withObject**: computing the linearisation in the hierarchy where every class without
bases derives from `object` (what `type_new` does) gives the linearisation without `object`,
followed by `object`. -/
theorem mro_withObject (bases : Nat → List Nat) (hA : Acyclic1 bases) :
    ∀ f c : Nat, 0 < c →
      mroFuel (PyMro.withObject bases) (f + 1) c = (mroFuel bases f c).map (· ++ [0]) := by
  intro f
  induction f with
  | zero =>
    intro c hc
    rw [mroFuel_succ, mroBody_eq, withObject_pos bases hc]
    cases bases c <;> rfl
  | succ f ih =>
    intro c hc
    rw [mroFuel_succ, mroBody_eq, withObject_pos bases hc, mroFuel_succ bases, mroBody]
    by_cases he : (bases c).isEmpty = true
    · -- no bases: `object` alone is merged
      have h0 : mroFuel (PyMro.withObject bases) (f + 1) 0 = some [0] := rfl
      have hm : merge [[0], [0]] = some [0] := rfl
      simp [he, mapOpt, h0, hm]
    · rw [if_neg he, if_neg he,
        mapOpt_map (mroFuel bases f) _ (· ++ [0]) (bases c) fun b hb => ih b (hA c b hb).1]
      cases hm : mapOpt (mroFuel bases f) (bases c) with
      | none => rfl
      | some lins =>
        have hfresh : ∀ l ∈ lins, 0 ∉ l := fun l hl h0 => by
          obtain ⟨b, hb, hfb⟩ := mapOpt_some_right hm hl
          rcases anc_eq_or_base ((mroFuel_mem_iff hfb 0).1 h0) with rfl | ⟨d, hd⟩
          · exact Nat.lt_irrefl 0 (hA c 0 hb).1
          · exact Nat.lt_irrefl 0 (hA d 0 hd).1
        have hcov : ∀ a ∈ bases c, ∃ l ∈ lins, a ∈ l := fun a ha => by
          obtain ⟨la, hla, hfa⟩ := mapOpt_some_left hm ha
          obtain ⟨t, rfl, _⟩ := mroFuel_head_tail hA.acyclic hfa
          exact ⟨_, hla, List.mem_cons_self ..⟩
        have hne : lins ≠ [] := fun e => he (by simpa [e] using mapOpt_eq_some.1 hm)
        simp only [Option.map_some, merge_append_root 0 lins (bases c) hfresh hcov hne]
        cases merge (lins ++ [bases c]) <;> simp

/-- **pd_eq_cpython**: CPython's `mro_implementation` (with `type_new`'s implicit `object`, the
single-base fast path, the duplicate-base check and the index-based `pmerge`) yields pydoctor's
linearisation followed by `object`, and rejects the class exactly when `pydoctor.mro.mro` raises. -/
theorem pd_eq_cpython (bases : Nat → List Nat) (hA : Acyclic1 bases) (c : Nat) (hc : 0 < c) :
    PyMro.mro (PyMro.withObject bases) c = (mro bases c).map (· ++ [0]) := by
  have hAw := acyclic_withObject hA
  rw [PyMro.mro, ← pd_eq_cpython_same _ hAw,
    mroFuel_stable _ hAw (c + 1) (c + 2) c (Nat.lt_succ_self c) (Nat.lt_succ_of_lt (Nat.lt_succ_self c)),
    mro_withObject bases hA (c + 1) c hc]
  rfl

theorem pd_rejects_iff_cpython_rejects (bases : Nat → List Nat) (hA : Acyclic1 bases) (c : Nat)
    (hc : 0 < c) : mro bases c = none ↔ PyMro.mro (PyMro.withObject bases) c = none := by
  rw [pd_eq_cpython bases hA c hc]; simp

/-- **duplicate_bases_reject**: a repeated base (CPython: `TypeError: duplicate base class`) makes
pydoctor's merge fail as well. -/
theorem duplicate_bases_reject (bases : Nat → List Nat) (c : Nat)
    (hd : PyMro.hasDup (bases c) = true) : mro bases c = none := by
  rw [mro, mroFuel_succ, mroBody_eq]
  cases mapOpt (mroFuel bases c) (bases c) with
  | none => rfl
  | some lins =>
    simp only []
    rw [merge_dup lins hd]
    rfl

/-! ## `_init_mro`, `Class.find`, "overrides …", `docsources` / `get_docstring` -/

/-- **reject_reports**: when the linearisation cannot be computed, `_init_mro` makes exactly one
report (section `mro`, for that class) and still gives the class a non-empty `_mro` that starts
with the class itself (`allbases(True)`). -/
theorem reject_reports (bases : Nat → List Nat) (ext : Nat → Bool) (c : Nat)
    (h : mro bases c = none) :
    (initMro bases ext c).2 = [c] ∧ (initMro bases ext c).1.head? = some c := by
  simp [initMro, h, allbases, allbasesFuel]

/-- **accept_no_report**: otherwise nothing is reported and `_mro` is the linearisation. -/
theorem accept_no_report (bases : Nat → List Nat) (ext : Nat → Bool) (c : Nat) (l : List Nat)
    (h : mro bases c = some l) : initMro bases ext c = (l, []) := by
  simp [initMro, h]

/-- the inconsistency is reported exactly for the classes Python refuses to create -/
theorem report_iff_python_rejects (bases : Nat → List Nat) (hA : Acyclic1 bases) (ext : Nat → Bool)
    (c : Nat) (hc : 0 < c) :
    (initMro bases ext c).2 = [c] ↔ PyMro.mro (PyMro.withObject bases) c = none := by
  rw [← pd_rejects_iff_cpython_rejects bases hA c hc]
  cases h : mro bases c <;> simp [initMro, h]

/-- `Class.mro(include_external, include_self)` of an accepted class -/
theorem classMro_accept (bases : Nat → List Nat) (ext : Nat → Bool) (c : Nat) (l : List Nat)
    (h : mro bases c = some l) (ie is_ : Bool) :
    classMro bases ext c ie is_ =
      (if is_ then id else List.drop 1) (if ie then l else l.filter fun o => !ext o) := by
  cases ie <;> cases is_ <;> simp [classMro, initMro, h]

theorem pyMro_accept {bases : Nat → List Nat} (hA : Acyclic1 bases) {c : Nat} (hc : 0 < c)
    {l : List Nat} (h : mro bases c = some l) :
    PyMro.mro (PyMro.withObject bases) c = some (l ++ [0]) := by
  rw [pd_eq_cpython bases hA c hc, h]
  rfl

/-- a search along `Class.mro()` (unresolved bases left out) and one along `__mro__` (`object` at the
end) stop at the same class -/
theorem find?_filter_external {ext p : Nat → Bool} (hext : ∀ x, ext x = true → p x = false)
    (hobj : p 0 = false) :
    ∀ l : List Nat, (l.filter fun o => !ext o).find? p = (l ++ [0]).find? p
  | [] => by simp [hobj]
  | a :: l => by
    cases he : ext a <;>
      simp [List.find?_cons, he, find?_filter_external hext hobj l, hext a]

/-- **find_eq_lookup**: for a class Python accepts, `Class.find(name)` returns the member of the
class that attribute lookup (`_PyType_Lookup` along `__mro__`) finds at run time — for a name that
neither an unresolved base nor `object` defines (`hext`, `hobj`): pydoctor sees the contents of
neither. -/
theorem find_eq_lookup (bases : Nat → List Nat) (hA : Acyclic1 bases) (ext : Nat → Bool)
    (owns : Nat → Nat → Bool) (c name : Nat) (hc : 0 < c) (l : List Nat)
    (hacc : mro bases c = some l)
    (hext : ∀ x, ext x = true → owns x name = false) (hobj : owns 0 name = false) :
    find bases ext owns c name = PyMro.lookup (PyMro.withObject bases) owns c name := by
  simp only [find, classMro_accept bases ext c l hacc, PyMro.lookup, pyMro_accept hA hc hacc]
  exact find?_filter_external hext hobj l

/-- the member shown as "overrides …" before commit d869973 is the one `super()` reaches when no
name is mangled (both sides use the same `owns`): the unmangled case of `overrides_eq_super` -/
theorem overrides_same_owns (bases : Nat → List Nat) (hA : Acyclic1 bases) (ext : Nat → Bool)
    (owns : Nat → Nat → Bool) (c name : Nat) (hc : 0 < c) (l : List Nat)
    (hacc : mro bases c = some l) (hcext : ext c = false)
    (hext : ∀ x, ext x = true → owns x name = false) (hobj : owns 0 name = false) :
    overridesOld bases ext owns c name = PyMro.superLookup (PyMro.withObject bases) owns c name := by
  obtain ⟨t, rfl, _⟩ := mroFuel_head_tail hA.acyclic hacc
  simp only [overridesOld, PyMro.superLookup, classMro_accept bases ext c _ hacc,
    pyMro_accept hA hc hacc, Bool.false_eq_true, if_false, List.filter_cons, hcext,
    Bool.not_false, if_true, List.drop_succ_cons, List.drop_zero, List.cons_append]
  exact find?_filter_external hext hobj t

/-- the docstring source `get_docstring` picked before commit d869973 (own docstring, else the first
inherited definition along `mro()` that has one, members related by their spelling) is the one
attribute lookup along Python's `__mro__` yields when no name is mangled -/
theorem docsource_same_owns (bases : Nat → List Nat) (hA : Acyclic1 bases) (ext : Nat → Bool)
    (owns hasDoc : Nat → Nat → Bool) (c name : Nat) (hc : 0 < c) (l : List Nat)
    (hacc : mro bases c = some l) (hcext : ext c = false)
    (hext : ∀ x, ext x = true → owns x name = false) (hobj : owns 0 name = false) :
    getDocstringOld bases ext owns hasDoc c name
      = PyMro.docSource (PyMro.withObject bases) owns hasDoc c name := by
  simp only [getDocstringOld, docsourcesOld, PyMro.docSource, List.find?_cons]
  cases hasDoc c name with
  | true => rfl
  | false =>
    -- without a docstring of its own: what `super()` reaches among the definitions that have one
    rw [List.find?_filter]
    simp only [Bool.decide_and, Bool.decide_eq_true]
    exact overrides_same_owns bases hA ext (fun b n => owns b n && hasDoc b n) c name hc l hacc hcext
      (fun x he => by simp [hext x he]) (by simp [hobj])

/-! ## Non-vacuity: a concrete hierarchy with a diamond and an inconsistent class -/

/-- 1; 2(1); 3(1); 4(2,3); 5(3,2); 6(4,5) — class 6 is the classic inconsistent hierarchy. -/
def exBases : Nat → List Nat
  | 2 => [1] | 3 => [1] | 4 => [2, 3] | 5 => [3, 2] | 6 => [4, 5] | _ => []

/-- 1; 2(1,1) — class 2 repeats a base. -/
def exDup : Nat → List Nat
  | 2 => [1, 1] | _ => []

example : Acyclic1 exBases := fun c =>
  if h : c < 7 then (by decide +kernel : ∀ c < 7, ∀ b ∈ exBases c, 0 < b ∧ b < c) c h
  else by
    obtain ⟨n, rfl⟩ := Nat.exists_eq_add_of_le (Nat.le_of_not_lt h)
    rw [Nat.add_comm]
    exact fun b hb => nomatch hb

example : mro exBases 4 = some [4, 2, 3, 1] := by decide +kernel
example : mro exBases 5 = some [5, 3, 2, 1] := by decide +kernel
example : mro exBases 6 = none := by decide +kernel
example : PyMro.mro (PyMro.withObject exBases) 4 = some [4, 2, 3, 1, 0] := by decide +kernel
example : PyMro.mro (PyMro.withObject exBases) 6 = none := by decide +kernel
example : merge [[1, 2], [2, 1]] = none ∧ PyMro.pmerge [[1, 2], [2, 1]] = none := by decide +kernel
example : initMro exBases (fun _ => false) 6 = ([6, 4, 2, 1, 3, 1, 5, 3, 1, 2, 1], [6]) := by decide +kernel
example : PyMro.hasDup (exDup 2) = true ∧ mro exDup 2 = none ∧ PyMro.mro (PyMro.withObject exDup) 2 = none := by
  decide +kernel
example : Anc exBases 1 4 := Anc.step (b := 2) (by decide) (Anc.step (b := 1) (by decide) (Anc.refl 1))
-- member 0 defined in 1 (with docstring), 3 (without) and 4 (without): 4.find = 4, docstring from 1
example : find exBases (fun _ => false) (fun c _ => c == 1 || c == 3 || c == 4) 4 0 = some 4
    ∧ getDocstring exBases (fun _ => false) (fun _ => false) (fun c _ => c == 1 || c == 3 || c == 4) (fun c _ => c == 1) 4 0 = some 1
    ∧ PyMro.docSource (PyMro.withObject exBases) (fun c _ => c == 1 || c == 3 || c == 4) (fun c _ => c == 1) 4 0 = some 1 := by
  decide +kernel

/-- `inspect.getdoc` is *not* "the docstring attribute lookup along the MRO yields": with
1 (doc), 2(1), 3(1) (doc), 4(2,3) (no doc) the MRO of 4 is 4,2,3,1 and the next definition after
4 is 3's, but `inspect.getdoc` asks `getattr(2, name)` first, which is 1's.  pydoctor follows the
MRO (3).  The harness therefore takes the MRO walk as the run-time reference and only counts how
often `inspect.getdoc` differs. -/
theorem getdoc_is_not_the_mro_walk :
    let owns := fun (c _ : Nat) => c == 1 || c == 3 || c == 4
    let hasDoc := fun (c _ : Nat) => c == 1 || c == 3
    PyMro.docSource (PyMro.withObject exBases) owns hasDoc 4 0 = some 3
    ∧ getDocstring exBases (fun _ => false) (fun _ => false) owns hasDoc 4 0 = some 3
    ∧ PyMro.inspectGetdoc (PyMro.withObject exBases) owns hasDoc 4 0 = some 1 := by
  decide +kernel

/-! ## The second pass of base resolution (`compute_mro.init_finalbaseobjects`) -/

/-- every cached `_finalbaseobjects` is the resolution in the DECLARING scope of its class -/
def Canonical (d : Decls) (c : Cache) : Prop :=
  ∀ o fb, c.get o = some fb → fb = finalOf d (d.scope o) o

theorem cache_get_cons (o o' : Nat) (fb : List (Option Nat)) (c : Cache) :
    Cache.get ((o, fb) :: c) o' = if o = o' then some fb else c.get o' := by
  by_cases h : o = o' <;> simp [Cache.get, h]

theorem initFinal_canonical (d : Decls) (cls : Nat) :
    ∀ (f o : Nat) (c : Cache), Canonical d c →
      Canonical d (initFinal d (fun _ o => d.scope o) cls f o c) := by
  intro f
  induction f with
  | zero => intro o c h; exact h
  | succ f ih =>
    intro o c hc
    simp only [initFinal]
    split
    · exact hc
    · split
      · exact hc
      · intro o' fb' hget
        rw [cache_get_cons] at hget
        split at hget
        · cases hget
          subst ‹o = o'›
          rfl
        · refine List.foldlRecOn _ _ hc (fun c hc b _ => ?_) o' fb' hget
          cases b with
          | none => exact hc
          | some b => exact ih b c hc

/-- **second_pass_canonical**: after `_init_mro` has run for any sequence of classes, every
`_finalbaseobjects` that is set is the declaring-scope resolution. -/
theorem second_pass_canonical (d : Decls) (fuel : Nat) (triggers : List Nat) :
    Canonical d (secondPass d (fun _ o => d.scope o) fuel triggers) :=
  List.foldlRecOn triggers _ (fun _ _ h => nomatch h)
    fun c hc t _ => initFinal_canonical d t fuel t c hc

/-- **second_pass_trigger_independent**: the resolved bases of a class do not depend on which
subclasses' MROs were computed before, nor in which order. -/
theorem second_pass_trigger_independent (d : Decls) (f1 f2 : Nat) (t1 t2 : List Nat) (o : Nat)
    (fb1 fb2 : List (Option Nat))
    (h1 : (secondPass d (fun _ o => d.scope o) f1 t1).get o = some fb1)
    (h2 : (secondPass d (fun _ o => d.scope o) f2 t2).get o = some fb2) : fb1 = fb2 := by
  rw [second_pass_canonical d f1 t1 o fb1 h1, second_pass_canonical d f2 t2 o fb2 h2]

/-- three modules: A (class 0, scope 0), `class B(A)` (class 1, scope 1, name 10 = "A" bound in
scope 1 only), `class C(B)` (class 2, scope 2, name 11 = "B"); nothing resolved in the AST pass. -/
def exDecls : Decls where
  scope := id
  raw := fun o => if o = 1 then [10] else if o = 2 then [11] else []
  initial := fun o => if o = 1 then [none] else if o = 2 then [none] else []
  expanded := fun o => if o = 1 then [none] else if o = 2 then [none] else []
  resolve := fun sc n => if sc = 1 ∧ n = 10 then some 0 else if sc = 2 ∧ n = 11 then some 1 else none

example : (secondPass exDecls (fun _ o => exDecls.scope o) 3 [2, 1, 0]).get 1 = some [some 0]
    ∧ (secondPass exDecls (fun _ o => exDecls.scope o) 3 [1, 2, 0]).get 1 = some [some 0] := by decide +kernel

/-- Looking the name up in the scope of the class whose MRO is being computed (instead of the
declaring class) is *not* trigger independent: reached first through C, B loses its base A. -/
theorem second_pass_wrong_scope_counterexample :
    (secondPass exDecls (fun cls _ => exDecls.scope cls) 3 [2, 1, 0]).get 1 = some [none]
    ∧ (secondPass exDecls (fun cls _ => exDecls.scope cls) 3 [1, 2, 0]).get 1 = some [some 0] := by
  decide +kernel

/-- the second pass with its two lookups swapped: the raw name in the final state of the scope
first, the name as expanded at the class statement only as a fallback -/
def finalOfSwapped (d : Decls) (sc o : Nat) : List (Option Nat) :=
  List.zipWith (fun n (ie : Option Nat × Option Nat) =>
      match ie.1 with
      | some b => some b
      | none =>
        match d.resolve sc n with
        | some b => some b
        | none => ie.2)
    (d.raw o) (List.zip (d.initial o) (d.expanded o))

/-- `from pkg.a import Root; class Mid(Root): …; class Root: …` with `Root` unresolved when `Mid` is
visited: class 1 = Mid (scope 1, base name 10), the expanded name leads to class 0 (`pkg.a.Root`),
the final state of scope 1 binds name 10 to class 5 (the local `Root`). -/
def exRebound : Decls where
  scope := id
  raw := fun o => if o = 1 then [10] else []
  initial := fun o => if o = 1 then [none] else []
  expanded := fun o => if o = 1 then [some 0] else []
  resolve := fun sc n => if sc = 1 ∧ n = 10 then some 5 else none

/-- The order of the two lookups matters: the code (expanded name first) keeps the class the name
denoted at the class statement, as Python does; the swapped order picks the class the name is
rebound to further down. -/
theorem second_pass_swapped_order_counterexample :
    finalOf exRebound 1 1 = [some 0] ∧ finalOfSwapped exRebound 1 1 = [some 5]
    ∧ (secondPass exRebound (fun _ o => exRebound.scope o) 2 [1]).get 1 = some [some 0] := by
  decide +kernel

/-! ## `Generic[T]` among the bases (`compute_mro.localbases` since commit 749fc3a)

`typing`'s `__mro_entries__` removes a `Generic[...]` base when a later base is a subscripted
generic; pydoctor's `getbases` skips the unresolved `typing.Generic` base in the same
situation.  The two filters are the same function, so the main theorem carries over to
hierarchies written with such bases. -/

theorem mroEntries_eq_localBases (gen : Nat → Bool) :
    ∀ raw : List (Nat × Bool), PyMro.mroEntries gen raw = localBases gen raw
  | [] => rfl
  | (b, f) :: rest => by
    simp only [PyMro.mroEntries, localBases, mroEntries_eq_localBases gen rest]

theorem localBases_sublist (gen : Nat → Bool) :
    ∀ raw : List (Nat × Bool), (localBases gen raw).Sublist (raw.map (·.1))
  | [] => List.Sublist.slnil
  | (a, f) :: rest => by
    simp only [localBases, List.map_cons]
    split
    · exact (localBases_sublist gen rest).cons a
    · exact (localBases_sublist gen rest).cons_cons a

/-- the fallback `allbases()` skips unresolved bases anyway: it sees the same classes with or
without the `Generic` filter -/
theorem filter_localBases (gen : Nat → Bool) :
    ∀ raw : List (Nat × Bool),
      (localBases gen raw).filter (fun b => !gen b) = (raw.map (·.1)).filter (fun b => !gen b)
  | [] => rfl
  | (a, f) :: rest => by
    simp only [localBases, List.map_cons]
    split
    · have : gen a = true := (Bool.and_eq_true_iff.1 ‹_›).1
      simp [this, filter_localBases gen rest]
    · simp [List.filter_cons, filter_localBases gen rest]

/-- raw bases name earlier classes; 0 (`object`) is never written -/
def AcyclicRaw (raw : Nat → List (Nat × Bool)) : Prop := ∀ c, ∀ p ∈ raw c, 0 < p.1 ∧ p.1 < c

/-- **pd_eq_cpython_generic**: for every acyclic hierarchy written with plain, subscripted and
`Generic[...]` bases, CPython's MRO over the bases `__mro_entries__` leaves is pydoctor's
linearisation over `getbases`, followed by `object`; both reject the same classes. -/
theorem pd_eq_cpython_generic (gen : Nat → Bool) (raw : Nat → List (Nat × Bool))
    (hA : AcyclicRaw raw) (c : Nat) (hc : 0 < c) :
    PyMro.mro (PyMro.withObject fun c => PyMro.mroEntries gen (raw c)) c
      = (mro (fun c => localBases gen (raw c)) c).map (· ++ [0]) := by
  have hfun : (fun c => PyMro.mroEntries gen (raw c)) = fun c => localBases gen (raw c) :=
    funext fun c => mroEntries_eq_localBases gen (raw c)
  rw [hfun]
  apply pd_eq_cpython _ _ c hc
  intro c b hb
  obtain ⟨p, hp, rfl⟩ := List.mem_map.1 ((localBases_sublist gen (raw c)).subset hb)
  exact hA c p hp

/-- 1 = `typing.Generic`; `class 2(Generic[T])`; `class 3(Generic[T], 2[T])` -/
def exRaw : Nat → List (Nat × Bool)
  | 2 => [(1, true)] | 3 => [(1, true), (2, true)] | _ => []

example : AcyclicRaw exRaw := fun c =>
  if h : c < 4 then (by decide +kernel : ∀ c < 4, ∀ p ∈ exRaw c, 0 < p.1 ∧ p.1 < c) c h
  else by
    obtain ⟨n, rfl⟩ := Nat.exists_eq_add_of_le (Nat.le_of_not_lt h)
    rw [Nat.add_comm]
    exact fun p hp => nomatch hp

/-- With the bases as pydoctor took them before commit 749fc3a (`Generic` kept), class 3 was
rejected although Python creates it; with the current `getbases` both agree. -/
theorem pd_eq_cpython_genericOld_counterexample :
    mro (fun c => localBasesOld (exRaw c)) 3 = none
    ∧ PyMro.mro (PyMro.withObject fun c => PyMro.mroEntries (· == 1) (exRaw c)) 3 = some [3, 2, 1, 0]
    ∧ mro (fun c => localBases (· == 1) (exRaw c)) 3 = some [3, 2, 1] := by
  decide +kernel

/-! ## Consumers of the linearisation: `mro()` flags, `is_exception`, constructors,
"overridden in", inherited-member tables -/

theorem classMro_no_external (bases : Nat → List Nat) (ext : Nat → Bool) (c : Nat) (is_ : Bool) :
    ∀ x ∈ classMro bases ext c false is_, ext x = false := by
  intro x hx
  have : x ∈ (initMro bases ext c).1.filter fun o => !ext o := by
    cases is_
    · exact List.mem_of_mem_drop hx
    · exact hx
  simpa using (List.mem_filter.1 this).2

/-- **isException_iff**: for a class Python accepts, `is_exception` holds exactly when a *proper*
ancestor is an unresolved base named in `_STD_LIB_EXCEPTIONS` — the walk covers the whole
ancestry (`mro_mem_iff_ancestor`) and never the class itself. -/
theorem isException_iff (bases : Nat → List Nat) (hA : Acyclic bases) (ext std : Nat → Bool)
    (c : Nat) (l : List Nat) (h : mro bases c = some l) :
    isException bases ext std c = true ↔
      ∃ x, x ≠ c ∧ Anc bases x c ∧ ext x = true ∧ std x = true := by
  obtain ⟨t, rfl, ht⟩ := mroFuel_head_tail hA h
  have hmem := mro_mem_iff_ancestor bases c _ h
  simp only [isException, classMro_accept bases ext c _ h, if_true, Bool.false_eq_true, if_false,
    List.drop_succ_cons, List.drop_zero, List.any_eq_true, Bool.and_eq_true]
  constructor
  · rintro ⟨x, hx, he, hs⟩
    exact ⟨x, Nat.ne_of_lt (ht.1 x hx), (hmem x).1 (List.mem_cons_of_mem _ hx), he, hs⟩
  · rintro ⟨x, hne, ha, he, hs⟩
    exact ⟨x, (List.mem_cons.1 ((hmem x).2 ha)).resolve_left hne, he, hs⟩

/-- **findDunderConstructor_eq_lookup**: the constructor pydoctor documents for an accepted class is
the user-defined `__new__` / `__init__` Python's lookup along `__mro__` reaches. -/
theorem findDunderConstructor_eq_lookup (bases : Nat → List Nat) (hA : Acyclic1 bases)
    (ext : Nat → Bool) (owns isFunc : Nat → Nat → Bool) (c newN initN : Nat) (hc : 0 < c)
    (l : List Nat) (hacc : mro bases c = some l)
    (hext : ∀ x n, ext x = true → owns x n = false) (hobj : ∀ n, owns 0 n = false) :
    findDunderConstructor bases ext owns isFunc c newN initN
      = PyMro.constructorLookup (PyMro.withObject bases) owns isFunc c newN initN := by
  simp only [findDunderConstructor, PyMro.constructorLookup,
    find_eq_lookup bases hA ext owns c newN hc l hacc (fun x => hext x newN) (hobj newN),
    find_eq_lookup bases hA ext owns c initN hc l hacc (fun x => hext x initN) (hobj initN)]

theorem mem_subclassesOf (bases : Nat → List Nat) (order : List Nat) (c s : Nat)
    (h : s ∈ subclassesOf bases order c) : c ∈ bases s := by
  simp only [subclassesOf, List.mem_flatMap, List.mem_map, List.mem_filter] at h
  obtain ⟨d, _, w, ⟨hm, he⟩, rfl⟩ := h
  exact beq_iff_eq.1 he ▸ hm

/-- the `for subclass in classobj.subclasses` loop, for any body `g` (subclass, `_seen`) ↦ (yielded, `_seen'`) -/
def loopSeen (g : Nat → List Nat → List Nat × List Nat) (l : List Nat) (acc : List Nat × List Nat) :
    List Nat × List Nat :=
  l.foldl (fun acc s => ((acc.1 ++ (g s acc.2).1), (g s acc.2).2)) acc

theorem overridingFuel_succ (bases : Nat → List Nat) (order : List Nat) (owns : Nat → Nat → Bool)
    (visible : Nat → Bool) (name f c : Nat) (first : Bool) (seen : List Nat) :
    overridingFuel bases order owns visible name (f + 1) c first seen =
      if !first && owns c name then (if seen.contains c then ([], seen) else ([c], c :: seen))
      else loopSeen (fun s sn => overridingFuel bases order owns visible name f s false sn)
        ((subclassesOf bases order c).filter visible) ([], seen) := rfl

/-- `r` = (yielded, `_seen` afterwards) of a run started with `seen` -/
def GoodSeen (seen : List Nat) (r : List Nat × List Nat) : Prop :=
  r.1.Nodup ∧ (∀ d ∈ r.1, d ∉ seen) ∧ ∀ x, x ∈ r.2 ↔ x ∈ seen ∨ x ∈ r.1

theorem loopSeen_good {g : Nat → List Nat → List Nat × List Nat}
    (hg : ∀ s seen, GoodSeen seen (g s seen)) {seen : List Nat} (l : List Nat)
    {acc : List Nat × List Nat} (h : GoodSeen seen acc) : GoodSeen seen (loopSeen g l acc) :=
  List.foldlRecOn l _ h fun acc ⟨hn, hd, hm⟩ s _ => by
    obtain ⟨gn, gd, gm⟩ := hg s acc.2
    refine ⟨List.nodup_append.2 ⟨hn, gn, ?_⟩, fun d hd' => ?_, fun x => ?_⟩
    · rintro a ha _ hb rfl
      exact gd a hb ((hm a).2 (Or.inr ha))
    · rcases List.mem_append.1 hd' with h | h
      · exact hd d h
      · exact fun hs => gd d h ((hm d).2 (Or.inl hs))
    · simp only [gm x, hm x, List.mem_append, or_assoc]

theorem overridingFuel_good (bases : Nat → List Nat) (order : List Nat) (owns : Nat → Nat → Bool)
    (visible : Nat → Bool) (name f : Nat) (first : Bool) (c : Nat) (seen : List Nat) :
    GoodSeen seen (overridingFuel bases order owns visible name f c first seen) := by
  fun_induction overridingFuel bases order owns visible name f c first seen with
  | case1 | case2 => simp [GoodSeen]
  | case3 f c first seen _ hc => simp [GoodSeen, mt List.contains_iff_mem.2 hc, or_comm]
  | case4 f c first seen _ ih => exact loopSeen_good (fun s sn => ih ([], sn) s) _ (by simp [GoodSeen])

/-- **overriding_nodup**: for *every* hierarchy (multiple inheritance included) no class is listed
twice under "overridden in" (since commit 7da14b7; before: `overriding_duplicate_counterexample`). -/
theorem overriding_nodup (bases : Nat → List Nat) (order : List Nat) (owns : Nat → Nat → Bool)
    (visible : Nat → Bool) (c name : Nat) :
    (overridingSubclasses bases order owns visible c name).Nodup :=
  (overridingFuel_good bases order owns visible name _ true c []).1

theorem loopSeen_mem {g : Nat → List Nat → List Nat × List Nat} {d : Nat} {l : List Nat}
    {acc : List Nat × List Nat} :
    d ∈ (loopSeen g l acc).1 → d ∈ acc.1 ∨ ∃ s ∈ l, ∃ seen, d ∈ (g s seen).1 :=
  List.foldlRecOn l _ Or.inl fun r ih s hs h =>
    (List.mem_append.1 h).elim ih fun h => Or.inr ⟨s, hs, r.2, h⟩

theorem mem_loop_subclasses {g : Nat → List Nat → List Nat × List Nat} {bases : Nat → List Nat}
    {order : List Nat} {visible : Nat → Bool} {c d : Nat} {seen : List Nat}
    (h : d ∈ (loopSeen g ((subclassesOf bases order c).filter visible) ([], seen)).1) :
    ∃ s, c ∈ bases s ∧ visible s = true ∧ ∃ seen', d ∈ (g s seen').1 := by
  rcases loopSeen_mem h with h | ⟨s, hs, seen', hd⟩
  · cases h
  · obtain ⟨hs, hv⟩ := List.mem_filter.1 hs
    exact ⟨s, mem_subclassesOf bases order c s hs, hv, seen', hd⟩

theorem overriding_inner {bases : Nat → List Nat} {order : List Nat} {owns : Nat → Nat → Bool}
    {visible : Nat → Bool} {name : Nat} : ∀ {f s d : Nat} {seen : List Nat},
      d ∈ (overridingFuel bases order owns visible name f s false seen).1 → visible s = true →
        owns d name = true ∧ Anc bases s d ∧ visible d = true := by
  intro f
  induction f with
  | zero => intro s d seen h; cases h
  | succ f ih =>
    intro s d seen h hv
    rw [overridingFuel_succ] at h
    split at h
    · have ho : owns s name = true := by simpa using ‹_›
      split at h
      · cases h
      · cases List.mem_singleton.1 h
        exact ⟨ho, Anc.refl _, hv⟩
    · obtain ⟨s2, hs2, hv2, seen2, hd2⟩ := mem_loop_subclasses h
      obtain ⟨ho, ha, hvd⟩ := ih hd2 hv2
      exact ⟨ho, anc_trans (Anc.step hs2 (Anc.refl _)) ha, hvd⟩

/-- **overriding_sound**: every class listed as "overridden in" for member `name` of `c` is a
visible proper descendant of `c` that defines `name` itself. -/
theorem overriding_sound (bases : Nat → List Nat) (hA : Acyclic bases) (order : List Nat)
    (owns : Nat → Nat → Bool) (visible : Nat → Bool) (c name d : Nat)
    (h : d ∈ overridingSubclasses bases order owns visible c name) :
    owns d name = true ∧ Anc bases c d ∧ c < d ∧ visible d = true := by
  obtain ⟨s, hcs, hv, seen, hd⟩ := mem_loop_subclasses h
  obtain ⟨ho, ha, hvd⟩ := overriding_inner hd hv
  exact ⟨ho, anc_trans (Anc.step hcs (Anc.refl _)) ha,
    Nat.lt_of_lt_of_le (hA s c hcs) (anc_le hA ha), hvd⟩

/-- Before commit 7da14b7: in a diamond 1; 2(1); 3(1); 4(2,3) where only 1 and 4
define the member, `overriding_subclasses(1, m)` yielded 4 twice and the page said "overridden in
4, 4"; the current code yields it once. -/
theorem overriding_duplicate_counterexample :
    overridingSubclassesOld exBases [1, 2, 3, 4] (fun c _ => c == 1 || c == 4) (fun _ => true) 1 0 = [4, 4]
    ∧ overridingSubclasses exBases [1, 2, 3, 4] (fun c _ => c == 1 || c == 4) (fun _ => true) 1 0 = [4] := by
  decide +kernel

/-! ### lookups made while the modules are visited (`_mro` still `None`) -/

theorem filter_true_eq {α : Type} (l : List α) : l.filter (fun _ => true) = l :=
  List.filter_eq_self.2 fun _ _ => rfl

/-- **early_eq_mro**: in a hierarchy whose bases are all resolved classes, the order `Class.mro()`
has while the modules are visited is the order it has after post-processing — for accepted classes
(the C3 linearisation) and for rejected ones (the `allbases` fallback) alike.  No hypothesis on the
shape of the hierarchy (since commit 7c3f474; before, only under single inheritance). -/
theorem early_eq_mro (bases : Nat → List Nat) (c : Nat) (is_ : Bool) :
    classMroEarly bases (fun _ => false) c is_ = classMro bases (fun _ => false) c false is_ := by
  have hb : (fun k => (bases k).filter fun b => !(fun _ => false) b) = bases :=
    funext fun k => filter_true_eq _
  simp only [classMroEarly, hb, classMro, initMro]
  cases mro bases c with
  | some l => cases is_ <;> simp [filter_true_eq]
  | none => cases is_ <;> simp [classMroEarlyOld, allbases, allbasesFuel, filter_true_eq]

/-- **findEarly_eq_find**: when all bases are resolved classes, every lookup made through a class
during the visit (`expandName` on `D.Inner`, aliases, `_maybeAttribute`) finds what `Class.find`
finds after post-processing, hence (`find_eq_lookup`) what Python's attribute lookup finds. -/
theorem findEarly_eq_find (bases : Nat → List Nat) (owns : Nat → Nat → Bool) (c name : Nat) :
    findEarly bases (fun _ => false) owns c name = find bases (fun _ => false) owns c name := by
  simp only [findEarly, find, early_eq_mro bases c true]

/-- Before commit 7c3f474: in the diamond 1; 2(1); 3(1); 4(2,3) with the name
defined in 1 and 3, the lookup made during the visit followed the depth-first `allbases` order
(4,2,1,3,1) and found 1's definition where the final linearisation and Python (4,2,3,1) find 3's:
`class X(D.Inner)` got the wrong base.  The current code finds 3's. -/
theorem findEarly_diamond_counterexample :
    findEarlyOld exBases (fun _ => false) (fun c _ => c == 1 || c == 3) 4 0 = some 1
    ∧ findEarly exBases (fun _ => false) (fun c _ => c == 1 || c == 3) 4 0 = some 3
    ∧ PyMro.lookup (PyMro.withObject exBases) (fun c _ => c == 1 || c == 3) 4 0 = some 3 := by
  decide +kernel

/-! ### the "inherited from" tables of a class page -/

def Masks (contents : Nat → List Nat) (priv : Nat → Bool) (n r : Nat) : Prop :=
  n ∈ contents r ∧ priv n = false

theorem mem_unmaskedAttrs {contents : Nat → List Nat} {visible : Nat → Nat → Bool} {priv : Nat → Bool}
    {b : Nat} {rest : List Nat} {b' n : Nat} :
    (b', n) ∈ unmaskedAttrs contents visible priv b rest ↔
      b' = b ∧ n ∈ contents b ∧ visible b n = true ∧ ∀ r ∈ rest, ¬ Masks contents priv n r := by
  simp only [unmaskedAttrs, List.mem_map, List.mem_filter, Bool.and_eq_true, Bool.not_eq_true',
    List.any_eq_false, List.contains_iff_mem, Prod.mk.injEq, Masks]
  constructor
  · rintro ⟨a, ⟨ha, hv, hr⟩, rfl, rfl⟩
    exact ⟨rfl, ha, hv, fun r hr' => by simpa using hr r hr'⟩
  · rintro ⟨rfl, ha, hv, hr⟩
    exact ⟨n, ⟨ha, hv, fun r hr' => by simpa using hr r hr'⟩, rfl, rfl⟩

theorem mem_chains {p : Nat × List Nat} : ∀ {xs acc : List Nat},
    p ∈ chains acc xs ↔ ∃ as bs, xs = as ++ p.1 :: bs ∧ p.2 = as.reverse ++ acc
  | [], acc => by simp [chains]
  | x :: xs, acc => by
    simp only [chains, List.mem_cons, mem_chains (xs := xs)]
    constructor
    · rintro (rfl | ⟨as, bs, rfl, h⟩)
      · exact ⟨[], xs, rfl, rfl⟩
      · exact ⟨x :: as, bs, rfl, by simp [h]⟩
    · rintro ⟨_ | ⟨a, as⟩, bs, h, h2⟩
      · cases h
        exact Or.inl (Prod.ext rfl h2)
      · cases h
        exact Or.inr ⟨as, bs, rfl, by simpa using h2⟩

theorem mem_chains_unmasked (contents : Nat → List Nat) (visible : Nat → Nat → Bool) (priv : Nat → Bool)
    (b n : Nat) :
    ∀ (xs acc : List Nat),
      (∃ p ∈ chains acc xs, p.2 ≠ [] ∧ (b, n) ∈ unmaskedAttrs contents visible priv p.1 p.2) ↔
      ∃ as bs, xs = as ++ b :: bs ∧ n ∈ contents b ∧ visible b n = true ∧
        (∀ r ∈ acc, ¬ Masks contents priv n r) ∧ (∀ r ∈ as, ¬ Masks contents priv n r) ∧
        (acc ≠ [] ∨ as ≠ []) := by
  intro xs acc
  constructor
  · rintro ⟨⟨b', rest⟩, hp, hne, hmem⟩
    obtain ⟨as, bs, rfl, h2⟩ := mem_chains.1 hp
    obtain ⟨rfl, hc, hv, hr⟩ := mem_unmaskedAttrs.1 hmem
    cases h2
    refine ⟨as, bs, rfl, hc, hv, fun r h => hr r (by simp [h]), fun r h => hr r (by simp [h]), ?_⟩
    simpa [Classical.or_iff_not_imp_right] using hne
  · rintro ⟨as, bs, rfl, hc, hv, hacc, has, hne⟩
    refine ⟨(b, as.reverse ++ acc), mem_chains.2 ⟨as, bs, rfl, rfl⟩, ?_,
      mem_unmaskedAttrs.2 ⟨rfl, hc, hv, fun r hr => ?_⟩⟩
    · simpa [Classical.or_iff_not_imp_right] using hne
    · rcases List.mem_append.1 hr with h | h
      · exact has r (List.mem_reverse.1 h)
      · exact hacc r h

theorem mem_inheritedMembers (contents : Nat → List Nat) (visible : Nat → Nat → Bool) (priv : Nat → Bool)
    (m : List Nat) (b n : Nat) :
    (b, n) ∈ inheritedMembers contents visible priv m ↔
      ∃ as bs, m = as ++ b :: bs ∧ n ∈ contents b ∧ visible b n = true ∧
        (∀ r ∈ as, ¬ Masks contents priv n r) ∧ as ≠ [] := by
  refine Iff.trans ?_ ((mem_chains_unmasked contents visible priv b n m []).trans (by simp))
  simp only [inheritedMembers, classMembers, nestedBases, List.mem_flatMap, List.mem_filter,
    List.mem_map]
  constructor
  · rintro ⟨_, ⟨⟨⟨p, hp, rfl⟩, _⟩, hlen⟩, hmem⟩
    exact ⟨p, hp, fun h => by simp [h] at hlen, hmem⟩
  · rintro ⟨p, hp, hne, hmem⟩
    exact ⟨_, ⟨⟨⟨p, hp, rfl⟩, by simpa using List.ne_nil_of_mem hmem⟩,
      by simpa [List.length_pos_iff] using hne⟩, hmem⟩

theorem head?_append_cons_ne {as bs : List Nat} {b : Nat} (hn : (as ++ b :: bs).Nodup) :
    (as ++ b :: bs).head? ≠ some b ↔ as ≠ [] := by
  cases as with
  | nil => simp
  | cons a as =>
    have : a ≠ b := fun e => (List.nodup_cons.1 hn).1 (e ▸ by simp)
    simpa using this

/-- **inherited_members_iff**: a member that is not class-private is listed as inherited from the
first class of the linearisation `m` that has it (unless that is the class itself, or the member
is not visible): when several bases define the name, the one attribute lookup would find is shown. -/
theorem inherited_members_iff (contents : Nat → List Nat) (visible : Nat → Nat → Bool) (priv : Nat → Bool)
    (m : List Nat) (hn : m.Nodup) (b n : Nat) (hpub : priv n = false) :
    (b, n) ∈ inheritedMembers contents visible priv m ↔
      m.find? (fun x => (contents x).contains n) = some b ∧ visible b n = true ∧ m.head? ≠ some b := by
  rw [mem_inheritedMembers, List.find?_eq_some_iff_append]
  constructor
  · rintro ⟨as, bs, rfl, hc, hv, has, hne⟩
    exact ⟨⟨by simpa using hc, as, bs, rfl, fun a ha => by simpa [Masks, hpub] using has a ha⟩, hv,
      (head?_append_cons_ne hn).2 hne⟩
  · rintro ⟨⟨hc, as, bs, rfl, has⟩, hv, hh⟩
    exact ⟨as, bs, rfl, by simpa using hc, hv,
      fun a ha => by simpa [Masks, hpub] using has a ha, (head?_append_cons_ne hn).1 hh⟩

/-- **inherited_private_iff**: a class-private member `n` (`__x`) of *every* class after the head of
`m` that has it is listed as inherited — nothing masks it, because `_b__x` is an attribute of its
own in every class `b`. -/
theorem inherited_private_iff (contents : Nat → List Nat) (visible : Nat → Nat → Bool) (priv : Nat → Bool)
    (m : List Nat) (b n : Nat) (hpriv : priv n = true) :
    (b, n) ∈ inheritedMembers contents visible priv m ↔
      b ∈ m.drop 1 ∧ n ∈ contents b ∧ visible b n = true := by
  rw [mem_inheritedMembers]
  constructor
  · rintro ⟨_ | ⟨a, as⟩, bs, rfl, hc, hv, _, hne⟩
    · exact absurd rfl hne
    · exact ⟨by simp, hc, hv⟩
  · rintro ⟨hb, hc, hv⟩
    obtain ⟨as, bs, h⟩ := List.append_of_mem hb
    cases m with
    | nil => cases hb
    | cons h' t =>
      cases h
      exact ⟨h' :: as, bs, rfl, hc, hv, fun r _ h => by simp [Masks, hpriv] at h, nofun⟩

/-- **inherited_attribution**: for a class Python accepts, the class page lists a member `n` that is
not class-private as inherited from `b` iff `Class.find(n)` (= attribute lookup, `find_eq_lookup`)
yields `b`'s member, `b` is not the class itself and the member is visible. -/
theorem inherited_attribution (bases : Nat → List Nat) (hA : Acyclic bases) (ext : Nat → Bool)
    (contents : Nat → List Nat) (visible : Nat → Nat → Bool) (priv : Nat → Bool) (c : Nat) (l : List Nat)
    (hacc : mro bases c = some l) (hcext : ext c = false) (b n : Nat) (hpub : priv n = false) :
    (b, n) ∈ inheritedMembers contents visible priv (classMro bases ext c) ↔
      find bases ext (fun x k => (contents x).contains k) c n = some b ∧ visible b n = true ∧ b ≠ c := by
  have hnd : (classMro bases ext c).Nodup := by
    rw [classMro_accept bases ext c l hacc]
    exact (mro_nodup bases hA c l hacc).filter _
  obtain ⟨t, rfl, _⟩ := mroFuel_head_tail hA hacc
  have hh : (classMro bases ext c).head? = some c := by
    simp [classMro_accept bases ext c _ hacc, hcext]
  rw [inherited_members_iff contents visible priv _ hnd b n hpub, find, hh]
  simp only [ne_eq, Option.some.injEq, eq_comm]

/-! ## Class-private names (`__name`)

Python mangles an identifier `__x` used in the body of class `c` to `_c__x`: seen from `c`, only `c`
itself can define that attribute.  Since commit d869973 pydoctor no longer relates such members
across classes, and the two statements below hold for every name. -/

/-- which classes define the attribute that the spelling `n` denotes in the body of class `c` -/
def mangledOwns (priv : Nat → Bool) (owns : Nat → Nat → Bool) (c : Nat) : Nat → Nat → Bool :=
  fun b n => if priv n then (b == c && owns b n) else owns b n

/-- Seen from `c`, no class after `c` in its `mro()` defines a class-private name: leaving the walk
out for such a name (`is_class_private`) is walking with the names as Python mangles them. -/
theorem filter_mangledOwns {bases : Nat → List Nat} (hA : Acyclic bases) (ext priv : Nat → Bool)
    (owns : Nat → Nat → Bool) {c : Nat} {l : List Nat} (hacc : mro bases c = some l)
    (hcext : ext c = false) (name : Nat) :
    (classMro bases ext c false false).filter (fun b => mangledOwns priv owns c b name) =
      if priv name then [] else (classMro bases ext c false false).filter fun b => owns b name := by
  obtain ⟨t, rfl, ht, _⟩ := mroFuel_head_tail hA hacc
  cases hp : priv name with
  | false => simp only [mangledOwns, hp]; rfl
  | true =>
    refine List.filter_eq_nil_iff.2 fun b hb => ?_
    have hbt : b ∈ t ∧ ext b = false := by simpa [classMro_accept bases ext c _ hacc, hcext] using hb
    simp [mangledOwns, hp, Nat.ne_of_lt (ht b hbt.1)]

/-- **docsource_eq_getdoc**: for a member `name` of an accepted, documented class `c` — class-private
names included, Python's mangling taken into account — the docstring source `get_docstring` picks is
the one attribute lookup along Python's `__mro__` yields. -/
theorem docsource_eq_getdoc (bases : Nat → List Nat) (hA : Acyclic1 bases) (ext priv : Nat → Bool)
    (owns hasDoc : Nat → Nat → Bool) (c name : Nat) (hc : 0 < c) (l : List Nat)
    (hacc : mro bases c = some l) (hcext : ext c = false)
    (hext : ∀ x, ext x = true → owns x name = false) (hobj : owns 0 name = false) :
    getDocstring bases ext priv owns hasDoc c name
      = PyMro.docSource (PyMro.withObject bases) (mangledOwns priv owns c) hasDoc c name := by
  -- the unmangled statement, read with the mangled names; `filter_mangledOwns` for pydoctor's side of it
  rw [← docsource_same_owns bases hA ext (mangledOwns priv owns c) hasDoc c name hc l hacc hcext
    (fun x he => by simp [mangledOwns, hext x he]) (by simp [mangledOwns, hobj]),
    getDocstringOld, docsourcesOld, filter_mangledOwns hA.acyclic ext priv owns hacc hcext name]
  cases hp : priv name <;> simp [getDocstring, docsources, docsourcesOld, hp]

/-- **overrides_eq_super**: the member shown as "overrides …" is the one `super()` reaches — for a
class-private name nothing, as `_c__x` exists in no other class. -/
theorem overrides_eq_super (bases : Nat → List Nat) (hA : Acyclic1 bases) (ext priv : Nat → Bool)
    (owns : Nat → Nat → Bool) (c name : Nat) (hc : 0 < c) (l : List Nat)
    (hacc : mro bases c = some l) (hcext : ext c = false)
    (hext : ∀ x, ext x = true → owns x name = false) (hobj : owns 0 name = false) :
    overrides bases ext priv owns c name
      = PyMro.superLookup (PyMro.withObject bases) (mangledOwns priv owns c) c name := by
  rw [← overrides_same_owns bases hA ext (mangledOwns priv owns c) c name hc l hacc hcext
    (fun x he => by simp [mangledOwns, hext x he]) (by simp [mangledOwns, hobj]),
    overridesOld, ← List.head?_filter, filter_mangledOwns hA.acyclic ext priv owns hacc hcext name]
  cases hp : priv name <;> simp [overrides, overridesOld, hp]

/-- Before commit d869973: 1 defines `__x` (name 7) with a docstring, 2(1) defines
`__x` without: pydoctor let 2's member inherit 1's docstring and said it overrides 1's; for Python
`_2__x` has no docstring to inherit and overrides nothing.  The current code agrees with Python. -/
theorem docsource_private_name_counterexample :
    let owns := fun (c n : Nat) => n == 7 && (c == 1 || c == 2)
    let hasDoc := fun (c n : Nat) => n == 7 && c == 1
    let priv := fun (n : Nat) => n == 7
    getDocstringOld exBases (fun _ => false) owns hasDoc 2 7 = some 1
    ∧ overridesOld exBases (fun _ => false) owns 2 7 = some 1
    ∧ getDocstring exBases (fun _ => false) priv owns hasDoc 2 7 = none
    ∧ overrides exBases (fun _ => false) priv owns 2 7 = none
    ∧ PyMro.docSource (PyMro.withObject exBases) (mangledOwns priv owns 2) hasDoc 2 7 = none
    ∧ PyMro.superLookup (PyMro.withObject exBases) (mangledOwns priv owns 2) 2 7 = none := by
  decide +kernel

end Mro
