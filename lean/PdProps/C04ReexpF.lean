/-
C04, re-exports, layer F — the two hypotheses of layer D hold.  Registry level: `Documentable.reparent` of a child of a
container onto a free name of an object that is not below it raises nothing (`Rx.ReparentOk`, from `Registry.reparent_ok`
of PdProps/C02.lean).  Project level
(`Rx.SubLookup`): the implicit submodule lookup of `from <package> import n` (`getProcessedModule('<package>.n')`) finds the
submodule (whose rank `pkgFromOk` puts below the importer's) or no module at all.
-/
import PdProps.C04ReexpD

namespace Imports.Rx
open Registry Imports
open Names (expandLoop_found_last expandLoop_notfound localName_module)

/-! ## `reparent` does not raise -/

theorem reparent_ok : ReparentOk := by
  intro st ob np nn op opo k pnp hI hopo hcc hcont hpnp hfree hnb
  exact Registry.reparent_ok hI hopo hcc hcont hpnp hfree hnb

/-! ## the submodule lookup of `from <package> import n` -/

/-- what `expandName` does with ONE remaining component `n` looked up in a module object that does not define `n` -/
theorem expand_one {proj : Project} {s : St} (hI : PdInv proj s) {t : Nat} (ht : t < proj.length) {o : Obj}
    (ho : s.reg.objs[t]? = some o) (hcl : o.cls = modCls proj t) {n : Name} (hdc : dget o.contents n = none)
    (first : Bool) {p2 : Path} (h : Names.expandLoop (envOf s) t first [n] = some p2) :
    p2 = pathOf proj t ++ [n] ∨ (first = true ∧ dget o.aliases n = none ∧ p2 = [n]) ∨ dget o.aliases n = some p2 := by
  obtain ⟨_, _, hpt, _⟩ := hI.mods t ht
  have hmo : isModuleCls o.cls = true := hcl ▸ isModuleCls_modCls proj t
  have hgo : getObj (envOf s).st t = some o := ho
  have hnc : o.cls ≠ .cls := by
    intro h0; rw [h0] at hmo; simp [isModuleCls] at hmo
  have hl := localName_module (e := envOf s) (t := t) (o := o) hgo hmo n
  have hcn : Names.componentName (envOf s) t first n = Names.localName (envOf s) (Names.fuelOf (envOf s)) t n := by
    unfold Names.componentName
    simp [hgo, hnc]
  rw [hdc] at hl
  cases hda : dget o.aliases n with
  | some tg =>
    simp only [hda] at hl
    by_cases hnb : (decide (tg = [n]) && !first) = false
    · rw [expandLoop_found_last (hcn.trans hl) hnb] at h
      exact Or.inr (Or.inr h)
    · obtain ⟨h1, h2⟩ : tg = [n] ∧ first = false := by simpa using hnb
      subst h2
      rw [h1] at hl
      rw [expandLoop_notfound (hcn.trans hl) hgo hnc hpt] at h
      simp only [List.append_nil, Option.some.injEq] at h
      exact Or.inl h.symm
  | none =>
    simp only [hda] at hl
    cases first with
    | true =>
      rw [expandLoop_found_last (hcn.trans hl) (by simp)] at h
      exact Or.inr (Or.inl ⟨rfl, rfl, (Option.some.inj h).symm⟩)
    | false =>
      rw [expandLoop_notfound (hcn.trans hl) hgo hnc hpt] at h
      simp only [List.append_nil, Option.some.injEq] at h
      exact Or.inl h.symm

/-- a registered module object is the module of its qualified name -/
theorem module_of_path {proj : Project} {rank : List Nat} (wf : WFacts proj rank) {s : St} (hI : PdInv proj s) {i : Nat}
    {p : Path} (hm : isModuleObj s.reg i = true) (hp : path s.reg i = some p) : modIdx proj p = some i := by
  have hlt := hI.modFacts.modobj hm
  obtain ⟨_, _, hpm, _⟩ := hI.mods i hlt
  rw [hp] at hpm; injection hpm with hpm
  rw [hpm]; exact modIdx_of_path wf.modNodup hlt

/-- the lookup of `<package>.n`, when `n` is not a submodule and the package binds `n` (if at all) by a
`from … import` of a top-level definition: no module is found -/
theorem lookup_sub_none {proj : Project} {rank : List Nat} (wf : WFacts proj rank) (rx : RxFacts proj)
    (hmn : ∀ m, m < proj.length → ∀ n ∈ pathOf proj m, isSupersededName n = false) {s : St} (hI : PdInv proj s)
    {t : Nat} (ht : t < proj.length) (hpk : isPkg proj t = true) {n : Name}
    (hnone : modIdx proj (pathOf proj t ++ [n]) = none)
    (hns : (bodyOf proj t).any isStarStmt = false)
    (himp : ∀ st' ∈ bodyOf proj t, isImportStmt st' = true → n ∈ explicitNames st' →
      ∃ l' M' n' a' t', st' = Stmt.importFrom l' M' n' a' ∧ target proj t l' M' = some t' ∧ definesAny proj t' n' = true) :
    (lookupModule s (pathOf proj t ++ [n])).1 = none := by
  obtain ⟨o, ho, hpt, hcl⟩ := hI.mods t ht
  cases hl : lookupModule s (pathOf proj t ++ [n]) with | mk found crash =>
  cases found with
  | none => rfl
  | some i =>
  exfalso
  obtain ⟨hm, hreg | ⟨hof, hF⟩⟩ := lookupModule_some hl
  · cases hnone.symm.trans (module_of_path wf hI hm (hI.reg.reg.keys _ _ (mem_of_dget hreg)))
  -- `n` is not an entry of the package
  have hdc : dget o.contents n = none := by
    cases hd : dget o.contents n with
    | none => rfl
    | some c => cases hof.symm.trans (dget_of_path hI.reg (path_child hI.reg ho hd hpt))
  -- what the alias of the package (if any) can be
  have halias : ∀ tg, dget o.aliases n = some tg → dget s.reg.all tg = some i → False := by
    intro tg ha hreg
    have hj := hI.alias t o (t, []) ho (by rw [loc_mod]; exact hpt) ⟨ht, Or.inl rfl⟩ n tg ha
    rcases jpdR_inv wf rx hj with ⟨b, st', hb, hst', hxs, hD⟩ | ⟨r, hr, hS, _, _⟩
    · have hbm := siteBody_mod hb; subst hbm
      have hnstar : ∀ lvl M, st' ≠ .importStar lvl M := by
        intro lvl M he
        have : (bodyOf proj t).any isStarStmt = true := List.any_eq_true.2 ⟨st', hst', by rw [he]; rfl⟩
        rw [hns] at this; cases this
      have hex : n ∈ explicitNames st' := explicit_of_stmtNames hnstar hxs
      obtain ⟨l', M', n', a', t', he, htt, hdef⟩ := himp st' hst' hD.isImport hex
      subst he
      obtain ⟨_, T'', hT'', htg⟩ := hD
      have hm3 : modIdx proj T'' = some t' := by rw [target_eq, hT''] at htt; exact htt
      obtain ⟨ht'l, ht'p⟩ := modIdx_spec hm3
      subst htg
      have hp2 := hI.reg.reg.keys _ _ (mem_of_dget hreg)
      have hmi := module_of_path wf hI hm hp2
      rw [← ht'p] at hmi
      unfold definesAny at hdef
      obtain ⟨st2, hst2, hd2⟩ := List.any_eq_true.1 hdef
      simp only [beq_iff_eq] at hd2
      exact child_not_stmt wf (siteBody_zero ht'l) (child_mem hmi) hst2 (stmtNames_of_explicit (defName_explicit hd2))
    · injection hS with e1 _
      have := (rx.reqOk r hr).2.1
      rw [← e1, hpk] at this; cases this
  -- `find_object`
  have hmemt : (pathOf proj t, t) ∈ s.reg.all := mem_of_path hI.reg hpt
  cases hpT : pathOf proj t with
  | nil => exact absurd hpT (wf.parentOk t ht).1
  | cons r0 tl =>
    rw [hpT] at hmemt hof hF
    obtain ⟨r, rest, ro, oo, p2, he, _, _, hpro, hguard, hx, hof2⟩ := Names.findObject_obj (e := envOf s) hI.reg hof hF
    injection he with e1 e2; subst e1; subst e2
    have hro := mem_of_path hI.reg hpro
    -- reach the package, then one component
    have hone : ∃ first, Names.expandLoop (envOf s) t first [n] = some p2 ∧ (first = true → ro = t ∧ tl = []) := by
      cases tl with
      | nil =>
        obtain rfl : ro = t := uniq_val hI.reg.reg.uniq hro hmemt
        exact ⟨true, hx, fun _ => ⟨rfl, rfl⟩⟩
      | cons c cs =>
        have hdesc := Names.expandLoop_descend (envOf s) hI.reg (c :: cs) ro t [r0] true [n] (by simp) hro
          (show ([r0] ++ (c :: cs), t) ∈ s.reg.all from hmemt)
          (fun w wo t' u hw hwk hr hu => by
            -- a proper prefix of a module path is a package
            have hpw := hI.reg.reg.keys _ _ hwk
            have hsplit : pathOf proj t = ([r0] ++ t') ++ u := by rw [hpT, hr]; simp
            obtain ⟨tt, htt, hpkk⟩ := mod_path_prefix wf _ t ([r0] ++ t') u rfl ht hsplit (by simp) hu
            obtain ⟨httl, http⟩ := modIdx_spec htt
            obtain ⟨ott, hott, hptt, hctt⟩ := hI.mods tt httl
            cases path_inj hI.reg hpw (http ▸ hptt)
            have hw' : s.reg.objs[w]? = some wo := hw
            rw [hott] at hw'; injection hw' with hw'; subst hw'
            rw [hctt]; unfold modCls; split <;> rfl)
          (fun x hx' => hmn t ht x (by rw [hpT]; exact List.mem_cons_of_mem _ hx'))
        have hx' : Names.expandLoop (envOf s) ro true (c :: cs ++ [n]) = some p2 := hx
        rw [hdesc] at hx'
        exact ⟨false, by simpa using hx', fun h => by cases h⟩
    obtain ⟨first, hx1, hfirst⟩ := hone
    rcases expand_one hI ht ho hcl hdc first hx1 with h | ⟨hf1, hda, _⟩ | h
    · rw [h, hpT, hof] at hof2; cases hof2
    · -- the package is the root and binds `n` nowhere: the guard of `find_object` says otherwise
      obtain ⟨e1, e2⟩ := hfirst hf1
      subst e1; subst e2
      have hb := hguard n [] rfl
      have hgo : getObj (envOf s).st ro = some o := ho
      simp [Names.rootBinds, hgo, hdc, hda] at hb
    · exact halias p2 h hof2

/-- `AboveLow` from the decidable clause `aboveOk` of `WFr` -/
theorem aboveLow_of {proj : Project} {rank : List Nat} (hwf : WFr proj rank = true) : AboveLow proj rank := by
  intro S b st t P hb hst htg hP ⟨q, hq, he⟩
  have hp := allProj_spec (WFr.above hwf) hb hst
  have h1 := List.all_eq_true.1 hp (some t) htg
  simp only at h1
  have h2 := List.all_eq_true.1 h1 P (List.mem_range.2 hP)
  have hpre : isProperPrefix (pathOf proj P) (pathOf proj t) = true := by
    unfold isProperPrefix
    rw [he]
    have hlen : 0 < q.length := List.length_pos_iff.2 hq
    simp only [Bool.and_eq_true, decide_eq_true_eq, List.length_append]
    exact ⟨List.isPrefixOf_iff_prefix.2 (List.prefix_append _ _), by omega⟩
  simp only [hpre, Bool.not_true, Bool.false_or, Bool.or_eq_true, beq_iff_eq, decide_eq_true_eq] at h2
  exact h2

/-- **`SubLookup` holds for `WFr` projects** (from `pkgFromOk`, `modNamesOk` and `aboveOk`) -/
theorem subLookup_of {proj : Project} {rank : List Nat} (hwf : WFr proj rank = true) : SubLookup proj rank := by
  refine ⟨?_, aboveLow_of hwf⟩
  intro s hI S b lvl M n a t hb hst ht hpk t2 c hl hu
  obtain ⟨wf, rx⟩ := WFr.facts hwf
  have hp := allProj_spec (WFr.pkgFrom hwf) hb hst
  simp only [ht, hpk, Bool.not_true, Bool.false_or] at hp
  obtain ⟨T, hT, hmt⟩ := target_spec ht
  obtain ⟨htl, _⟩ := modIdx_spec hmt
  cases hm : modIdx proj (pathOf proj t ++ [n]) with
  | some c' =>
    simp only [hm, decide_eq_true_eq] at hp
    have := (lookupModule_spec hI.modFacts hl).2 c' hm
    subst this; exact ⟨hp, rfl⟩
  | none =>
    exfalso
    simp only [hm, Bool.and_eq_true, Bool.not_eq_true', List.all_eq_true, Bool.or_eq_true] at hp
    obtain ⟨hns, himp⟩ := hp
    have himp' : ∀ st' ∈ bodyOf proj t, isImportStmt st' = true → n ∈ explicitNames st' →
        ∃ l' M' n' a' t', st' = Stmt.importFrom l' M' n' a' ∧ target proj t l' M' = some t' ∧ definesAny proj t' n' = true := by
      intro st' hst' hi hx
      rcases himp st' hst' with h | h
      · simp [hi, hx] at h
      · cases st' with
        | importFrom l' M' n' a' =>
          simp only at h
          cases ht' : target proj t l' M' with
          | none => simp [ht'] at h
          | some t' => simp only [ht'] at h; exact ⟨l', M', n', a', t', rfl, ht', h⟩
        | _ => simp at h
    have := lookup_sub_none wf rx (WFr.modNames hwf) hI htl hpk hm hns himp'
    rw [hl] at this; cases this

end Imports.Rx
