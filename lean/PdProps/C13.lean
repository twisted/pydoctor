/-
C13 — Privacy rules mean what the manual says.

Theorems over `PdModel.Glob` (qnmatch.translate / qnmatch.qnmatch, the `re` fragment, the
manual's meaning `Glob.spec`) and `PdModel.Privacy` (System.privacyClass, its cache,
Documentable.isVisible).  A doc comment that opens with a number (1)–(5) is about the item of that
number in "Reviewer's list of deviations" of notes/C13.md (the second of that file's numbered lists; its item 2
describes the default before 2e9a6af, the doc comment here the default since).
-/
import PdModel.Glob
import PdModel.Privacy
import PdProps.Dict

/-! ## Regex: lazy and greedy quantifiers accept the same names -/
namespace Regex

theorem starLazy_eq_greedy (ok : Char → Bool) (k : List Char → Bool) :
    ∀ n, starLazy ok k n = starGreedy ok k n
  | [] => rfl
  | x :: n => by simp [starLazy, starGreedy, starLazy_eq_greedy ok k n, Bool.or_comm]

/-- For `pattern.match(name)` with `\Z` the lazy `*?` that `translate` writes accept what greedy
ones would: laziness only changes which split is tried first. -/
theorem nongreedy_irrelevant : ∀ (as : List Atom) (n : List Char), matchA as n = matchG as n
  | [], n => rfl
  | a :: as, n => by
    have h : matchA as = matchG as := funext (nongreedy_irrelevant as)
    cases a <;> simp [matchA, matchG, h, starLazy_eq_greedy]

example : matchA [.starAny, .lit 'b'] ['a', 'b', 'b'] = true := by decide +kernel

end Regex

namespace Glob
open Regex

/-! ## a star against all cuts of the name -/

theorem starLazy_splits (ok : Char → Bool) (k : List Char → Bool) :
    ∀ n, starLazy ok k n = (splits n).any (fun uv => uv.1.all ok && k uv.2)
  | [] => by simp [starLazy, splits]
  | x :: n => by
    simp [starLazy, splits, List.any_map, starLazy_splits ok k n, List.and_any_distrib_left, Bool.and_assoc,
      Function.comp_def]

theorem starLazy_end (ok : Char → Bool) : ∀ n : List Char,
    starLazy ok (fun m => m.isEmpty) n = n.all ok
  | [] => rfl
  | x :: n => by simp [starLazy, starLazy_end ok n]

theorem mem_splits : ∀ (n u v : List Char), (u, v) ∈ splits n ↔ n = u ++ v
  | [], u, v => by simp [splits, eq_comm]
  | x :: n, u, v => by
    cases u with
    | nil => simp [splits, eq_comm]
    | cons y u => simpa [splits, mem_splits n, eq_comm] using and_comm

theorem any_splits (g : List Char × List Char → Bool) (n : List Char) :
    (splits n).any g = true ↔ ∃ u v, n = u ++ v ∧ g (u, v) = true := by
  simp [mem_splits]

/-! ## character sets: what `re` reads from the text `translate` writes -/

/-- the token `re` reads for a character `c` of `stuff` after `replace('\\', r'\\')` -/
def tk (c : Char) : Tok := ⟨c = '\\', c⟩

theorem tk_eq_dash (c : Char) : tk c = dash ↔ c = '-' :=
  ⟨fun h => congrArg Tok.c h, fun h => h ▸ rfl⟩

theorem tk_c (c : Char) : (tk c).c = c := rfl

theorem lex_plain (c : Char) (r : List Char) (h : ¬ c = '\\') :
    lex (c :: r) = (lex r).map (⟨false, c⟩ :: ·) := by
  rw [lex.eq_def]; simp [h]

theorem lex_esc (d : Char) (r : List Char) :
    lex ('\\' :: d :: r) = if isAsciiAlnum d then none else (lex r).map (⟨true, d⟩ :: ·) := by
  rw [lex.eq_def]; simp

theorem lex_replaceBs : ∀ s, lex (replaceBs s) = some (s.map tk)
  | [] => rfl
  | c :: r => by
    by_cases h : c = '\\'
    · subst h
      have : isAsciiAlnum '\\' = false := by decide
      simp [replaceBs, lex_esc, this, lex_replaceBs r, tk]
    · simp [replaceBs, lex_plain, h, lex_replaceBs r, tk]

theorem has_single (a x : Char) : (Item.single a).has x = decide (a = x) := rfl
theorem has_range (lo hi x : Char) :
    (Item.range lo hi).has x = (decide (lo.toNat ≤ x.toNat) && decide (x.toNat ≤ hi.toNat)) := rfl
theorem dash_c : dash.c = '-' := rfl

theorem items_head (t t' : Tok) (h : t.c = t'.c) : ∀ ts, items (t :: ts) = items (t' :: ts)
  | [] => by simp [items, h]
  | [_] => by simp [items, h]
  | _ :: _ :: _ => by simp [items, h]

theorem items_has (x : Char) (s : List Char) :
    (items (s.map tk)).map (·.any (·.has x)) = if descending s then none else some (seqHas s x) := by
  have cons : ∀ (i : Item) (o : Option (List Item)),
      (o.map (i :: ·)).map (·.any (·.has x)) = (o.map (·.any (·.has x))).map (i.has x || ·) := by
    intro i o; cases o <;> rfl
  induction s using descending.induct with
  | case1 => rfl
  | case2 | case3 => simp [items, descending, seqHas, has_single, tk_c]
  | case4 lo hi r ih =>
    simp only [List.map_cons, items, tk_eq_dash, tk_c, descending, seqHas, if_true]
    by_cases hle : lo.toNat ≤ hi.toNat
    · have : ¬ hi.toNat < lo.toNat := by omega
      simp only [hle, if_true, cons, ih]
      cases descending r <;> simp [has_range, this]
    · simp [hle]
  | case5 lo d hi r hc ih =>
    simp only [List.map_cons] at ih
    simp only [List.map_cons, items, tk_eq_dash, tk_c, descending, seqHas, hc, if_false, cons, ih]
    cases descending (d :: hi :: r) <;> simp [has_single]

theorem items_isSome (s : List Char) : (items (s.map tk)).isSome = !descending s := by
  -- whether there are items does not depend on the character asked about: any one serves
  simpa [apply_ite Option.isSome] using congrArg Option.isSome (items_has '-' s)

/-- the text `translate` puts between the brackets for `[seq]` (`neg = false`) / `[!seq]` -/
def bodyOf (neg : Bool) (seq : List Char) : List Char :=
  if neg then '^' :: replaceBs seq
  else match seq with
    | [] => []
    | c :: s => if c = '^' ∨ c = '[' then '\\' :: c :: replaceBs s else replaceBs (c :: s)

theorem parseSet_bodyOf (neg : Bool) (seq : List Char) (hne : seq ≠ []) :
    parseSet (bodyOf neg seq) = (items (seq.map tk)).map (fun its => (neg, its)) := by
  cases neg with
  | true => simp [bodyOf, parseSet, lex_replaceBs, hne]
  | false =>
    cases seq with
    | nil => exact absurd rfl hne
    | cons c s =>
      by_cases h2 : c = '^' ∨ c = '['
      · have hal : isAsciiAlnum c = false := by rcases h2 with rfl | rfl <;> decide
        simp [bodyOf, h2, parseSet, lex_esc, hal, lex_replaceBs, items_head ⟨true, c⟩ (tk c) rfl]
      · have hhead : (replaceBs (c :: s)).head? = some c := by
          by_cases hb : c = '\\' <;> simp [replaceBs, hb]
        rw [not_or] at h2
        simp [bodyOf, h2, parseSet, hhead, lex_replaceBs]

theorem setHas_bodyOf (neg : Bool) (seq : List Char) (h : seq ≠ []) (x : Char) :
    setHas (bodyOf neg seq) x = (!descending seq && (neg != seqHas seq x)) := by
  have := items_has x seq
  rw [setHas, parseSet_bodyOf neg seq h]
  cases hi : items (seq.map tk) <;> cases hd : descending seq <;> simp [hi, hd] at this ⊢
  exact this

/-- what the tokenizer guarantees about a bracket expression -/
def SeqInv (neg : Bool) (seq : List Char) : Prop :=
  seq ≠ [] ∧ (neg = false → seq.head? ≠ some '!')

theorem fixHead_stuff (neg : Bool) (seq : List Char) (h : SeqInv neg seq) :
    fixHead (replaceBs (if neg then '!' :: seq else seq)) = some (bodyOf neg seq) := by
  obtain ⟨hne, hbang⟩ := h
  cases neg with
  | true => simp [replaceBs, fixHead, bodyOf]
  | false =>
    cases seq with
    | nil => exact absurd rfl hne
    | cons c s =>
      have hc : c ≠ '!' := by simpa using hbang rfl
      by_cases h2 : c = '^' ∨ c = '['
      · rcases h2 with rfl | rfl <;> simp [replaceBs, fixHead, bodyOf]
      · rw [not_or] at h2
        by_cases hb : c = '\\' <;> simp [replaceBs, fixHead, bodyOf, hb, hc, h2]

/-! ## the two scanners cut a pattern at the same places -/

/-- `scan` run from index `pre.length` of `pre ++ l`, then the two slices `translate` takes:
`l` is cut at its first `]` -/
theorem scan_cut : ∀ (l pre : List Char),
    (if scan l pre.length ≥ (pre ++ l).length then none
     else some ((pre ++ l).take (scan l pre.length), (pre ++ l).drop (scan l pre.length + 1))) =
    match l.dropWhile (· != ']') with
    | [] => none
    | _ :: after => some (pre ++ l.takeWhile (· != ']'), after)
  | [], pre => by simp [scan]
  | c :: cs, pre => by
    by_cases h : c = ']'
    · simp [scan, h]
    · simpa [scan, h] using scan_cut cs (pre ++ [c])

/-- after `[` (and `[!`) the index arithmetic of `translate` finds what `closeBracket` finds -/
theorem bracket_core (pre : List Char) (c : Char) (r : List Char) :
    (let j := if c = ']' then pre.length + 1 else pre.length
     let j := scan ((pre ++ c :: r).drop j) j
     if j ≥ (pre ++ c :: r).length then none
     else some ((pre ++ c :: r).take j, (pre ++ c :: r).drop (j + 1))) =
    (closeBracket (c :: r)).map (fun sa => (pre ++ sa.1, sa.2)) := by
  have hj : (let j := if c = ']' then pre.length + 1 else pre.length
      scan ((pre ++ c :: r).drop j) j) = scan r (pre ++ [c]).length := by
    by_cases hc : c = ']' <;> simp [hc, scan]
  have := scan_cut r (pre ++ [c])
  simp only [List.append_assoc, List.singleton_append] at this
  simp only at hj ⊢
  rw [hj, this, closeBracket]
  cases r.dropWhile (· != ']') <;> simp

theorem bracket_eq (rest : List Char) :
    bracket rest =
      (closeBracket (if rest.head? = some '!' then rest.tail else rest)).map
        (fun sa => (if rest.head? = some '!' then '!' :: sa.1 else sa.1, sa.2)) := by
  cases rest with
  | nil => rfl
  | cons c r =>
    by_cases hb : c = '!'
    · subst hb
      cases r with
      | nil => rfl
      | cons d r' => simpa [bracket] using bracket_core ['!'] d r'
    · have hne : ¬ ('!' = c) := fun e => hb e.symm
      simpa [bracket, hb, hne] using bracket_core [] c r

theorem closeBracket_some {r seq after : List Char} (h : closeBracket r = some (seq, after)) :
    seq ≠ [] ∧ seq.head? = r.head? ∧ after.length < r.length := by
  cases r with
  | nil => cases h
  | cons c r' =>
    have hs := (List.dropWhile_suffix (l := r') (· != ']')).length_le
    rw [closeBracket] at h
    split at h
    · cases h
    · rename_i a af hd
      cases h
      rw [hd] at hs
      exact ⟨by simp, rfl, by simp at hs ⊢; omega⟩

theorem closeBracket_inv {r seq after : List Char}
    (h : closeBracket (if r.head? = some '!' then r.tail else r) = some (seq, after)) :
    SeqInv (decide (r.head? = some '!')) seq ∧ after.length < r.length := by
  obtain ⟨h1, h2, h3⟩ := closeBracket_some h
  by_cases hb : r.head? = some '!'
  · simp only [hb, if_true, List.length_tail] at h3
    exact ⟨⟨h1, by simp [hb]⟩, by omega⟩
  · simp only [hb, if_false] at h2 h3
    exact ⟨⟨h1, fun _ => h2 ▸ hb⟩, h3⟩

/-! ## `translate` writes, token for token, the regex of the manual's reading -/

/-- the regex atom `translate` writes for a token of the manual's reading -/
def ofTok : GTok → Atom
  | .star => .starNoDot
  | .dstar => .starAny
  | .one => .any
  | .cls neg seq => .set (bodyOf neg seq)
  | .ch c => .lit c

def TokInv : GTok → Prop
  | .cls neg seq => SeqInv neg seq
  | _ => True

/-- one iteration of either scanner: the first token of `c :: r` and the text after it -/
def next (c : Char) (r : List Char) : GTok × List Char :=
  if c = '*' then
    match r with
    | [] => (.star, [])
    | d :: r' => if d = '*' then (.dstar, r') else (.star, r)
  else if c = '?' then (.one, r)
  else if c = '[' then
    match closeBracket (if r.head? = some '!' then r.tail else r) with
    | some (seq, after) => (.cls (r.head? = some '!') seq, after)
    | none => (.ch '[', r)
  else (.ch c, r)

theorem next_inv (c : Char) (r : List Char) :
    TokInv (next c r).1 ∧ (next c r).2.length ≤ r.length := by
  fun_cases next c r
  case case5 hcb => exact ⟨(closeBracket_inv hcb).1, Nat.le_of_lt (closeBracket_inv hcb).2⟩
  all_goals simp [TokInv]

theorem tokens_nil (f : Nat) : tokens f [] = [] := by cases f <;> rfl

theorem tokens_succ (f : Nat) (c : Char) (r : List Char) :
    tokens (f + 1) (c :: r) = (next c r).1 :: tokens f (next c r).2 := by
  rw [tokens.eq_def]
  fun_cases next c r <;> simp [*, tokens_nil]

theorem loop_succ (f : Nat) (c : Char) (r : List Char) :
    loop (f + 1) (c :: r) = (loop f (next c r).2).map (ofTok (next c r).1 :: ·) := by
  rw [loop.eq_def]
  fun_cases next c r
  case case5 hcb =>
    have hfix := fixHead_stuff _ _ (closeBracket_inv hcb).1
    simp only [decide_eq_true_eq] at hfix
    simp [*, bracket_eq, ofTok]
  all_goals simp [*, bracket_eq, ofTok]

theorem loop_eq : ∀ (f : Nat) (p : List Char), loop f p = some ((tokens f p).map ofTok)
  | 0, _ => rfl
  | _ + 1, [] => rfl
  | f + 1, c :: r => by rw [loop_succ, tokens_succ, loop_eq f]; rfl

theorem tokens_inv : ∀ (f : Nat) (p : List Char), ∀ t ∈ tokens f p, TokInv t
  | 0, _ => by simp [tokens]
  | _ + 1, [] => by simp [tokens]
  | f + 1, c :: r => by
    rw [tokens_succ, List.forall_mem_cons]
    exact ⟨(next_inv c r).1, tokens_inv f _⟩

theorem tokens_fuel : ∀ (f g : Nat) (p : List Char), p.length ≤ f → p.length ≤ g →
    tokens f p = tokens g p
  | _, _, [], _, _ => by rw [tokens_nil, tokens_nil]
  | f + 1, g + 1, c :: r, hf, hg => by
    have := (next_inv c r).2
    simp only [List.length_cons] at hf hg
    rw [tokens_succ, tokens_succ, tokens_fuel f g _ (by omega) (by omega)]
  | 0, _, _ :: _, hf, _ => by simp at hf
  | _ + 1, 0, _ :: _, _, hg => by simp at hg

theorem patTokens_cons (c : Char) (r : List Char) :
    patTokens (c :: r) = (next c r).1 :: patTokens (next c r).2 := by
  rw [patTokens, List.length_cons, tokens_succ,
    tokens_fuel r.length _ _ (next_inv c r).2 (Nat.le_refl _)]
  rfl

/-- `translate` never raises `IndexError` (`stuff[0]` is always there), and what it writes is,
token by token, the regex for the manual's reading of the pattern -/
theorem translate_total (p : List Char) : translate p = some ((patTokens p).map ofTok) :=
  loop_eq p.length p

/-! ## acceptance by the written regex = the manual's meaning -/

theorem atomOk_ofTok (t : GTok) (h : TokInv t) : atomOk (ofTok t) = tokOk t := by
  cases t with
  | cls neg seq =>
    show (parseSet (bodyOf neg seq)).isSome = !descending seq
    rw [parseSet_bodyOf neg seq h.1, Option.isSome_map, items_isSome]
  | _ => rfl

theorem compiles_map : ∀ (ts : List GTok), (∀ t ∈ ts, TokInv t) →
    compiles (ts.map ofTok) = ts.all tokOk
  | [], _ => rfl
  | t :: ts, h => by
    rw [List.forall_mem_cons] at h
    have ih := compiles_map ts h.2
    simp only [compiles] at ih ⊢
    simp [atomOk_ofTok t h.1, ih]

theorem matchA_map : ∀ (ts : List GTok) (n : List Char),
    (∀ t ∈ ts, TokInv t) → ts.all tokOk = true → matchA (ts.map ofTok) n = specMatch ts n
  | [], n, _, _ => rfl
  | t :: ts, n, hinv, hok => by
    rw [List.forall_mem_cons] at hinv
    rw [List.all_cons, Bool.and_eq_true] at hok
    have ih : matchA (ts.map ofTok) = specMatch ts := funext fun n => matchA_map ts n hinv.2 hok.2
    cases t with
    | star => simp only [List.map_cons, ofTok, matchA, specMatch, ih, starLazy_splits]
    | dstar =>
      have all_true : ∀ u : List Char, (u.all fun _ => true) = true := fun u => by simp
      simp only [List.map_cons, ofTok, matchA, specMatch, ih, starLazy_splits, all_true, Bool.true_and]
    | one | ch c => cases n <;> simp [ofTok, matchA, specMatch, ih]
    | cls neg seq =>
      have hd : descending seq = false := by simpa [tokOk] using hok.1
      cases n <;> simp [ofTok, matchA, specMatch, ih, setHas_bodyOf neg seq hinv.1.1, hd]

theorem compiles_translate (p : List Char) :
    compiles ((patTokens p).map ofTok) = wellFormed p :=
  compiles_map _ (tokens_inv p.length p)

/-- **Which patterns `re` refuses.**  The written text compiles exactly when no bracket
expression of the pattern holds a range that runs backwards (`[b-a]`, `[a--]`, `[_-.]`). -/
theorem compiles_iff (p : List Char) : compilesPat p = wellFormed p := by
  simp only [compilesPat, translate_total p]
  exact compiles_translate p

/-- **Translation correctness.**  Whenever `re.compile` accepts the text `translate` writes,
`re.compile(translate(pat)).match(name)` succeeds exactly when the name matches the pattern as the
manual says. -/
theorem translate_correct (p n : List Char) (h : compilesPat p = true) :
    matchesPat p n = spec p n := by
  rw [compiles_iff] at h
  simp only [matchesPat, translate_total p, spec]
  exact matchA_map _ n (tokens_inv p.length p) h

/-
Full statement, false of the current code: every pattern is usable,
    ∀ p, compilesPat p = true          (equivalently ∀ p n, ∃ b, qnmatch n p = .ok b).
-/
theorem compiles_counterexample : compilesPat ['[', 'b', '-', 'a', ']'] = false := by decide +kernel

theorem qnmatch_eq (n p : List Char) :
    qnmatch n p = if wellFormed p then .ok (spec p n) else .reError := by
  simp only [qnmatch, translate_total p, compiles_translate]
  split
  · exact congrArg _ (matchA_map _ n (tokens_inv _ p) ‹_›)
  · rfl

/-- what `qnmatch(name, pattern)` returns for a pattern without a backwards range: the manual's
meaning; in particular it raises nothing -/
theorem qnmatch_partial (p n : List Char) (h : wellFormed p = true) :
    qnmatch n p = .ok (spec p n) := by
  rw [qnmatch_eq, if_pos h]

/-- `qnmatch('a', '[b-a]')` raises `re.error` -/
theorem qnmatch_counterexample : qnmatch ['a'] ['[', 'b', '-', 'a', ']'] = .reError := by decide +kernel

/-- non-vacuity: a pattern with every construct, a name it matches and one it does not -/
example : wellFormed ['a', '*', '.', '*', '*', '[', '!', '_', ']', '?', '[', 'a', '-', 'c', ']'] = true ∧
    qnmatch ['a', 'b', '.', 'x', '.', 'y', 'z', '.', 'b'] ['a', '*', '.', '*', '*', '[', '!', '_', ']', '?', '[', 'a', '-', 'c', ']'] = .ok true ∧
    qnmatch ['a', '.', 'b', '.', '_', 'z', 'b'] ['a', '*', '.', '*', '*', '[', '!', '_', ']', '?', '[', 'a', '-', 'c', ']'] = .ok false := by
  decide +kernel

/-! ### the declarative reading of the two stars -/

theorem star_meaning (ts : List GTok) (n : List Char) :
    specMatch (.star :: ts) n = true ↔
      ∃ u v, n = u ++ v ∧ '.' ∉ u ∧ specMatch ts v = true := by
  have dot : ∀ u : List Char, (∀ x ∈ u, ¬ x = '.') ↔ '.' ∉ u :=
    fun u => ⟨fun h hin => h _ hin rfl, fun h x hx e => h (e ▸ hx)⟩
  simp only [specMatch, any_splits, Bool.and_eq_true, List.all_eq_true, bne_iff_ne, ne_eq, dot]

theorem dstar_meaning (ts : List GTok) (n : List Char) :
    specMatch (.dstar :: ts) n = true ↔ ∃ u v, n = u ++ v ∧ specMatch ts v = true := by
  rw [specMatch, any_splits]

/-! ### what patterns mean at the edges of a qualified name -/

def Plain (q : List Char) : Prop := ∀ c ∈ q, c ≠ '*' ∧ c ≠ '?' ∧ c ≠ '['

theorem plain_dot : Plain ['.'] := by
  intro c hc
  rw [List.mem_singleton.mp hc]; decide

theorem Plain.append {a b : List Char} (ha : Plain a) (hb : Plain b) : Plain (a ++ b) :=
  fun c hc => (List.mem_append.mp hc).elim (ha c) (hb c)

theorem spec_plain_append : ∀ (q r n : List Char), Plain q →
    spec (q ++ r) n = (q.isPrefixOf n && spec r (n.drop q.length))
  | [], r, n, _ => by simp
  | c :: q, r, n, h => by
    rw [Plain, List.forall_mem_cons] at h
    have hn : next c (q ++ r) = (.ch c, q ++ r) := by simp [next, h.1]
    have ih := fun n => spec_plain_append q r n h.2
    simp only [spec] at ih ⊢
    rw [List.cons_append, patTokens_cons, hn]
    cases n with
    | nil => rfl
    | cons x n =>
      simp [specMatch, ih, List.isPrefixOf, eq_comm, Bool.beq_eq_decide_eq, Bool.and_assoc]

theorem isPrefixOf_drop_isEmpty : ∀ (q n : List Char),
    (q.isPrefixOf n && (n.drop q.length).isEmpty) = decide (n = q)
  | [], n => by cases n <;> simp
  | _ :: _, [] => by simp
  | c :: q, x :: n => by
    simp only [List.isPrefixOf, List.length_cons, List.drop_succ_cons, Bool.and_assoc,
      isPrefixOf_drop_isEmpty q n]
    simp [eq_comm, Bool.beq_eq_decide_eq]

/-- **A text without metacharacters matches exactly itself** (so an exact rule is also a pattern
rule for the same object, never for another one). -/
theorem spec_plain (p n : List Char) (h : Plain p) : spec p n = decide (n = p) := by
  have := spec_plain_append p [] n h
  rw [List.append_nil] at this
  rw [this, ← isPrefixOf_drop_isEmpty]; rfl

/-- (5) the empty pattern matches the empty name only: the rule `PUBLIC:`, which the option parser
accepts (`Privacy.empty_pattern_and_alias_accepted`), never applies to an object -/
theorem spec_empty (n : List Char) : spec [] n = n.isEmpty := rfl

/-- `**` alone matches every name ("PUBLIC:**" makes everything public) -/
theorem spec_dstar_all (n : List Char) : spec ['*', '*'] n = true :=
  (dstar_meaning [] n).mpr ⟨n, [], by simp, rfl⟩

theorem spec_star (n : List Char) : spec ['*'] n = n.all (· != '.') := by
  rw [← starLazy_end, starLazy_splits]; rfl

/-- `pkg.**` matches exactly the names that begin with `pkg.` — everything below `pkg`, at any
depth, not `pkg` itself, not `pkgx.y` -/
theorem spec_below_any_depth (q n : List Char) (h : Plain q) :
    spec (q ++ ['.', '*', '*']) n = (q ++ ['.']).isPrefixOf n := by
  rw [List.append_cons, spec_plain_append _ _ _ (h.append plain_dot), spec_dstar_all, Bool.and_true]

/-- `pkg.*` matches exactly `pkg.` followed by one dot-free component — the direct members of
`pkg` (the component may be empty: `pkg.` itself, which is no object's name) -/
theorem spec_direct_members (q n : List Char) (h : Plain q) :
    spec (q ++ ['.', '*']) n =
      ((q ++ ['.']).isPrefixOf n && (n.drop (q.length + 1)).all (· != '.')) := by
  rw [List.append_cons, spec_plain_append _ _ _ (h.append plain_dot), spec_star]
  simp

/-- `**.name` (as in `PRIVATE:**.__init__`) matches exactly the names that end with `.name`: a
top-level object called `name` is not matched, `x.yname` is not either -/
theorem spec_anywhere (s n : List Char) (h : Plain s) :
    spec ('*' :: '*' :: '.' :: s) n = true ↔ ('.' :: s) <:+ n := by
  have hp : ∀ v, specMatch (patTokens ('.' :: s)) v = decide (v = '.' :: s) :=
    fun v => spec_plain _ v (plain_dot.append h)
  rw [spec, patTokens_cons]
  simp only [show next '*' ('*' :: '.' :: s) = (.dstar, '.' :: s) from rfl, dstar_meaning, hp,
    decide_eq_true_eq]
  constructor
  · rintro ⟨u, _, rfl, rfl⟩; exact ⟨u, rfl⟩
  · rintro ⟨u, rfl⟩; exact ⟨u, _, rfl, rfl⟩

example : spec ['p', '.', '*'] ['p', '.', 'a'] = true ∧ spec ['p', '.', '*'] ['p'] = false ∧
    spec ['p', '.', '*'] ['p', '.', 'a', '.', 'b'] = false ∧ spec ['*', '*', '.', 'x'] ['x'] = false ∧
    spec ['*', '*', '.', 'x'] ['a', '.', 'x'] = true ∧ spec ['*', '.', 'x'] ['.', 'x'] = true := by decide +kernel

/-- (3) `***` is read as `**` followed by `*` and means the same as `**` -/
theorem spec_triple_star (n : List Char) :
    patTokens ['*', '*', '*'] = [.dstar, .star] ∧ spec ['*', '*', '*'] n = true := by
  have ht : patTokens ['*', '*', '*'] = [.dstar, .star] := by decide
  refine ⟨ht, ?_⟩
  rw [spec, ht, dstar_meaning]
  exact ⟨n, [], by simp, by decide⟩

/-- (3) a hyphen between two characters of `[seq]` is a range (the manual does not say; fnmatch
convention), first or last it stands for itself; `&&`, `||`, `~~` inside a set are plain characters
(CPython ≤ 3.12 compiles them with a FutureWarning; a later `re` may read them as set operations:
that reading is a parameter of the model) -/
theorem set_conventions :
    spec ['[', 'a', '-', 'c', ']'] ['b'] = true ∧ spec ['[', 'a', '-', 'c', ']'] ['-'] = false ∧
    spec ['[', 'a', '-', ']'] ['-'] = true ∧ spec ['[', '-', 'a', ']'] ['-'] = true ∧
    qnmatch ['&'] ['[', 'a', '&', '&', 'b', ']'] = .ok true ∧ qnmatch ['c'] ['[', 'a', '&', '&', 'b', ']'] = .ok false ∧
    qnmatch ['|'] ['[', 'a', '|', '|', 'b', ']'] = .ok true ∧ qnmatch ['~'] ['[', 'a', '~', '~', 'b', ']'] = .ok true := by
  decide +kernel

/-! ## the `lru_cache` of `_compile_pattern` -/

theorem qnmatch_eq_compile (n p : List Char) :
    qnmatch n p = match compilePattern p with
      | .ok as => .ok (matchA as n) | .reError => .reError | .indexError => .indexError := by
  simp only [qnmatch, compilePattern]
  cases translate p with
  | none => rfl
  | some as => by_cases h : compiles as = true <;> simp [h]

def LruOk (es : List (List Char × List Atom)) : Prop := ∀ kv ∈ es, compilePattern kv.1 = .ok kv.2

theorem lruFind_eq_dget : ∀ (es : List (List Char × List Atom)) (p : List Char), lruFind es p = Registry.dget es p
  | [], _ => rfl
  | (_, _) :: es, p => by rw [lruFind, Registry.dget, lruFind_eq_dget es p]

theorem lruErase_sub : ∀ (es : List (List Char × List Atom)) (p : List Char) kv,
    kv ∈ lruErase es p → kv ∈ es := by
  intro es p kv
  fun_induction lruErase es p
  case case1 => exact id
  case case2 => exact List.mem_cons_of_mem _
  case case3 ih =>
    exact fun h => (List.mem_cons.mp h).elim (· ▸ List.mem_cons_self ..) (fun h => List.mem_cons_of_mem _ (ih h))

theorem qnmatchCached_ok (m : Nat) (c : Lru) (n p : List Char) (hc : LruOk c.entries) :
    (qnmatchCached m c n p).1 = qnmatch n p ∧ LruOk (qnmatchCached m c n p).2.entries := by
  rw [qnmatch_eq_compile]
  simp only [qnmatchCached, lruCall]
  cases hf : lruFind c.entries p with
  | some as =>
    have := hc _ (Registry.mem_of_dget (lruFind_eq_dget _ p ▸ hf))
    simp only at this
    simp only [this]
    refine ⟨trivial, fun kv hkv => ?_⟩
    rcases List.mem_cons.mp hkv with rfl | hkv
    · exact this
    · exact hc kv (lruErase_sub _ _ _ hkv)
  | none =>
    cases hcp : compilePattern p with
    | ok as =>
      refine ⟨rfl, fun kv hkv => ?_⟩
      rcases List.mem_cons.mp (List.mem_of_mem_take hkv) with rfl | h
      · exact hcp
      · exact hc kv h
    | _ => exact ⟨rfl, hc⟩

/-- **The `lru_cache` around `_compile_pattern` is transparent**: for any bound `maxsize` and any
history of `qnmatch(name, pattern)` calls (hits, misses, evictions, patterns that raise), every
answer is the one the uncached function gives. -/
theorem lru_transparent (m : Nat) : ∀ (qs : List (List Char × List Char)) (c : Lru),
    LruOk c.entries → (runLru m c qs).1 = qs.map (fun q => qnmatch q.1 q.2)
  | [], _, _ => rfl
  | (n, p) :: qs, c, hc => by
    obtain ⟨h1, h2⟩ := qnmatchCached_ok m c n p hc
    simp only [runLru, List.map_cons]
    rw [h1, lru_transparent m qs _ h2]

theorem lru_transparent_empty (m : Nat) (qs : List (List Char × List Char)) :
    (runLru m Lru.empty qs).1 = qs.map (fun q => qnmatch q.1 q.2) :=
  lru_transparent m qs Lru.empty (fun _ h => by simp [Lru.empty] at h)

example : (runLru 1 Lru.empty [(['a'], ['a']), (['a'], ['?']), (['b'], ['a']), (['a'], ['[', 'b', '-', 'a', ']'])]).1
    = [.ok true, .ok true, .ok false, .reError] := by decide +kernel

end Glob

/-! ## Privacy: the default, precedence of the rules -/
namespace Privacy

theorem startsWith_iff : ∀ (p s : List Char), startsWith p s = true ↔ p <+: s
  | [], s => by simp [startsWith]
  | _ :: _, [] => by simp [startsWith]
  | a :: p, c :: s => by
    simp [startsWith, startsWith_iff p s, List.cons_prefix_cons]

theorem endsWith_iff (p s : List Char) : endsWith p s = true ↔ p <:+ s := by
  simp [endsWith, startsWith_iff, List.reverse_prefix]

/-- **The default.**  Without an applicable rule an object is PRIVATE exactly when its name
begins with an underscore and is not a dunder (`__*__`, at least four characters; since 2e9a6af). -/
theorem default_meaning (name : List Char) :
    defaultLevel name = .priv ↔
      (['_'] <+: name ∧ ¬ (4 ≤ name.length ∧ ['_', '_'] <+: name ∧ ['_', '_'] <:+ name)) := by
  simp only [← startsWith_iff, ← endsWith_iff, defaultLevel]
  cases startsWith ['_'] name <;> cases startsWith ['_', '_'] name <;>
    cases endsWith ['_', '_'] name <;> simp

example : defaultLevel ['_', 'x'] = .priv ∧ defaultLevel ['_', '_', 'x', '_', '_'] = .pub ∧
    defaultLevel ['x'] = .pub ∧ defaultLevel ['_', '_', 'x'] = .priv ∧ defaultLevel ['_'] = .priv ∧
    defaultLevel ['_', '_'] = .priv ∧ defaultLevel ['_', '_', '_'] = .priv ∧
    defaultLevel ['_', '_', '_', '_'] = .pub := by decide +kernel

/-- (2) names made of underscores only: `_`, `__`, `___` are private; `____`, `_____`, … are
dunders (`__*__` with an all-underscore middle) and public (since 2e9a6af) -/
theorem bare_underscores (n : Nat) :
    defaultLevel (List.replicate n '_') = if 1 ≤ n ∧ n ≤ 3 then .priv else .pub := by
  match n with
  | 0 | 1 | 2 | 3 => decide
  | k + 4 =>
    have h1 : startsWith ['_'] (List.replicate (k + 4) '_') = true := rfl
    have h2 : startsWith ['_', '_'] (List.replicate (k + 4) '_') = true := rfl
    simp [defaultLevel, endsWith, h1, h2]

/-- **The whole default** (as customize.rst states it since c8d85b0): PRIVATE for a name with a
leading underscore that is not a dunder, and for a module named `__main__`; PUBLIC otherwise. -/
theorem defaultOf_meaning (ob : Obj) :
    defaultOf ob = .priv ↔
      ((['_'] <+: ob.name ∧ ¬ (4 ≤ ob.name.length ∧ ['_', '_'] <+: ob.name ∧ ['_', '_'] <:+ ob.name)) ∨
        (ob.isModule = true ∧ ob.name = mainName)) := by
  rw [← default_meaning, defaultOf]
  split
  · simp [*]
  · split <;> simp_all

theorem defaultOf_pub_or_priv (ob : Obj) : defaultOf ob = .priv ∨ defaultOf ob = .pub := by
  simp only [defaultOf]
  split
  · exact Or.inl rfl
  · split
    · exact Or.inl rfl
    · exact Or.inr rfl

example : defaultOf ⟨['p', '.'] ++ mainName, mainName, true, false, true⟩ = .priv ∧
    defaultOf ⟨['C', '.'] ++ mainName, mainName, false, false, true⟩ = .pub := by decide +kernel

theorem findExact_skip (pre post : List Rule) (fn : List Char) (h : ∀ x ∈ post, x.pat ≠ fn) :
    findExact (pre ++ post).reverse fn = findExact pre.reverse fn := by
  induction post generalizing pre with
  | nil => rw [List.append_nil]
  | cons x post ih =>
    rw [List.forall_mem_cons] at h
    rw [List.append_cons, ih _ h.2, List.reverse_concat, findExact, if_neg (Ne.symm h.1)]

theorem findPattern_skip (pre post : List Rule) (fn : List Char)
    (h : ∀ x ∈ post, Glob.qnmatch fn x.pat = .ok false) :
    findPattern (pre ++ post).reverse fn = findPattern pre.reverse fn := by
  induction post generalizing pre with
  | nil => rw [List.append_nil]
  | cons x post ih =>
    rw [List.forall_mem_cons] at h
    rw [List.append_cons, ih _ h.2, List.reverse_concat, findPattern, h.1]

theorem findExact_none (rs : List Rule) (fn : List Char) (h : ∀ x ∈ rs, x.pat ≠ fn) :
    findExact rs.reverse fn = none := by
  simpa [findExact] using findExact_skip [] rs fn h

theorem findPattern_none (rs : List Rule) (fn : List Char)
    (h : ∀ x ∈ rs, Glob.qnmatch fn x.pat = .ok false) : findPattern rs.reverse fn = .notFound := by
  simpa [findPattern] using findPattern_skip [] rs fn h

/-- **An exact rule beats every pattern rule, and the last exact rule wins** — whatever the other
rules are (patterns that match, patterns that `re` refuses, earlier exact rules). -/
theorem exact_wins (pre post : List Rule) (r : Rule) (ob : Obj)
    (hr : r.pat = ob.fullName) (hpost : ∀ x ∈ post, x.pat ≠ ob.fullName) :
    decide (pre ++ r :: post) ob = .ok r.level := by
  rw [decide, List.append_cons, findExact_skip _ _ _ hpost, List.reverse_concat, findExact,
    if_pos hr.symm]

/-- **Among pattern rules the last one that matches wins** (when no rule is exact). -/
theorem last_pattern_wins (pre post : List Rule) (r : Rule) (ob : Obj)
    (hex : ∀ x ∈ pre ++ r :: post, x.pat ≠ ob.fullName)
    (hr : Glob.qnmatch ob.fullName r.pat = .ok true)
    (hpost : ∀ x ∈ post, Glob.qnmatch ob.fullName x.pat = .ok false) :
    decide (pre ++ r :: post) ob = .ok r.level := by
  rw [decide, findExact_none _ _ hex, List.append_cons, findPattern_skip _ _ _ hpost,
    List.reverse_concat, findPattern, hr]

/-- **No rule applies: the default.** -/
theorem default_applies (rules : List Rule) (ob : Obj)
    (h : ∀ x ∈ rules, x.pat ≠ ob.fullName ∧ Glob.qnmatch ob.fullName x.pat = .ok false) :
    decide rules ob = .ok (defaultOf ob) := by
  rw [decide, findExact_none _ _ (fun x hx => (h x hx).1),
    findPattern_none _ _ (fun x hx => (h x hx).2)]

example : decide [⟨.hidden, ['m', '.', '*']⟩, ⟨.pub, ['m', '.', 'a']⟩, ⟨.priv, ['*', '*']⟩]
    ⟨['m', '.', 'a'], ['a'], false, false, true⟩ = .ok .pub := by decide +kernel
example : decide [⟨.hidden, ['m', '.', '*']⟩, ⟨.priv, ['*', '*']⟩]
    ⟨['m', '.', 'a'], ['a'], false, false, true⟩ = .ok .priv := by decide +kernel
example : decide [⟨.hidden, ['x', '.', '*']⟩] ⟨['m', '.', '_', 'a'], ['_', 'a'], false, false, true⟩ = .ok .priv := by
  decide +kernel

/-! ### the whole decision against the property's statement -/

/-- The default as the manual words it: PRIVATE for a name that starts with an underscore and is
not a dunder, a dunder being what the manual's own pattern `__*__` ("PRIVATE:**.__*__ makes all
dunder methods private") describes — at least four characters, so `__` and `___` are none. -/
def manualDefault (name : List Char) : Level :=
  if startsWith ['_'] name &&
      !(Decidable.decide (4 ≤ name.length) && startsWith ['_', '_'] name && endsWith ['_', '_'] name) then .priv
  else .pub

/-- … and, since c8d85b0, PRIVATE for a module named `__main__` -/
def manualDefaultOf (ob : Obj) : Level :=
  if manualDefault ob.name = .priv then .priv
  else if ob.isModule && ob.name = mainName then .priv
  else .pub

/-- since 2e9a6af the code's default is the manual's, for every name: the manual's wording transcribes to the very test
the code has, so this is `rfl`; what the wording means is `default_meaning` -/
theorem defaultLevel_eq_manual (name : List Char) : defaultLevel name = manualDefault name := rfl

theorem defaultOf_eq_manual (ob : Obj) : defaultOf ob = manualDefaultOf ob := rfl

/-- historical: before 2e9a6af `__` and `___` were PUBLIC, the manual says PRIVATE (finding
`default:underscore-only-name-public`, fixed) -/
theorem default_counterexample_before_2e9a6af :
    defaultLevelBefore_2e9a6af ['_', '_'] = .pub ∧ manualDefault ['_', '_'] = .priv ∧
    defaultLevelBefore_2e9a6af ['_', '_', '_'] = .pub ∧ manualDefault ['_', '_', '_'] = .priv ∧
    defaultLevelBefore_2e9a6af ['_', '_', '_', '_'] = manualDefault ['_', '_', '_', '_'] := by decide +kernel

/-- The property's statement, written on its own: the last rule whose text is the qualified name;
failing that the last rule whose pattern matches (in the manual's sense); failing that the
default (`defaultOf`: underscore rule, modules named `__main__`). -/
def specLevel (rules : List Rule) (ob : Obj) : Level :=
  match (rules.filter (fun r => r.pat = ob.fullName)).getLast? with
  | some r => r.level
  | none =>
    match (rules.filter (fun r => Glob.spec r.pat ob.fullName)).getLast? with
    | some r => r.level
    | none => manualDefaultOf ob

theorem findExact_eq (rs : List Rule) (fn : List Char) :
    findExact rs fn = ((rs.filter (fun r => r.pat = fn)).head?).map (·.level) := by
  induction rs with
  | nil => rfl
  | cons x xs ih =>
    by_cases h : fn = x.pat
    · simp [findExact, h]
    · have h' : ¬ x.pat = fn := fun e => h e.symm
      simp [findExact, h, h', ih]

theorem findPattern_eq (rs : List Rule) (fn : List Char)
    (hw : ∀ x ∈ rs, Glob.wellFormed x.pat = true) :
    findPattern rs fn =
      match (rs.filter (fun r => Glob.spec r.pat fn)).head? with
      | some r => .found r.level
      | none => .notFound := by
  induction rs with
  | nil => rfl
  | cons x xs ih =>
    rw [List.forall_mem_cons] at hw
    cases hs : Glob.spec x.pat fn <;>
      simp [findPattern, Glob.qnmatch_partial x.pat fn hw.1, hs, ih hw.2]

theorem decide_eq_spec (rules : List Rule) (ob : Obj)
    (hw : ∀ x ∈ rules, Glob.wellFormed x.pat = true) :
    decide rules ob = .ok (specLevel rules ob) := by
  have hw' : ∀ x ∈ rules.reverse, Glob.wellFormed x.pat = true :=
    fun x hx => hw x (List.mem_reverse.mp hx)
  simp only [decide, findExact_eq, findPattern_eq _ _ hw', List.filter_reverse,
    List.head?_reverse, specLevel]
  cases (rules.filter (fun r => r.pat = ob.fullName)).getLast? with
  | some r => rfl
  | none =>
    cases (rules.filter (fun r => Glob.spec r.pat ob.fullName)).getLast? <;> rfl

theorem privacyClass_nil (rules : List Rule) (ob : Obj) :
    (privacyClass rules [] ob).1 = if ob.kindNone then .ok .hidden else decide rules ob := by
  simp only [privacyClass, systemPrivacyClass, lookup]
  split
  · rfl
  · cases decide rules ob <;> rfl

/-
Full statement, false of the current code:
    ∀ rules ob, (privacyClass rules [] ob).1 = .ok (specLevel rules ob)
It fails (a) for rule lists written into `options.privacy` by hand when a rule's pattern holds a
backwards range and is reached (`precedence_counterexample`); (b) for an object whose `kind` is
`None` — HIDDEN before name and rules are looked at (`precedence_counterexample_kindNone`; since
6778a0a only a `@type`-only pseudo attribute is in that state: finding `kind-none-hidden:type-field-only`).
-/
/-- **Precedence, as a whole.**  With rule patterns that `re` accepts the privacy class computed is
the one the property states, for every object that has a kind. -/
theorem precedence_partial (rules : List Rule) (ob : Obj)
    (hw : ∀ x ∈ rules, Glob.wellFormed x.pat = true) (hk : ob.kindNone = false) :
    (privacyClass rules [] ob).1 = .ok (specLevel rules ob) := by
  rw [privacyClass_nil, hk, decide_eq_spec rules ob hw]; rfl

/-- (a) a rule with a backwards range: `privacyClass` raises `re.error` -/
theorem precedence_counterexample :
    (privacyClass [⟨.hidden, ['[', 'b', '-', 'a', ']']⟩] [] ⟨['a'], ['a'], false, false, true⟩).1
      = .err .reError := by decide +kernel

/-- (b) an object whose `kind` is `None` (a `@type`-only pseudo attribute): HIDDEN although
`PUBLIC:m.x` names it exactly -/
theorem precedence_counterexample_kindNone :
    (privacyClass [⟨.pub, ['m', '.', 'x']⟩] [] ⟨['m', '.', 'x'], ['x'], false, true, true⟩).1 = .ok .hidden ∧
    specLevel [⟨.pub, ['m', '.', 'x']⟩] ⟨['m', '.', 'x'], ['x'], false, true, true⟩ = .pub := by decide +kernel

/-- since 2e9a6af `mod.__` without any rule is PRIVATE, as the manual says -/
theorem underscores_private :
    (privacyClass [] [] ⟨['m', '.', '_', '_'], ['_', '_'], false, false, true⟩).1 = .ok .priv ∧
    specLevel [] ⟨['m', '.', '_', '_'], ['_', '_'], false, false, true⟩ = .priv := by decide +kernel

/-- since c8d85b0 a rule reaches a module named `__main__` … -/
theorem main_module_rule_applies :
    (privacyClass [⟨.hidden, ['p', '.'] ++ mainName⟩] [] ⟨['p', '.'] ++ mainName, mainName, true, false, true⟩).1
        = .ok .hidden ∧
    (privacyClass [] [] ⟨['p', '.'] ++ mainName, mainName, true, false, true⟩).1 = .ok .priv := by decide +kernel

/-- … historical: before c8d85b0 `HIDDEN:p.__main__` left `p.__main__` PRIVATE (finding
`main-module:rule-ignored`, fixed) -/
theorem main_module_counterexample_before_c8d85b0 :
    privacyClassBefore_c8d85b0 [⟨.hidden, ['p', '.'] ++ mainName⟩] ⟨['p', '.'] ++ mainName, mainName, true, false, true⟩
        = .ok .priv ∧
      specLevel [⟨.hidden, ['p', '.'] ++ mainName⟩] ⟨['p', '.'] ++ mainName, mainName, true, false, true⟩
        = .hidden := by decide +kernel

/-! ### rule lists that come from the command line

Since c6e4102 `parse_privacy_tuple` compiles the pattern and refuses it with the usual option
error: a backwards range cannot reach `System.privacyClass` from `--privacy`
(`Glob.qnmatch_counterexample` and `precedence_counterexample` are about `qnmatch.qnmatch` called
directly and rule lists put into `options.privacy` by hand). -/

/-- **What the option parser accepts**: `<level>:<pattern>` where the level, stripped and in upper
case, is HIDDEN, PRIVATE, PUBLIC or VISIBLE (= PUBLIC), and the stripped pattern has no backwards
range; the rule carries the stripped pattern. -/
theorem parseRule_ok_iff (v : List Char) (r : Rule) :
    parseRule v = .ok r ↔
      ∃ a b, splitColon v = [a, b] ∧ levelOfName (upper (strip a)) = some r.level ∧
        r.pat = strip b ∧ Glob.wellFormed (strip b) = true := by
  simp only [parseRule, Glob.translate_total, Glob.compiles_translate]
  split
  · rename_i a b hab
    have ex : ∀ P : List Char → List Char → Prop, (∃ x y, [a, b] = [x, y] ∧ P x y) ↔ P a b :=
      fun P => ⟨fun ⟨_, _, h, hp⟩ => by cases h; exact hp, fun hp => ⟨a, b, rfl, hp⟩⟩
    rw [hab, ex]
    cases levelOfName (upper (strip a)) with
    | none => simp
    | some l =>
      cases r
      by_cases hw : Glob.wellFormed (strip b) = true <;> simp [hw, eq_comm (a := strip b)]
  · rename_i hne
    simp only [reduceCtorEq, false_iff]
    rintro ⟨a, b, hab, _⟩
    exact hne a b hab

example : parseRule [' ', 'h', 'i', 'd', 'd', 'e', 'n', ' ', ':', ' ', 'a', '.', '*', ' '] = .ok ⟨.hidden, ['a', '.', '*']⟩ ∧
    parseRule ['V', 'i', 's', 'i', 'b', 'l', 'e', ':', 'a'] = .ok ⟨.pub, ['a']⟩ ∧
    parseRule ['P', 'U', 'B', 'L', 'I', 'K', ':', 'a'] = .systemExit ∧
    parseRule ['P', 'U', 'B', 'L', 'I', 'C', ':', 'a', ':', 'b'] = .systemExit ∧
    parseRule ['P', 'U', 'B', 'L', 'I', 'C'] = .systemExit := by decide +kernel

theorem parseRule_wellFormed (v : List Char) (r : Rule) (h : parseRule v = .ok r) :
    Glob.wellFormed r.pat = true := by
  obtain ⟨_, _, _, _, hp, hw⟩ := (parseRule_ok_iff v r).mp h
  rw [hp, hw]

theorem splitColon_length : ∀ v, (splitColon v).length = v.count ':' + 1
  | [] => rfl
  | c :: r => by
    have ih := splitColon_length r
    simp only [splitColon]
    cases hs : splitColon r with
    | nil => simp [hs] at ih
    | cons p ps =>
      rw [hs] at ih
      by_cases h : c = ':' <;> simp [h] at ih ⊢ <;> omega

/-- **A `--privacy` value needs exactly one colon**: none, or a pattern that itself contains a
colon, is refused (`malformatted value`); qualified names never contain one. -/
theorem parseRule_colons (v : List Char) (h : v.count ':' ≠ 1) : parseRule v = .systemExit := by
  have hl := splitColon_length v
  simp only [parseRule]
  split
  · rename_i a b hab
    rw [hab] at hl
    simp only [List.length_cons, List.length_nil] at hl
    omega
  · rfl

theorem cli_rules_wellFormed : ∀ (vs : List (List Char)) (rules : List Rule),
    parseRules vs = .ok rules → ∀ r ∈ rules, Glob.wellFormed r.pat = true := by
  intro vs
  fun_induction parseRules vs
  case case2 hv _ hvs ih =>
    rintro _ ⟨⟩
    rw [List.forall_mem_cons]
    exact ⟨parseRule_wellFormed _ _ hv, ih _ hvs⟩
  all_goals simp

/-
Full statement, false of the current code (see `precedence_partial`, case (b)):
    parseRules vs = .ok rules → (privacyClass rules [] ob).1 = .ok (specLevel rules ob)
-/
/-- **Precedence for every `--privacy` list the option parser accepts**: no hypothesis on the
patterns or the names; excluded are only objects whose `kind` is `None` (open finding
`kind-none-hidden:type-field-only`). -/
theorem precedence_cli_partial (vs : List (List Char)) (rules : List Rule) (ob : Obj)
    (h : parseRules vs = .ok rules) (hk : ob.kindNone = false) :
    (privacyClass rules [] ob).1 = .ok (specLevel rules ob) :=
  precedence_partial rules ob (cli_rules_wellFormed vs rules h) hk

/-- **With a `--privacy` list the option parser accepts, `privacyClass` never raises** — for any
object and any cache state (the `re.error` of `precedence_counterexample` is unreachable from the CLI). -/
theorem cli_never_raises (vs : List (List Char)) (rules : List Rule) (h : parseRules vs = .ok rules)
    (c : Cache) (ob : Obj) : ∃ l, (privacyClass rules c ob).1 = .ok l := by
  simp only [privacyClass, systemPrivacyClass,
    decide_eq_spec rules ob (cli_rules_wellFormed vs rules h)]
  split
  · exact ⟨_, rfl⟩
  · split <;> exact ⟨_, rfl⟩

example : parseRules [['H', 'I', 'D', 'D', 'E', 'N', ':', 'm', '.', '[', 'a', '-', 'b', ']', '*']]
    = .ok [⟨.hidden, ['m', '.', '[', 'a', '-', 'b', ']', '*']⟩] := by decide +kernel
/-- `--privacy=HIDDEN:m.[b-a]*` is refused when the option is parsed -/
theorem cli_rejects_backwards_range :
    parseRules [['H', 'I', 'D', 'D', 'E', 'N', ':', 'm', '.', '[', 'b', '-', 'a', ']', '*']]
      = .systemExit := by decide +kernel

/-- (5) `PUBLIC:` (empty pattern, which matches no object: `Glob.spec_empty`) and the alias level
`visible` are accepted -/
theorem empty_pattern_and_alias_accepted :
    parseRule ['P', 'U', 'B', 'L', 'I', 'C', ':'] = .ok ⟨.pub, []⟩ ∧
    parseRule ['v', 'i', 's', 'i', 'b', 'l', 'e', ':', 'a'] = .ok ⟨.pub, ['a']⟩ := by decide +kernel

/-- **Command line replaces configuration file**: when any `--privacy` is given on the command
line the file's list plays no role (not even its malformed values); otherwise the file's list is
the rule list. -/
theorem effective_cli_wins (cli cfg : List (List Char)) (h : cli ≠ []) :
    parseEffective cli cfg = parseRules cli := by
  cases cli with
  | nil => exact absurd rfl h
  | cons v vs => rfl

theorem effective_file_only (cfg : List (List Char)) : parseEffective [] cfg = parseRules cfg := rfl

/-- precedence for the rule list a run is really given (file and command line combined) -/
theorem precedence_effective_partial (cli cfg : List (List Char)) (rules : List Rule) (ob : Obj)
    (h : parseEffective cli cfg = .ok rules) (hk : ob.kindNone = false) :
    (privacyClass rules [] ob).1 = .ok (specLevel rules ob) :=
  precedence_cli_partial _ rules ob h hk

/-! ### the cache -/

/-- (1) an object whose `kind` is `None`, when the cache holds nothing under its qualified name, is
HIDDEN before any rule is consulted — not even an exact `PUBLIC:` rule changes that — and the answer
is not stored in the cache -/
theorem kindNone_hidden (rules : List Rule) (c : Cache) (ob : Obj) (hk : ob.kindNone = true)
    (hc : lookup c ob.fullName = none) : privacyClass rules c ob = (.ok .hidden, c) := by
  simp [privacyClass, systemPrivacyClass, hc, hk]

example : (privacyClass [⟨.pub, ['m', '.', 'k']⟩] [] ⟨['m', '.', 'k'], ['k'], false, true, true⟩).1 = .ok .hidden := by
  decide +kernel

theorem lookup_eq_dget : ∀ (c : Cache) (k : List Char), lookup c k = Registry.dget c k
  | [], _ => rfl
  | (_, _) :: c, k => by rw [lookup, Registry.dget, lookup_eq_dget c k]

/-- (4) the cache is never invalidated: once an object has been asked, a different rule list (an
`options.privacy` replaced through the API after the first query; the command line cannot do that,
the options are fixed before the System exists) does not change the answer -/
theorem cache_survives_rule_change (r1 r2 : List Rule) (ob : Obj) (l : Level) (hk : ob.kindNone = false)
    (h : (privacyClass r1 [] ob).1 = .ok l) :
    (privacyClass r2 (privacyClass r1 [] ob).2 ob).1 = .ok l := by
  simp only [privacyClass, systemPrivacyClass, lookup, hk] at h ⊢
  cases hd : decide r1 ob with
  | err e => simp [hd] at h
  | ok l' =>
    simp [hd] at h
    subst h
    simp [lookup]

example : (privacyClass [⟨.pub, ['a']⟩] (privacyClass [⟨.hidden, ['a']⟩] [] ⟨['a'], ['a'], false, false, true⟩).2
    ⟨['a'], ['a'], false, false, true⟩).1 = .ok .hidden := by decide +kernel

/-- one qualified name always denotes objects with the same `name`, module-ness and kind: all that
`privacyClass` reads besides the qualified name (`inContents` is not read) -/
def Coherent (U : List Obj) : Prop :=
  ∀ a ∈ U, ∀ b ∈ U, a.fullName = b.fullName →
    a.name = b.name ∧ a.isModule = b.isModule ∧ a.kindNone = b.kindNone

theorem privacyClass_coherent {U : List Obj} (hU : Coherent U) (rules : List Rule) {a b : Obj}
    (ha : a ∈ U) (hb : b ∈ U) (hf : a.fullName = b.fullName) :
    (privacyClass rules [] a).1 = (privacyClass rules [] b).1 := by
  obtain ⟨hn, hm, hk⟩ := hU a ha b hb hf
  simp only [privacyClass_nil, decide, defaultOf, hf, hn, hm, hk]

def CacheOk (rules : List Rule) (U : List Obj) (c : Cache) : Prop :=
  ∀ fn l, lookup c fn = some l → ∀ ob ∈ U, ob.fullName = fn → (privacyClass rules [] ob).1 = .ok l

theorem cacheOk_nil (rules : List Rule) (U : List Obj) : CacheOk rules U [] :=
  fun _ _ h => nomatch h

/-- a miss stores the answer: `cache[fn] = l` for a name the cache does not hold -/
theorem cacheOk_append {rules : List Rule} {U : List Obj} {c : Cache} (hc : CacheOk rules U c)
    (fn : List Char) (l : Level) (hmiss : lookup c fn = none)
    (h : ∀ ob ∈ U, ob.fullName = fn → (privacyClass rules [] ob).1 = .ok l) :
    CacheOk rules U (c ++ [(fn, l)]) := by
  intro fn' l' hlk
  rw [lookup_eq_dget, ← Registry.dset_of_dget_none (lookup_eq_dget c fn ▸ hmiss), Registry.dget_dset,
    ← lookup_eq_dget] at hlk
  split at hlk
  · rename_i e
    cases hlk; subst e; exact h
  · exact hc fn' l' hlk

theorem privacyClass_cached (rules : List Rule) (U : List Obj) (hU : Coherent U)
    (c : Cache) (hc : CacheOk rules U c) (ob : Obj) (hob : ob ∈ U) :
    (privacyClass rules c ob).1 = (privacyClass rules [] ob).1 ∧
      CacheOk rules U (privacyClass rules c ob).2 := by
  rw [privacyClass_nil, privacyClass]
  fun_cases systemPrivacyClass rules c ob
  case case1 hl => exact ⟨by rw [← privacyClass_nil, hc _ _ hl ob hob rfl], hc⟩
  case case3 hl hk _ hd =>
    -- the new entry is right for every object of `U` that bears the name of `ob`
    refine ⟨by simp [*], cacheOk_append hc _ _ hl fun ob' hob' hfn => ?_⟩
    rw [privacyClass_coherent hU rules hob' hob hfn, privacyClass_nil, if_neg hk, hd]
  all_goals exact ⟨by simp [*], hc⟩

theorem run_cached {rules : List Rule} {U : List Obj} (hU : Coherent U) (qs : List Obj) :
    ∀ c, (∀ q ∈ qs, q ∈ U) → CacheOk rules U c →
      (run rules c qs).1 = qs.map (fun ob => (privacyClass rules [] ob).1) := by
  induction qs with
  | nil => intros; rfl
  | cons q qs ih =>
    intro c hq hc
    rw [List.forall_mem_cons] at hq
    obtain ⟨h1, h2⟩ := privacyClass_cached rules U hU c hc q hq.1
    simp only [run, List.map_cons]
    rw [← h1, ← ih _ hq.2 h2]

/-
Full statement, false of the model (and of the code, for objects built by hand):
    ∀ rules qs, (run rules [] qs).1 = qs.map (fun ob => (privacyClass rules [] ob).1)
The cache is keyed by qualified name alone, the answer also reads `ob.name`, `ob.kind` and whether
`ob` is a module.
-/
/-- **The cache is transparent.**  For any rule list and any `Coherent` query history — any
objects, any order, any repetitions — every answer is the one a cache-less computation gives. -/
theorem cache_transparent (rules : List Rule) (qs : List Obj) (hU : Coherent qs) :
    (run rules [] qs).1 = qs.map (fun ob => (privacyClass rules [] ob).1) :=
  run_cached hU qs [] (fun _ h => h) (cacheOk_nil rules qs)

/-- two objects with one qualified name (a child `_x.s` of `m`, a child `s` of `m._x`): the second
query is answered from the cache with the first one's class -/
theorem cache_counterexample :
    (run [] [] [⟨['m', '.', '_', 'x', '.', 's'], ['s'], false, false, true⟩,
               ⟨['m', '.', '_', 'x', '.', 's'], ['_', 'x', '.', 's'], false, false, true⟩]).1
      = [.ok .pub, .ok .pub] ∧
    (privacyClass [] [] ⟨['m', '.', '_', 'x', '.', 's'], ['_', 'x', '.', 's'], false, false, true⟩).1
      = .ok .priv := by decide +kernel

example : (run [⟨.hidden, ['m', '.', '*']⟩] []
    [⟨['m', '.', 'a'], ['a'], false, false, true⟩, ⟨['m'], ['m'], true, false, true⟩,
     ⟨['m', '.', 'a'], ['a'], false, false, true⟩]).1 = [.ok .hidden, .ok .pub, .ok .hidden] := by decide +kernel

/-! ### … and stays transparent when objects are moved -/

theorem isPrivate_cached (rules : List Rule) (U : List Obj) (hU : Coherent U)
    (c : Cache) (hc : CacheOk rules U c) (ob : Obj) (hob : ob ∈ U) :
    (isPrivate rules c ob).1 = (isPrivate rules [] ob).1 ∧ CacheOk rules U (isPrivate rules c ob).2 := by
  obtain ⟨h1, h2⟩ := privacyClass_cached rules U hU c hc ob hob
  simp only [isPrivate]
  revert h1 h2
  rcases privacyClass rules c ob with ⟨r, c'⟩
  rcases privacyClass rules [] ob with ⟨r', c''⟩
  rintro ⟨⟩ h2
  cases r <;> exact ⟨rfl, h2⟩

theorem isVisible_cached (rules : List Rule) (U : List Obj) (hU : Coherent U) :
    ∀ (chain : List Obj) (c : Cache), (∀ o ∈ chain, o ∈ U) → CacheOk rules U c →
      (isVisible rules c chain).1 = visPure rules chain ∧ CacheOk rules U (isVisible rules c chain).2 := by
  intro chain c
  fun_induction isVisible rules c chain
  case case1 => exact fun _ hc => ⟨rfl, hc⟩
  all_goals
    intro hch hc
    rw [List.forall_mem_cons] at hch
    obtain ⟨h1, h2⟩ := privacyClass_cached rules U hU _ hc _ hch.1
    rw [visPure.eq_def]
    dsimp only
    rw [← h1]
    simp only [*] at h2 ⊢
  case case4 ih => simpa [*] using ih hch.2 h2
  all_goals simp [*]

theorem setObj_eq_set : ∀ (w : World) (i : Nat) (o : Obj), setObj w i o = w.set i o
  | [], _, _ => rfl
  | _ :: _, 0, _ => rfl
  | x :: w, i + 1, o => congrArg (x :: ·) (setObj_eq_set w i o)

theorem mem_applyMove : ∀ (upd : List (Nat × Obj)) (w : World) (x : Obj),
    x ∈ applyMove w upd → x ∈ w ∨ x ∈ upd.map (·.2)
  | [], w, x, h => Or.inl h
  | (i, o) :: u, w, x, h => by
    rw [List.map_cons, List.mem_cons]
    rcases mem_applyMove u (setObj w i o) x h with h | h
    · rw [setObj_eq_set] at h
      exact (List.mem_or_eq_of_mem_set h).imp_right Or.inl
    · exact Or.inr (Or.inr h)

theorem mem_getChain (w : World) (ids : List Nat) (o : Obj) (h : o ∈ getChain w ids) : o ∈ w := by
  simp only [getChain, List.mem_filterMap] at h
  obtain ⟨i, _, hi⟩ := h
  exact List.mem_of_getElem? hi

/-- every record an object ever has during the history: the initial world and what the moves write -/
def records (w : World) : List Event → List Obj
  | [] => w
  | .move upd :: es => upd.map (·.2) ++ records w es
  | _ :: es => records w es

theorem mem_records (w : World) (o : Obj) : ∀ es, o ∈ records w es ↔ o ∈ records [] es ∨ o ∈ w
  | [] => by simp [records]
  | e :: es => by cases e <;> simp [records, mem_records w o es, or_assoc]

theorem runEvents_cached {rules : List Rule} {U : List Obj} (hU : Coherent U) (es : List Event) :
    ∀ (w : World) (c : Cache), (∀ o ∈ w, o ∈ U) → (∀ o ∈ records [] es, o ∈ U) →
      CacheOk rules U c → (runEvents rules w c es).1 = pureEvents rules w es := by
  induction es with
  | nil => intros; rfl
  | cons e es ih =>
    intro w c hw hes hc
    cases e with
    | move upd =>
      rw [records, List.forall_mem_append] at hes
      exact ih _ c (fun o ho => (mem_applyMove upd w o ho).elim (hw o) (hes.1 o)) hes.2 hc
    | cls i =>
      simp only [runEvents, pureEvents]
      cases hi : w[i]? with
      | none => simp [ih w c hw hes hc]
      | some ob =>
        obtain ⟨h1, h2⟩ := privacyClass_cached rules U hU c hc ob (hw ob (List.mem_of_getElem? hi))
        simp [ih w _ hw hes h2, h1]
    | prv i =>
      simp only [runEvents, pureEvents]
      cases hi : w[i]? with
      | none => simp [ih w c hw hes hc]
      | some ob =>
        obtain ⟨h1, h2⟩ := isPrivate_cached rules U hU c hc ob (hw ob (List.mem_of_getElem? hi))
        simp [ih w _ hw hes h2, h1]
    | vis ids =>
      obtain ⟨h1, h2⟩ := isVisible_cached rules U hU (getChain w ids) c
        (fun o ho => hw o (mem_getChain w ids o ho)) hc
      simp [runEvents, pureEvents, ih w _ hw hes h2, h1]

/-- **The cache stays transparent under moves.**  After any sequence of queries
(`privacyClass`, `isVisible`, `isPrivate`) and moves (`reparent`: a subtree changes its qualified
names), every answer equals the cache-less answer for the record — in particular the *current*
qualified name — the object has at that moment; provided the records of the whole history are
`Coherent`. -/
theorem cache_transparent_moves (rules : List Rule) (w : World) (es : List Event)
    (hU : Coherent (records w es)) :
    (runEvents rules w [] es).1 = pureEvents rules w es :=
  runEvents_cached hU es w [] (fun o ho => (mem_records w o es).mpr (.inr ho))
    (fun o ho => (mem_records w o es).mpr (.inl ho)) (cacheOk_nil rules _)

/-- ask `impl.H.run` under `HIDDEN:impl.**`, move `H` to `api`, ask again: PUBLIC, not the stale HIDDEN -/
example : (runEvents [⟨.hidden, ['i', '.', '*', '*']⟩] [⟨['i', '.', 'H', '.', 'r'], ['r'], false, false, true⟩] []
    [.cls 0, .move [(0, ⟨['a', '.', 'H', '.', 'r'], ['r'], false, false, true⟩)], .cls 0]).1
    = [.lvl (.ok .hidden), .lvl (.ok .pub)] := by decide +kernel

/-! ### one qualified name, one name -/

/-- what `Documentable.fullName` guarantees when names contain no dot: the qualified name is the
name, or the parent's qualified name, a dot, and the name -/
def WellNamed (o : Obj) : Prop :=
  '.' ∉ o.name ∧ (o.fullName = o.name ∨ ∃ pre, o.fullName = pre ++ '.' :: o.name)

def lastComp (s : List Char) : List Char := (s.reverse.takeWhile (· != '.')).reverse

theorem lastComp_of_wellNamed (o : Obj) (h : WellNamed o) : lastComp o.fullName = o.name := by
  obtain ⟨hd, hf⟩ := h
  have hall : ∀ x ∈ o.name.reverse, (x != '.') = true := by
    intro x hx
    rw [bne_iff_ne]
    rintro rfl
    exact hd (List.mem_reverse.mp hx)
  -- read from the end, the qualified name is the name followed by nothing or by a dot
  have key : ∀ rest : List Char, rest.takeWhile (· != '.') = [] →
      lastComp (rest.reverse ++ o.name) = o.name := fun rest hr => by
    rw [lastComp, List.reverse_append, List.reverse_reverse, List.takeWhile_append_of_pos hall, hr,
      List.append_nil, List.reverse_reverse]
  rcases hf with hf | ⟨pre, hf⟩
  · rw [hf]; exact key [] rfl
  · rw [hf]; simpa using key ('.' :: pre.reverse) (by simp)

/-- the `Coherent` hypothesis of the cache theorems follows from facts one can read off a real
system: names without dots, every object has a kind, and module-ness is a function of the
qualified name -/
theorem coherent_of_wellNamed (U : List Obj) (hn : ∀ o ∈ U, WellNamed o)
    (hk : ∀ o ∈ U, o.kindNone = false)
    (hm : ∀ a ∈ U, ∀ b ∈ U, a.fullName = b.fullName → a.isModule = b.isModule) : Coherent U := by
  intro a ha b hb hf
  refine ⟨?_, hm a ha b hb hf, by rw [hk a ha, hk b hb]⟩
  rw [← lastComp_of_wellNamed a (hn a ha), ← lastComp_of_wellNamed b (hn b hb), hf]

theorem cache_transparent_moves_wellNamed (rules : List Rule) (w : World) (es : List Event)
    (hn : ∀ o ∈ records w es, WellNamed o) (hk : ∀ o ∈ records w es, o.kindNone = false)
    (hm : ∀ a ∈ records w es, ∀ b ∈ records w es, a.fullName = b.fullName → a.isModule = b.isModule) :
    (runEvents rules w [] es).1 = pureEvents rules w es :=
  cache_transparent_moves rules w es (coherent_of_wellNamed _ hn hk hm)

/-- **Visibility.**  `ob.isVisible` is true exactly when every object on the chain
`ob, ob.parent, …` has a privacy class and none is HIDDEN, and every object on the chain below the
root is the entry of its parent's `contents` (an older definition superseded by a later one of the
same name is not visible, nor is anything inside it).  (The same iff with the cache threaded through:
`Privacy.hidden_inherits`, PdProps/C12.lean.) -/
theorem isVisible_meaning (rules : List Rule) : ∀ (chain : List Obj) (c : Cache),
    (isVisible rules c chain).1 = .ok true ↔
      (∀ r ∈ (run rules c chain).1, ∃ l, r = .ok l ∧ l ≠ .hidden) ∧
        (∀ ob ∈ chain.dropLast, ob.inContents = true) := by
  intro chain c
  fun_induction isVisible rules c chain <;> simp [run, *]

example : (isVisible [⟨.hidden, ['m']⟩] [] [⟨['m', '.', 'a'], ['a'], false, false, true⟩, ⟨['m'], ['m'], true, false, true⟩]).1
    = .ok false := by decide +kernel

/-- a member of a superseded class `m.C 0` is not visible although nothing is hidden -/
example : (isVisible [] [] [⟨['m', '.', 'C', ' ', '0', '.', 'f'], ['f'], false, false, true⟩,
    ⟨['m', '.', 'C', ' ', '0'], ['C', ' ', '0'], false, false, false⟩, ⟨['m'], ['m'], true, false, true⟩]).1
    = .ok false := by decide +kernel

theorem visPure_meaning (rules : List Rule) : ∀ (chain : List Obj),
    visPure rules chain = .ok true ↔
      (∀ ob ∈ chain, ∃ l, (privacyClass rules [] ob).1 = .ok l ∧ l ≠ .hidden) ∧
        (∀ ob ∈ chain.dropLast, ob.inContents = true) := by
  intro chain
  fun_induction visPure rules chain <;> simp [*]

/-- **"If a module/package/class is hidden, then all its members are hidden as well"**: an object
with a HIDDEN object anywhere on its parent chain is never visible, whatever its own class. -/
theorem hidden_propagates (rules : List Rule) (chain : List Obj) (a : Obj) (ha : a ∈ chain)
    (hh : (privacyClass rules [] a).1 = .ok .hidden) : visPure rules chain ≠ .ok true := by
  intro h
  obtain ⟨l, h1, h2⟩ := ((visPure_meaning rules chain).mp h).1 a ha
  cases hh.symm.trans h1
  exact h2 rfl

end Privacy
