/-
C04, re-exports, layer D — the visitor over the relocated invariant: every
statement kind, a body, `processModule`, `process`, `run` keep `Rx.PdInv`, raise nothing, and leave what
`CompleteStmt` says — the clean-run part (`bad = false`, frames, fuel) is proved in the same pass.
-/
import PdProps.C04ReexpC

namespace Imports.Rx
open Registry Imports
open Names (localName_module)

/-! ## support: what the module lookups of C04Pd and C07 need of the relocated invariant (`ModFacts`, `NoOrphan`) -/

theorem loc_len2 {proj : Project} {rank : List Nat} (wf : WFacts proj rank) (s : St) {S : Site} (hS : StaticSite proj S)
    (h2 : S.2 ≠ []) : 2 ≤ (loc proj s S).length := by
  rcases relocSite_cases proj (movedB proj s) S with h | ⟨r, hr, rest, _, _, h⟩
  · rw [show loc proj s S = _ from h]
    have h1 := List.length_pos_iff.2 (wf.parentOk S.1 hS.1).1
    have h3 := List.length_pos_iff.2 h2
    simp only [sitePath, List.length_append]; omega
  · rw [show loc proj s S = _ from h]
    have h1 := List.length_pos_iff.2 (wf.parentOk r.2.2.1 (req_stmt hr).1).1
    simp only [List.length_append, List.length_singleton]; omega

theorem PdInv.modFacts {proj : Project} {s : St} (hI : PdInv proj s) : ModFacts proj s :=
  .of (loc_mod proj s) hI.reg hI.mods hI.site

theorem nonmodule_parent {proj : Project} {rank : List Nat} (wf : WFacts proj rank) {s : St} (hI : PdInv proj s) :
    NoOrphan s.reg :=
  .of (fun _ => loc_len2 wf s) hI.site

/-! ## the two obligations carried as hypotheses (proved in layer F)

The lemmas of this layer are stated over `WFacts` and `RxFacts` alone.  `SubLookup` needs the clauses `pkgFromOk`,
`modNamesOk` and `aboveOk` of `WFr`, which neither carries; `ReparentOk` is the closed registry fact
`Registry.reparent_ok` (PdProps/C02.lean), named here so that `run_ok` lists everything it relies on besides the invariant. -/

/-- registry level: `reparent` of a child of a container onto a free name of an object that is not below it
raises nothing -/
def ReparentOk : Prop :=
  ∀ (st : State) (ob np : Nat) (nn : Name) (op : Nat) (opo : Obj) (k : Name) (pnp : Path),
    Inv st → st.objs[op]? = some opo → canContainImports opo.cls = true → dget opo.contents k = some ob →
    path st np = some pnp → dget st.all (pnp ++ [nn]) = none → ¬ Below st.objs ob np →
    ∃ st', reparent st ob np nn = .ok st'

/-- every package above an import target, other than the importing module itself, has a rank below the importer's
(since /repo 0ba6723 `getProcessedModule` enters the unprocessed packages above the module it is asked for) -/
def AboveLow (proj : Project) (rank : List Nat) : Prop :=
  ∀ (S : Site) (b : List Stmt) (st : Stmt) (t P : Nat), siteBody proj S = some b → st ∈ b →
    some t ∈ stmtTargets proj S.1 st → P < proj.length → (∃ q, q ≠ [] ∧ pathOf proj t = pathOf proj P ++ q) →
    P = S.1 ∨ rankOf rank P < rankOf rank S.1

/-- the implicit submodule lookup of `from <package> import n` (`getProcessedModule(f'{modname}.{name}')`), if it finds
an unprocessed module, finds the submodule `<package>.n` itself, of a rank below the importing module's; and `AboveLow` -/
def SubLookup (proj : Project) (rank : List Nat) : Prop :=
  (∀ (s : St), PdInv proj s → ∀ (S : Site) (b : List Stmt) (lvl : Nat) (M : Path) (n : Name) (a : Option Name) (t : Nat),
    siteBody proj S = some b → Stmt.importFrom lvl M n a ∈ b → target proj S.1 lvl M = some t → isPkg proj t = true →
    ∀ t2 c, lookupModule s (pathOf proj t ++ [n]) = (some t2, c) → getPs s t2 = .unprocessed →
      rankOf rank t2 < rankOf rank S.1 ∧ modIdx proj (pathOf proj t ++ [n]) = some t2) ∧ AboveLow proj rank

/-! ## `getProcessedModule` -/

theorem OkStep.cnt {proj : Project} {c : Option Nat} {l : List Name} {s s' : St} {k : Nat} (h : OkStep proj c l s s')
    (hk : cnt s ≤ k) : cnt s' ≤ k := Nat.le_trans (cnt_le_of_psRel h.ext.ps) hk

/-- one nesting level of `processModule`: on states with at most `k` unprocessed modules, entered for a module
whose rank is below that of every module being processed.  `k` is the fuel of `processModule`: each entry takes one
module out of `unprocessed` (`cnt_start`), so `cnt s ≤ k` never runs out (`cnt_pos` at fuel 0). -/
def PmOk (proj : Project) (rank : List Nat) (pm : St → Nat → St) (k : Nat) : Prop :=
  ∀ s t, s.bad = false → PdInv proj s → t < proj.length → getPs s t = .unprocessed → cnt s ≤ k →
    (∀ u, getPs s u = .processing → rankOf rank t < rankOf rank u) →
    (pm s t).bad = false ∧ PdInv proj (pm s t) ∧ Ext proj s (pm s t) ∧ getPs (pm s t) t = .processed ∧
    FrameX proj none [] s (pm s t)

/-- module `t` may be entered from `s`: if it is still unprocessed, its rank is below that of every module being
processed — what `PmOk` asks of the module it is called for -/
def MayEnter (rank : List Nat) (s : St) (t : Nat) : Prop :=
  getPs s t = .unprocessed → ∀ u, getPs s u = .processing → rankOf rank t < rankOf rank u

theorem MayEnter.later {rank : List Nat} {s s' : St} {t : Nat} (h : MayEnter rank s t) (hp : PsRel s s') :
    MayEnter rank s' t :=
  fun hu u hu' => h (psRel_unproc hp hu) u (psRel_processing hp hu')

theorem Ctx.mayEnter {proj : Project} {rank : List Nat} {s : St} {mod ctx : Nat} {S : Site} {full : List Stmt}
    (hc : Ctx proj rank s mod ctx S full) {t : Nat} (h : getPs s t = .unprocessed → rankOf rank t < rankOf rank mod) :
    MayEnter rank s t :=
  fun hu u hu' => Nat.lt_of_lt_of_le (h hu) (hc.low u hu')

theorem modulesAbove_prefix {st : State} : ∀ (f i : Nat) (pi : Path), path st i = some pi → ∀ P ∈ modulesAbove st f i,
    ∃ pp q, path st P = some pp ∧ pi = pp ++ q := by
  intro f i
  fun_induction modulesAbove st f i with
  | case1 => exact fun _ _ _ h => nomatch h
  | case2 f i par hb hm ih =>
    intro pi hp P h
    obtain ⟨o, hgo, hpar⟩ := Option.bind_eq_some_iff.1 hb
    obtain ⟨pq, hpq, e⟩ := (path_sound hp).child_inv hgo hpar
    rcases List.mem_cons.1 h with h | h
    · subst h; exact ⟨pq, [o.name], path_iff.2 hpq, e⟩
    · obtain ⟨pp, q, h1, h3⟩ := ih pq (path_iff.2 hpq) P h
      exact ⟨pp, q ++ [o.name], h1, by rw [e, h3]; simp⟩
  | case3 => exact fun _ _ _ h => nomatch h
  | case4 => exact fun _ _ _ h => nomatch h

theorem PmOk.enter {proj : Project} {rank : List Nat} (wf : WFacts proj rank) {pm : St → Nat → St} {k : Nat}
    (hpm : PmOk proj rank pm k) :
    Enter proj pm (fun s => s.bad = false ∧ PdInv proj s ∧ cnt s ≤ k) (OkStep proj none []) (MayEnter rank) where
  refl hV := .refl hV.1 hV.2.1
  trans h1 h2 := h1.trans h2
  valid hV h := ⟨h.bad, h.inv, h.cnt hV.2.2⟩
  ps h := h.ext.ps
  later h hL := hL.later h.ext.ps
  facts hV := ⟨hV.2.1.modFacts, nonmodule_parent wf hV.2.1⟩
  enter hV ht hu hL :=
    have ⟨hb1, hI1, he1, hdone, hf1⟩ := hpm _ _ hV.1 hV.2.1 ht hu hV.2.2 (hL hu)
    ⟨⟨hb1, hI1, he1, hf1⟩, hdone⟩

/-- `getProcessedModule` (`Enter.gpm`) with its licences asked for by name (`hrk`): for the module found (`q = []`) and the
packages above it -/
theorem gpm_ok {proj : Project} {rank : List Nat} (wf : WFacts proj rank) {pm : St → Nat → St} {k : Nat}
    (hpm : PmOk proj rank pm k) {s : St} {T : Path} (hI : PdInv proj s) (hb : s.bad = false) (hk : cnt s ≤ k)
    (hrk : ∀ t c, lookupModule s T = (some t, c) → getPs s t = .unprocessed →
      ∀ P q, P < proj.length → pathOf proj t = pathOf proj P ++ q → MayEnter rank s P) :
    OkStep proj none [] s (getProcessedModule pm s T).1 ∧
    ∀ t, (getProcessedModule pm s T).2 = some t → t < proj.length ∧ (∀ t', modIdx proj T = some t' → t = t') ∧
      getPs (getProcessedModule pm s T).1 t ≠ .unprocessed ∧
      (getPs s t ≠ .processing → getPs (getProcessedModule pm s T).1 t = .processed) :=
  (hpm.enter wf).gpm ⟨hb, hI, hk⟩
    (fun t c hl hu => hrk t c hl hu t [] (lookupModule_spec hI.modFacts hl).1 (List.append_nil _).symm hu)
    fun t c hl hun P hP => by
      have hPl := modulesAbove_lt hI.modFacts _ _ P hP
      obtain ⟨_, _, hpt, _⟩ := hI.mods t (lookupModule_spec hI.modFacts hl).1
      obtain ⟨pp, q, hpp, he⟩ := modulesAbove_prefix _ _ _ hpt P hP
      obtain ⟨_, _, hpP, _⟩ := hI.mods P hPl
      rw [hpP] at hpp; injection hpp with hpp; subst hpp
      exact hrk t _ hl hun P q hPl he

/-- a module whose name is a prefix of the name of a module `t` that the statement being visited imports may be entered:
it is `t` itself, whose rank is below the importer's, or a package above it (`AboveLow`) -/
theorem prefix_mayEnter {proj : Project} {rank : List Nat} (wf : WFacts proj rank) (hsl : SubLookup proj rank) {s : St}
    {mod ctx : Nat} {S : Site} {full : List Stmt} (hc : Ctx proj rank s mod ctx S full) {st : Stmt} (hst : st ∈ full)
    {t : Nat} (htg : some t ∈ stmtTargets proj S.1 st) (htl : t < proj.length) {P : Nat} (hPl : P < proj.length)
    {q : Path} (he : pathOf proj t = pathOf proj P ++ q) : MayEnter rank s P := by
  obtain rfl := hc.hS1
  refine hc.mayEnter fun hPu => ?_
  by_cases hq : q = []
  · subst hq
    obtain ⟨t', e, hrk⟩ := wf.targets hc.body hst (some t) htg
    obtain rfl := Option.some.inj e
    have : P = t := Option.some.inj
      ((modIdx_of_path wf.modNodup hPl).symm.trans (by rw [← List.append_nil (pathOf proj P), ← he]; exact modIdx_of_path wf.modNodup htl))
    exact this ▸ hrk
  · rcases hsl.2 S full st t P hc.body hst htg hPl ⟨q, hq, he⟩ with h | h
    · rw [h, hc.ps] at hPu; cases hPu
    · exact h

/-- a module of the project is found by `lookupModule` under its own name -/
theorem lookupModule_mod {proj : Project} {s : St} (hI : ModFacts proj s) {T : Path} {t : Nat}
    (hm : modIdx proj T = some t) : ∃ c, lookupModule s T = (some t, c) := by
  obtain ⟨hlt, hp⟩ := modIdx_spec hm
  obtain ⟨_, _, hpm, _⟩ := hI.mods t hlt
  have hreg : Names.objFor (envOf s) T = some t := dget_of_path hI.reg (hp ▸ hpm)
  unfold lookupModule
  simp only [hreg, hI.isModule hlt, if_true]
  exact ⟨_, rfl⟩

theorem gpm_snd {proj : Project} {s : St} (hI : ModFacts proj s) {pm : St → Nat → St} {T : Path} {t : Nat}
    (hm : modIdx proj T = some t) : (getProcessedModule pm s T).2 = some t := by
  obtain ⟨c, hl⟩ := lookupModule_mod hI hm
  unfold getProcessedModule
  rw [hl]

/-- `getProcessedModule` for a module `t0` whose name is a prefix of the name of a module `t` that the statement being
visited imports: it and the packages above it may be entered -/
theorem gpm_prefix {proj : Project} {rank : List Nat} (wf : WFacts proj rank) (hsl : SubLookup proj rank)
    {pm : St → Nat → St} {k : Nat} (hpm : PmOk proj rank pm k) {s : St} (hI : PdInv proj s) {mod ctx : Nat} {S : Site}
    {full : List Stmt} (hc : Ctx proj rank s mod ctx S full) {st : Stmt} (hst : st ∈ full) {t : Nat}
    (htg : some t ∈ stmtTargets proj S.1 st) (htl : t < proj.length) {T : Path} {t0 : Nat} (hmt : modIdx proj T = some t0)
    {q0 : Path} (hpre : pathOf proj t = pathOf proj t0 ++ q0) (hb : s.bad = false) (hk : cnt s ≤ k) :
    OkStep proj none [] s (getProcessedModule pm s T).1 ∧ (getProcessedModule pm s T).2 = some t0 ∧
    (getPs s t0 ≠ .processing → getPs (getProcessedModule pm s T).1 t0 = .processed) := by
  have hsnd := gpm_snd (pm := pm) hI.modFacts hmt
  obtain ⟨h1, hres⟩ := gpm_ok wf hpm hI hb hk fun t1 c hl _ P q hPl he => by
    have := (lookupModule_spec hI.modFacts hl).2 t0 hmt; subst this
    exact prefix_mayEnter wf hsl hc hst htg htl hPl (q := q ++ q0) (by rw [hpre, he]; simp)
  exact ⟨h1, hsnd, (hres t0 hsnd).2.2.2⟩

theorem prefixesOf_spec : ∀ {tp p : Path}, p ∈ prefixesOf tp → p ≠ [] ∧ ∃ q, tp = p ++ q
  | [], _, h => by simp [prefixesOf] at h
  | x :: r, p, h => by
    simp only [prefixesOf, List.mem_cons, List.mem_map] at h
    rcases h with h | ⟨p', hp', rfl⟩
    · subst h; exact ⟨by simp, r, rfl⟩
    · obtain ⟨_, q, hq⟩ := prefixesOf_spec hp'
      exact ⟨by simp, q, by rw [hq]; rfl⟩

theorem OkStep.foldl {proj : Project} {rank : List Nat} {k mod ctx : Nat} {S : Site} {full : List Stmt} {α : Type}
    {f : St → α → St} {c : Option Nat} {P : St → α → Prop} (hP : ∀ s s' a, Ext proj s s' → P s a → P s' a)
    (hstep : ∀ s a, PdInv proj s → Ctx proj rank s mod ctx S full → s.bad = false → Imports.cnt s ≤ k → P s a →
      OkStep proj c [] s (f s a)) :
    ∀ (l : List α) (s : St), PdInv proj s → Ctx proj rank s mod ctx S full → s.bad = false → Imports.cnt s ≤ k →
      (∀ a ∈ l, P s a) → OkStep proj c [] s (l.foldl f s)
  | [], _, hI, _, hb, _, _ => .refl hb hI
  | a :: r, s, hI, hc, hb, hk, hl =>
    have h1 := hstep s a hI hc hb hk (hl a List.mem_cons_self)
    h1.trans (OkStep.foldl hP hstep r _ h1.inv (hc.ext hI h1.inv h1.ext) h1.bad (h1.cnt hk)
      fun x hx => hP _ _ x h1.ext (hl x (List.mem_cons_of_mem _ hx)))

/-- one round of `importProcess`: `getProcessedModule` for a prefix of the imported name -/
theorem importProcess_ok {proj : Project} {rank : List Nat} (wf : WFacts proj rank) (hsl : SubLookup proj rank)
    {pm : St → Nat → St} {k : Nat} (hpm : PmOk proj rank pm k) {mod ctx : Nat} {S : Site} {full : List Stmt}
    {tp : Path} {a : Option Name} (hst : Stmt.importMod tp a ∈ full) {s : St} (hI : PdInv proj s)
    (hc : Ctx proj rank s mod ctx S full) (hb : s.bad = false) (hk : cnt s ≤ k) {p : Path}
    (hp : p ≠ [] ∧ ∃ q, tp = p ++ q) : OkStep proj none [] s (getProcessedModule pm s p).1 := by
  obtain ⟨t, ht, _⟩ := wf.targets hc.body hst (modIdx proj tp) (by simp [stmtTargets])
  obtain ⟨htl, hpt⟩ := modIdx_spec ht
  have htg : some t ∈ stmtTargets proj S.1 (.importMod tp a) := by simp [stmtTargets, ht]
  obtain ⟨hpne, q, hq⟩ := hp
  -- the module the prefix names
  obtain ⟨tq, htq⟩ : ∃ tq, modIdx proj p = some tq := by
    by_cases hq0 : q = []
    · subst hq0; simp only [List.append_nil] at hq; exact ⟨t, hq ▸ ht⟩
    · obtain ⟨tq, h1, _⟩ := mod_path_prefix wf q.length t p q rfl htl (by rw [hpt, hq]) hpne hq0
      exact ⟨tq, h1⟩
  obtain ⟨_, hptq⟩ := modIdx_spec htq
  exact (gpm_prefix wf hsl hpm hI hc hst htg htl htq (by rw [hpt, hptq, hq]) hb hk).1

/-! ## `import` -/

theorem visitImport_ok {proj : Project} {rank : List Nat} (wf : WFacts proj rank) (rx : RxFacts proj) {s : St}
    (hI : PdInv proj s) {mod ctx : Nat} {S : Site} {full : List Stmt} (hc : Ctx proj rank s mod ctx S full)
    {t : Path} {a : Option Name} (hst : Stmt.importMod t a ∈ full) (hb : s.bad = false) :
    OkStep proj (some ctx) [] s (visitImport ctx t a s) ∧
    CompleteStmt proj (visitImport ctx t a s) S ctx (.importMod t a) := by
  fun_cases visitImport ctx t a s
  case case1 x =>
    obtain ⟨h1, h3⟩ := setAlias_ok wf rx hI hc hst rfl (stmtNames_of_explicit (by simp [explicitNames]))
      (JpdR.base (Jpd.importAs hc.body hst)) hb []
    exact ⟨h1, by simpa [CompleteStmt, explicitNames] using h3⟩
  case case2 => exact ⟨.refl hb hI, by simp [CompleteStmt, explicitNames]⟩
  case case3 h r =>
    obtain ⟨h1, h3⟩ := setAlias_ok wf rx hI hc hst rfl (stmtNames_of_explicit (by simp [explicitNames]))
      (JpdR.base (Jpd.importTop hc.body hst)) hb []
    exact ⟨h1, by simpa [CompleteStmt, explicitNames] using h3⟩

/-! ## reading `CompleteStmts` -/

theorem CompleteStmts.mem {proj : Project} {s : St} {S : Site} {ctx : Nat} : ∀ {body : List Stmt} {st : Stmt},
    CompleteStmts proj s S ctx body → st ∈ body → CompleteStmt proj s S ctx st
  | [], _, _, h => by cases h
  | x :: xs, st, hc, h => by
    rcases List.mem_cons.1 h with rfl | h'
    · exact hc.1
    · exact CompleteStmts.mem hc.2 h'

theorem complete_entry {proj : Project} {s : St} {S : Site} {ctx : Nat} {st : Stmt} {x : Name}
    (hc : CompleteStmt proj s S ctx st) (hx : x ∈ explicitNames st) : HasEntry s ctx x := by
  cases st with
  | classDef n _ _ | importFrom _ _ n _ =>
    obtain rfl := List.mem_singleton.1 hx
    exact hc.1
  | funcDef n | assign n _ =>
    obtain rfl := List.mem_singleton.1 hx
    exact hc
  | importMod t a => exact hc x hx
  | importStar _ _ | allAssign _ => cases hx

/-! ## the re-exporting `from … import` -/

/-- what the module being visited exports -/
theorem exports_eq {proj : Project} {rank : List Nat} {s : St} {mod : Nat} {full : List Stmt}
    (hI : PdInv proj s) (hc : Ctx proj rank s mod mod (mod, []) full) :
    currentExports s mod = (lastAll (bodyOf proj mod)).getD [] := by
  rw [hc.plain.exports, hI.alls mod hc.hmod, hc.ps]; simp

theorem Ctx.atModule {proj : Project} {rank : List Nat} (rx : RxFacts proj) {s : St} {mod ctx : Nat} {S : Site}
    {full : List Stmt} (hc : Ctx proj rank s mod ctx S full) {st : Stmt} (hst : st ∈ full) (hi : isImportStmt st = true) :
    S = (mod, []) ∧ mod = ctx := by
  have hS2 : S.2 = [] := Decidable.by_contra fun h => by rw [rx.noClsImp hc.body hst h] at hi; cases hi
  exact ⟨Prod.ext hc.hS1 hS2, (hc.ctxmod hS2).symm⟩

theorem exported_iff_req {proj : Project} {rank : List Nat} {s : St} {mod : Nat} {full : List Stmt}
    (hI : PdInv proj s) (hc : Ctx proj rank s mod mod (mod, []) full) {lvl : Nat} {M : Path} {n : Name} {a : Option Name}
    (hst : Stmt.importFrom lvl M n a ∈ full) {t : Nat} (ht : target proj mod lvl M = some t) :
    (currentExports s mod).contains (a.getD n) = true ↔ ((t, n, mod, a.getD n) : Req) ∈ reexportReqs proj := by
  obtain rfl := siteBody_mod hc.body
  rw [exports_eq hI hc]
  constructor
  · intro hcx
    cases hl : lastAll (bodyOf proj mod) with
    | none => simp [hl] at hcx
    | some ex => exact mem_reqs hc.hmod hl hst (by simpa [hl] using hcx) ht
  · intro hr
    obtain ⟨_, ex, _, _, _, hl, _, _, hcx, _⟩ := reqs_of_mem hr
    simp only at hl hcx
    simp only [hl, Option.getD_some]; exact hcx

/-- a module is not below a definition of a plain module -/
theorem module_not_below {proj : Project} {rank : List Nat} (wf : WFacts proj rank) {s : St} (hI : PdInv proj s)
    {d x ob : Nat} {n : Name} (hd : d < proj.length) (hx : x < proj.length) (hplain : isPkg proj d = false)
    (hob : path s.reg ob = some (pathOf proj d ++ [n])) : ¬ Below s.reg.objs ob x := by
  intro hb
  obtain ⟨_, _, hpx, _⟩ := hI.mods x hx
  obtain ⟨rest, he⟩ := hb.path_prefix (path_sound hob) (path_sound hpx)
  exact plain_no_submodule wf hd hplain hx (q := n :: rest) (by simp) (by rw [he]; simp)

/-- `_handleReExport` for a request of the project, visited in the re-exporter while the definer is
processed and the new name has no entry yet: the move happens -/
theorem reexport_move {proj : Project} {rank : List Nat} (wf : WFacts proj rank) (rx : RxFacts proj) (hro : ReparentOk)
    {pm : St → Nat → St} {s : St} (hI : PdInv proj s) (hb : s.bad = false) {d x : Nat} {n a : Name}
    (hr : ((d, n, x, a) : Req) ∈ reexportReqs proj) (hxp : getPs s x = .processing) (hdp : getPs s d = .processed)
    (hpend : ∀ o, s.reg.objs[x]? = some o → dget o.contents a = none) {ex : List Name} (hex : ex.contains a = true) :
    (handleReExport pm s x ex n a d).2 = true ∧ OkStep proj (some x) [a] s (handleReExport pm s x ex n a d).1 ∧
    movedB proj (handleReExport pm s x ex n a d).1 (d, n, x, a) = true ∧ HasEntry (handleReExport pm s x ex n a d).1 x a := by
  have hdl : d < proj.length := req_definer_lt hr
  have hxl : x < proj.length := (req_stmt hr).1
  obtain ⟨hdx, hplain, hdef, hnl, hns⟩ := rx.reqOk _ hr
  simp only at hdx hplain hdef hnl hns
  obtain ⟨od, hod, hpd, hcld⟩ := hI.mods d hdl
  obtain ⟨ox, hox, hpx, _⟩ := hI.mods x hxl
  have hxc := hpend ox hox
  -- not moved yet: otherwise the re-exporter would hold the entry already
  have hnm : movedB proj s (d, n, x, a) = false := Bool.eq_false_iff.2 fun hm => by
    obtain ⟨o, c, ho, hc⟩ := hI.movedIn _ hr hm
    cases (hpend o ho).symm.trans hc
  -- the definer holds the definition
  obtain ⟨st0, hst0, hd0, c0, hk0, _⟩ := definesTop_spec hdef
  obtain ⟨od', hod', hent⟩ := complete_entry ((hI.complete_body hdl hdp).mem hst0) (defName_explicit hd0)
  rw [hod] at hod'; injection hod' with hod'; subst hod'
  have hdc : ∃ ob, dget od.contents n = some ob := by
    cases hc : dget od.contents n with
    | some ob => exact ⟨ob, rfl⟩
    | none =>
      exfalso
      rcases hent with h | h
      · exact h hc
      · cases ha : dget od.aliases n with
        | none => exact h ha
        | some tgt =>
          have hj := hI.alias d od (d, []) hod (by rw [loc_mod]; exact hpd) ⟨hdl, Or.inl rfl⟩ n tgt ha
          rcases jpdR_inv wf rx hj with ⟨b, st, hb', hst, hxs, hD⟩ | ⟨r, hr', hS, hx', ht⟩
          · exact import_name_not_req wf rx hb' hst hxs hD.defName _ hr rfl rfl rfl
          · injection hS with e1 _
            have := rx.same hr' hr e1.symm hx'.symm
            subst this
            have : movedB proj s (d, n, x, a) = true := by
              unfold movedB; simp only [hod, ha, ht, beq_self_eq_true]
            rw [hnm] at this; cases this
  obtain ⟨ob, hdc⟩ := hdc
  have hA : path s.reg ob = some (pathOf proj d ++ [n]) := path_child hI.reg hod hdc hpd
  -- the candidate, not blocked, not listed by the definer
  have hcand : reexportCandidate s n d = some ob := by
    unfold reexportCandidate
    have : getObj s.reg d = some od := hod
    simp only [this, hdc]
  have hmo : isModuleObj s.reg ob = false := by
    cases hm : isModuleObj s.reg ob with
    | false => rfl
    | true =>
      have hlt := hI.modFacts.modobj hm
      exact absurd Below.refl (module_not_below wf hI hdl hlt hplain hA)
  have hnb : moveBlocked s x ob = false := by
    unfold moveBlocked
    simp [hmo]
  -- the candidate sits directly in the definer, a module
  have hml : notModuleLevel s ob = false := by
    obtain ⟨co, hco, hcp, _⟩ := hI.reg.tree.coh d od n ob hod (mem_of_dget hdc)
    have hgo : getObj s.reg ob = some co := hco
    unfold notModuleLevel
    simp [hgo, hcp, hI.modFacts.isModule hdl]
  have hnl' : listedIn s d n = false := by
    unfold listedIn
    rw [hI.alls d hdl, hdp]
    simp only [reduceCtorEq, if_false]
    cases hl : lastAll (bodyOf proj d) with
    | none => rfl
    | some l => simp only [hl, Option.getD_some] at hnl; exact hnl
  have hne : (!ex.contains a) = false := by rw [hex]; rfl
  have hre : handleReExport pm s x ex n a d = doMove s x ob a := by
    unfold handleReExport processBeforeMove
    simp only [hne, Bool.false_eq_true, if_false, hcand, hnb, hml, hnl', hmo]
  rw [hre]
  -- `reparent` raises nothing
  have hfree : dget s.reg.all (pathOf proj x ++ [a]) = none :=
    fresh_of_not_content hI.reg hox hpx hns hxc
  have hcc : canContainImports od.cls = true := by
    rw [hcld]; unfold modCls; split <;> rfl
  obtain ⟨r', hrp⟩ := hro s.reg ob x a d od n (pathOf proj x) hI.reg hod hcc hdc hpx hfree
    (module_not_below wf hI hdl hxl hplain hA)
  have hbm : (doMove s x ob a).1.bad = false := by
    unfold doMove
    simp only [hpx, hfree, hrp, hb, Bool.or_false]
  obtain ⟨h1, h2, h3, h4, h5, _, _, _, h9⟩ := doMove_ok wf rx hI hr hnm hdp hxp hod hdc hox hxc hns hbm
  exact ⟨h1, ⟨hbm, h2, h3, h9⟩, h4, h5⟩

theorem Ctx.pending {proj : Project} {rank : List Nat} {s s' : St} {mod ctx : Nat} {S : Site} {full : List Stmt}
    (hc : Ctx proj rank s mod ctx S full) (hI : PdInv proj s) {c : Option Nat} {l : List Name} (hf : FrameX proj c l s s')
    {nm : Name} (hn : nm ∉ l) (hp : ∀ o, s.reg.objs[ctx]? = some o → dget o.contents nm = none) :
    ∀ o, s'.reg.objs[ctx]? = some o → dget o.contents nm = none := by
  intro o' ho'
  obtain ⟨o, ho, _⟩ := hc.clsc
  obtain ⟨o1, ho1, k1⟩ := hf ctx o ho (hc.plain.prot hI.modFacts)
  rw [ho'] at ho1; injection ho1 with ho1; subst ho1
  exact k1 nm (fun _ => hn) (hp o ho)

theorem visitImportFrom_ok {proj : Project} {rank : List Nat} (wf : WFacts proj rank) (rx : RxFacts proj)
    (hro : ReparentOk) (hsl : SubLookup proj rank) {pm : St → Nat → St} {k : Nat} (hpm : PmOk proj rank pm k) {s : St}
    (hI : PdInv proj s) {mod ctx : Nat} {S : Site} {full : List Stmt} (hc : Ctx proj rank s mod ctx S full)
    {lvl : Nat} {M : Path} {n : Name} {a : Option Name} (hst : Stmt.importFrom lvl M n a ∈ full)
    (hb : s.bad = false) (hk : cnt s ≤ k)
    (hpend : ∀ o, s.reg.objs[ctx]? = some o → dget o.contents (a.getD n) = none) :
    OkStep proj (some ctx) [a.getD n] s (visitImportFrom pm mod ctx lvl M n a s) ∧
    CompleteStmt proj (visitImportFrom pm mod ctx lvl M n a s) S ctx (.importFrom lvl M n a) := by
  obtain ⟨rfl, rfl⟩ := hc.atModule rx hst rfl
  obtain ⟨t, ht, hrkt⟩ := wf.targets hc.body hst (target proj mod lvl M) (by simp [stmtTargets])
  obtain ⟨T, hT, hmt⟩ := Option.bind_eq_some_iff.1 ((target_eq ..).symm.trans ht)
  obtain ⟨htl, hpt⟩ := modIdx_spec hmt
  have hjust : JpdR proj (mod, []) (a.getD n) (T ++ [n]) := JpdR.base (Jpd.from hc.body hst hT)
  unfold visitImportFrom
  simp only [absName_eq hI.modFacts hc.hmod, hT]
  -- the module the statement names is entered (if need be): its rank is below that of `mod`
  have htg : some t ∈ stmtTargets proj mod (.importFrom lvl M n a) := by simp [stmtTargets, ht]
  obtain ⟨h1, hsnd, hproc1⟩ :=
    gpm_prefix wf hsl hpm hI hc hst htg htl hmt (q0 := []) (by simp) hb hk
  simp only [hsnd]
  have htp : getPs (getProcessedModule pm s T).1 t = .processed :=
    hproc1 fun hp => Nat.lt_irrefl _ (Nat.lt_of_lt_of_le hrkt (hc.low t hp))
  have hk1 := h1.cnt hk
  obtain ⟨hb1, hI1, he1, hf1⟩ := h1
  have hc1 := hc.ext hI hI1 he1
  generalize hs1 : (getProcessedModule pm s T).1 = s1 at hb1 hI1 he1 hf1 htp hc1 hk1 ⊢
  -- the submodule of a package
  generalize hs2 : (if isPkgObj s1.reg t = true then (getProcessedModule pm s1 (T ++ [n])).1 else s1) = s2
  have h2 : OkStep proj none [] s1 s2 := by
    rw [← hs2]
    by_cases hpk : isPkgObj s1.reg t = true
    · simp only [hpk, if_true]
      have hpk' : isPkg proj t = true := by rw [← isPkgObj_mod hI1.modFacts htl]; exact hpk
      have hrk2 : ∀ t0 c, lookupModule s1 (T ++ [n]) = (some t0, c) → getPs s1 t0 = .unprocessed →
          ∀ P q, P < proj.length → pathOf proj t0 = pathOf proj P ++ q → MayEnter rank s1 P := by
        intro t0 c hl hu0 P q hPl he
        obtain ⟨hr0, hmc⟩ := hsl.1 s1 hI1 (mod, []) full lvl M n a t hc.body hst ht hpk' t0 c (by rw [hpt]; exact hl) hu0
        rw [(modIdx_spec hmc).2] at he
        rcases List.eq_nil_or_concat q with hq0 | ⟨q', x, hqx⟩
        · -- `P` is the submodule itself
          rw [hq0, List.append_nil] at he
          have := modIdx_of_path wf.modNodup hPl
          rw [← he, hmc] at this
          exact hc1.mayEnter fun _ => Option.some.inj this ▸ hr0
        · -- `pathOf t ++ [n] = pathOf P ++ q' ++ [x]`: the name of `P` is a prefix of the name of `t`
          subst hqx
          have he' : pathOf proj t ++ [n] = (pathOf proj P ++ q') ++ [x] := by rw [he]; simp
          exact prefix_mayEnter wf hsl hc1 hst htg htl hPl (List.append_inj' he' rfl).1
      exact (gpm_ok wf hpm hI1 hb1 hk1 hrk2).1
    · simp only [hpk]
      exact .refl hb1 hI1
  have h02 : OkStep proj (some mod) [] s s2 := (OkStep.trans ⟨hb1, hI1, he1, hf1⟩ h2).weaken
  obtain ⟨hb2, hI2, he2, _⟩ := h2
  have hc2 := hc1.ext hI1 hI2 he2
  by_cases hcx : (currentExports s1 mod).contains (a.getD n) = true
  · -- the name is exported: the statement is a request, the object is moved here
    have hr := (exported_iff_req hI1 hc1 hst ht).1 hcx
    obtain ⟨m1, m2, m5, m6⟩ := reexport_move (pm := pm) wf rx hro hI2 hb2 hr hc2.ps ((he2.ps t).2.1 htp)
      (hc.pending hI h02.frame List.not_mem_nil hpend) hcx
    simp only [m1, if_true]
    refine ⟨h02.trans m2, m6, fun d _ htd _ => ?_⟩
    rw [ht] at htd; obtain rfl := Option.some.inj htd
    exact m5
  · -- not exported: an alias
    rw [hre_noop (by simpa using hcx)]
    simp only [Bool.false_eq_true, if_false]
    obtain ⟨h3, hent⟩ := setAlias_ok wf rx hI2 hc2 hst rfl
      (stmtNames_of_explicit (by simp [explicitNames])) hjust hb2 [a.getD n]
    refine ⟨h02.trans h3, hent, fun d _ htd hrd => ?_⟩
    rw [ht] at htd; obtain rfl := Option.some.inj htd
    exact absurd ((exported_iff_req hI1 hc1 hst ht).2 hrd) hcx

/-! ## `from … import *` -/

theorem starOne_ok {proj : Project} {rank : List Nat} (wf : WFacts proj rank) (rx : RxFacts proj)
    {pm : St → Nat → St} {s : St} (hI : PdInv proj s) {mod ctx : Nat} {S : Site} {full : List Stmt} (hc : Ctx proj rank s mod ctx S full)
    {lvl : Nat} {M T : Path} (hst : Stmt.importStar lvl M ∈ full) (hT : pdAbsName proj S.1 lvl M = some T)
    {t : Nat} (ht : t < proj.length) (hu : ∀ t', modIdx proj T = some t' → t = t') {x : Name}
    (hx : starOk proj t x ∧ (x ∈ allNames (bodyOf proj t) ∨ HasEntry s t x)) (hb : s.bad = false) :
    OkStep proj (some ctx) [] s (starOne pm ctx t [] s x) := by
  unfold starOne
  rw [hre_noop (by simp)]
  simp only [Bool.false_eq_true, if_false]
  obtain ⟨o, ho, hpt, hcl⟩ := hI.mods t ht
  have hmo : isModuleCls o.cls = true := hcl ▸ isModuleCls_modCls proj t
  have hl := localName_module (e := envOf s) (t := t) (o := o) ho hmo x
  rw [Names.expand_single_local, hl]
  -- whatever alias is written, the star statement binds the name
  have hfin : ∀ (p : Path), JpdR proj S x p →
      (x ∈ allNames (bodyOf proj t) ∨ (starOk proj t x ∧ x ∈ modNames proj (rankOf rank t + 1) t)) →
      OkStep proj (some ctx) [] s (setAlias s ctx x p) :=
    fun p hj hxs => (setAlias_ok wf rx hI hc hst rfl (star_mem wf hc.body hst hT hu hxs).2.2 hj hb []).1
  cases hdc : dget o.contents x with
  | some c =>
    simp only
    have hpc := path_child hI.reg ho hdc hpt
    have hpc' : path (envOf s).st c = some (pathOf proj t ++ [x]) := hpc
    rw [hpc']
    simp only
    rcases or_assoc.2 (hI.cont t o ht ho x c hdc) with h | ⟨r, hr, h1, h2, _⟩
    · exact hfin _ (JpdR.base (Jpd.starChild hc.body hst hT hu hx.1 h)) (Or.inr ⟨hx.1, modNames_of_content h⟩)
    · exact hfin _ (JpdR.starMoved hc.body hst hT hu hx.1 hr h1 h2)
        (Or.inr ⟨hx.1, by rw [← h1, ← h2]; exact req_in_modNames hr⟩)
  | none =>
    simp only
    cases hda : dget o.aliases x with
    | some tg =>
      simp only
      have hj : JpdR proj (t, []) x tg :=
        hI.alias t o (t, []) ho (by rw [loc_mod]; exact hpt) ⟨ht, Or.inl rfl⟩ x tg hda
      obtain ⟨st', hst', hx'⟩ := jpdR_names wf rx hj _ (siteBody_zero ht)
      exact hfin _ (JpdR.starAlias hc.body hst hT hu hx.1 hj)
        (Or.inr ⟨hx.1, modNames_of_stmt (siteBody_zero ht) hst' hx'⟩)
    | none =>
      simp only
      have hxa : x ∈ allNames (bodyOf proj t) := by
        rcases hx.2 with h | ⟨o', ho', he⟩
        · exact h
        · rw [ho] at ho'; injection ho' with ho'; subst ho'
          rcases he with he | he
          · exact absurd hdc he
          · exact absurd hda he
      exact hfin _ (JpdR.base (Jpd.starNone hc.body hst hT hu hxa)) (Or.inl hxa)

theorem visitImportStar_ok {proj : Project} {rank : List Nat} (wf : WFacts proj rank) (rx : RxFacts proj)
    (hsl : SubLookup proj rank) {pm : St → Nat → St} {k : Nat} (hpm : PmOk proj rank pm k) {s : St}
    (hI : PdInv proj s) {mod ctx : Nat} {S : Site} {full : List Stmt} (hc : Ctx proj rank s mod ctx S full)
    {lvl : Nat} {M : Path} (hst : Stmt.importStar lvl M ∈ full) (hb : s.bad = false) (hk : cnt s ≤ k) :
    OkStep proj (some ctx) [] s (visitImportStar pm mod ctx lvl M s) := by
  obtain ⟨rfl, rfl⟩ := hc.atModule rx hst rfl
  obtain ⟨t, ht, _⟩ := wf.targets hc.body hst (target proj mod lvl M) (by simp [stmtTargets])
  obtain ⟨T, hT, hmt⟩ := Option.bind_eq_some_iff.1 ((target_eq ..).symm.trans ht)
  unfold visitImportStar
  simp only [absName_eq hI.modFacts hc.hmod, hT]
  have htg : some t ∈ stmtTargets proj mod (.importStar lvl M) := by simp [stmtTargets, ht]
  have htl := (modIdx_spec hmt).1
  obtain ⟨h1, hsnd, _⟩ := gpm_prefix wf hsl hpm hI hc hst htg htl hmt (q0 := []) (by simp) hb hk
  have hI1 := h1.inv
  simp only [hsnd]
  have hu : ∀ t', modIdx proj T = some t' → t = t' := fun t' h => by rw [hmt] at h; exact Option.some.inj h
  have hc1 := hc.ext hI hI1 h1.ext
  -- nothing is exported: a module with a star import has no `__all__`
  rw [exports_eq hI1 hc1, rx.noStarAll hc.body hst, Option.getD_none]
  have hnames : ∀ x ∈ starNames (getProcessedModule pm s T).1 t,
      starOk proj t x ∧ (x ∈ allNames (bodyOf proj t) ∨ HasEntry (getProcessedModule pm s T).1 t x) :=
    fun x hx => (mem_starNames hx).elim
      (fun ⟨l, hg, hl⟩ => by
        have hg' := hI1.alls t htl
        rw [hg] at hg'
        split at hg'
        · cases hg'
        · have := lastAll_sub _ l hg'.symm x hl
          exact ⟨Or.inl this, Or.inl this⟩)
      fun ⟨hpub, he⟩ => ⟨Or.inr hpub, Or.inr he⟩
  -- the scope is named: `hT` would leave `?S.1 = mod` to be solved
  exact (h1.weaken (l := [])).trans (OkStep.foldl (S := (mod, []))
    (P := fun s x => starOk proj t x ∧ (x ∈ allNames (bodyOf proj t) ∨ HasEntry s t x))
    (fun _ _ _ he h => h.imp id (Or.imp id (hasEntry_ext he)))
    (fun _ _ hI hc hb _ hx => starOne_ok (pm := pm) wf rx hI hc hst hT htl hu hx hb) _ _ hI1 hc1 h1.bad (h1.cnt hk) hnames)

/-! ## steps that leave the registry alone -/

theorem movedB_reg {proj : Project} {s s' : St} (h : s'.reg = s.reg) (r : Req) : movedB proj s' r = movedB proj s r := by
  unfold movedB; rw [h]

theorem loc_reg {proj : Project} {s s' : St} (h : s'.reg = s.reg) (S : Site) : loc proj s' S = loc proj s S :=
  loc_congr (fun r _ => movedB_reg h r) S

theorem ext_of_reg {proj : Project} {s s' : St} (h : s'.reg = s.reg) (hps : PsRel s s') : Ext proj s s' := by
  -- `Ext` reads of `s'` only the registry and `ps`: with the registry literally the same the other fields are `Ext.refl`'s
  obtain ⟨_, _, _, _, _, _⟩ := s'
  obtain rfl : _ = s.reg := h
  exact { Ext.refl proj s with ps := hps }

theorem keeps_of_reg {proj : Project} {s s' : St} (h : s'.reg = s.reg) : Keeps proj s s' := by
  obtain ⟨_, _, _, _, _, _⟩ := s'
  obtain rfl : _ = s.reg := h
  exact { (Ext.refl proj s).keeps with }

theorem completeStmt_reg {proj : Project} {s s' : St} (h : s'.reg = s.reg) :
    ∀ {S : Site} {ctx : Nat} (st : Stmt), CompleteStmt proj s S ctx st → CompleteStmt proj s' S ctx st :=
  CompleteStmt.mono (keeps_of_reg h)

/-- the registry untouched: the invariant carries over once the fields that read `ps`, `alls` and `cinfo` are supplied.
Modules only advance (`hst`, `hdone`); a module that becomes `processed` brings its completeness (`hcomp`). -/
theorem PdInv.of_reg {proj : Project} {s s' : St} (h : PdInv proj s) (hreg : s'.reg = s.reg) (cbase : CBase s')
    (lens : s'.ps.length = proj.length ∧ s'.alls.length = proj.length)
    (alls : ∀ m, m < proj.length → getAll s' m = if getPs s' m = .unprocessed then none else lastAll (bodyOf proj m))
    (hst : ∀ t, getPs s t ≠ .unprocessed → getPs s' t ≠ .unprocessed)
    (hdone : ∀ t, getPs s t = .processed → getPs s' t = .processed)
    (hcomp : ∀ m md, proj[m]? = some md → getPs s' m = .processed → getPs s m ≠ .processed →
      CompleteStmts proj s (m, []) m md.body) : PdInv proj s' := by
  -- with the registry literally the same, `loc`, `movedB` and every field that reads only the registry are unchanged
  obtain ⟨_, _, _, _, _, _⟩ := s'
  obtain rfl : _ = s.reg := hreg
  exact
    { reg := h.reg, cbase, lens, alls, mods := h.mods, site := h.site, alias := h.alias, cont := h.cont, movedIn := h.movedIn
      started := fun i S hp hS hne => hst _ (h.started i S hp hS hne)
      complete := fun m md hm hp => by
        refine CompleteStmts.mono (s := s) ?_ _ ?_
        · exact keeps_of_reg rfl
        · by_cases hq : getPs s m = .processed
          · exact h.complete m md hm hq
          · exact hcomp m md hm hp hq
      movedPs := fun r hr hm => ⟨hdone _ (h.movedPs r hr hm).1, hst _ (h.movedPs r hr hm).2⟩ }

/-! ## definitions: `def`, `x = <const>`, `class` -/

theorem visitAssign_ok {proj : Project} {rank : List Nat} (wf : WFacts proj rank) (rx : RxFacts proj) {s : St}
    (hI : PdInv proj s) {mod ctx : Nat} {S : Site} {full : List Stmt} (hc : Ctx proj rank s mod ctx S full) {n : Name}
    {v : Nat} (hst : Stmt.assign n v ∈ full) (hb : s.bad = false) :
    OkStep proj (some ctx) [n] s (visitAssign ctx n s) ∧ CompleteStmt proj (visitAssign ctx n s) S ctx (.assign n v) := by
  obtain ⟨o, ho, _⟩ := hc.clsc
  rw [visitAssign_eq ho]
  unfold dhas
  cases hd : dget o.contents n with
  | some c => exact ⟨.refl hb hI, ⟨o, ho, Or.inl (by rw [hd]; simp)⟩⟩
  | none =>
    rw [if_neg (by simp)]
    obtain ⟨h, _, _, he⟩ := addObj_ok wf rx hI hc hst (st := .assign n v) rfl hb
      (fun o' ho' => by rw [ho] at ho'; injection ho' with ho'; exact ho' ▸ hd)
    exact ⟨h, he⟩

theorem enterClass_ok {proj : Project} {rank : List Nat} (wf : WFacts proj rank) (rx : RxFacts proj) {s : St}
    (hI : PdInv proj s) {mod ctx : Nat} {S : Site} {full : List Stmt} (hc : Ctx proj rank s mod ctx S full) {n : Name}
    {bs : List Path} {body : List Stmt} (hst : Stmt.classDef n bs body ∈ full) (hb : s.bad = false)
    (hpend : ∀ o, s.reg.objs[ctx]? = some o → dget o.contents n = none) :
    OkStep proj (some ctx) [n] s (enterClass ctx n bs s) ∧
    Ctx proj rank (enterClass ctx n bs s) mod s.reg.objs.length (S.1, S.2 ++ [n]) body ∧
    HasEntry (enterClass ctx n bs s) ctx n ∧ Pending (enterClass ctx n bs s) s.reg.objs.length body := by
  obtain ⟨o, ho, _⟩ := hc.clsc
  obtain ⟨⟨h0, h1, h2, hf⟩, hnew, hpn, hent⟩ := addObj_ok wf rx hI hc hst (st := .classDef n bs body) rfl hb hpend
  obtain ⟨ci, hci, he⟩ := enterClass_eq hI.reg (nonmodule_parent wf hI) (List.getElem?_eq_some_iff.1 ho).1 n
    (wf.basesNe hc.body hst)
  rw [he]
  -- the bases recorded as resolved are still class objects
  have hcb2 := cbase_snoc h1.cbase (i := s.reg.objs.length) (ci := ci) fun b hbm => by
    obtain ⟨o, hg, hcl⟩ := isClassObj_obj (hci b hbm)
    obtain ⟨o', ho', hc', _⟩ := h2.objs b o hg
    exact ⟨o', ho', hc'.trans hcl⟩
  generalize addObj s .cls n ctx = s1 at *
  have hI2 : PdInv proj { s1 with cinfo := s1.cinfo ++ [(s.reg.objs.length, ci)] } :=
    h1.of_reg rfl hcb2 h1.lens h1.alls (fun _ h => h) (fun _ h => h) (fun _ _ _ hp hq => absurd hp hq)
  have hext : Ext proj s { s1 with cinfo := s1.cinfo ++ [(s.reg.objs.length, ci)] } :=
    h2.trans (ext_of_reg rfl (PsRel.refl s1))
  refine ⟨⟨h0, hI2, hext, hf⟩, ?_, hent, fun o ho _ _ _ _ => by cases ho.symm.trans hnew; rfl⟩
  have hc1 := hc.ext hI hI2 hext
  exact
    { hmod := hc.hmod, hS1 := hc.hS1,
      body := siteBody_snoc hc.body (findClass_of_mem wf hc.body hst),
      stat := (ObjKind.dfn hc.body hst (c := .cls) rfl).static,
      pathc := hpn,
      clsc := ⟨_, hnew, Or.inr ⟨by simp, rfl⟩⟩,
      ctxmod := fun h => by simp at h,
      ps := hc1.ps, low := hc1.low }

/-! ## a body -/

mutual
theorem visitStmt_ok {proj : Project} {rank : List Nat} (wf : WFacts proj rank) (rx : RxFacts proj)
    (hro : ReparentOk) (hsl : SubLookup proj rank) {pm : St → Nat → St} {k : Nat} (hpm : PmOk proj rank pm k) {mod : Nat} :
    ∀ (st : Stmt) (ctx : Nat) (s : St) (S : Site) (full : List Stmt), PdInv proj s → Ctx proj rank s mod ctx S full →
      st ∈ full → s.bad = false → cnt s ≤ k →
      (∀ o, s.reg.objs[ctx]? = some o → ∀ n ∈ explicitNames st, dget o.contents n = none) →
      (visitStmt pm mod ctx st s).bad = false ∧ PdInv proj (visitStmt pm mod ctx st s) ∧
      Ext proj s (visitStmt pm mod ctx st s) ∧ CompleteStmt proj (visitStmt pm mod ctx st s) S ctx st ∧
      FrameX proj (some ctx) (explicitNames st) s (visitStmt pm mod ctx st s)
  | .importMod t a, ctx, s, S, full, hI, hc, hst, hb, hk, _ => by
    simp only [visitStmt, importProcess]
    have h0 := OkStep.foldl (P := fun _ p => p ≠ [] ∧ ∃ q, t = p ++ q) (fun _ _ _ _ h => h)
      (fun _ _ hI hc hb hk hp => importProcess_ok wf hsl hpm hst hI hc hb hk hp) _ s hI hc hb hk
      (fun p hp => prefixesOf_spec hp)
    obtain ⟨h1, h4⟩ := visitImport_ok wf rx h0.inv (hc.ext hI h0.inv h0.ext) hst h0.bad
    have h := (h0.weaken (l := [])).trans h1
    exact ⟨h.bad, h.inv, h.ext, h4, h.frame.mono (by simp)⟩
  | .importFrom lvl M n a, ctx, s, S, full, hI, hc, hst, hb, hk, hp => by
    simp only [visitStmt]
    obtain ⟨h, hcs⟩ := visitImportFrom_ok wf rx hro hsl hpm hI hc hst hb hk
      (fun o ho => hp o ho _ (by simp [explicitNames]))
    exact ⟨h.bad, h.inv, h.ext, hcs, h.frame⟩
  | .importStar lvl M, ctx, s, S, full, hI, hc, hst, hb, hk, _ => by
    simp only [visitStmt]
    have h := visitImportStar_ok wf rx hsl hpm hI hc hst hb hk
    exact ⟨h.bad, h.inv, h.ext, by simp [CompleteStmt], h.frame.mono (by simp)⟩
  | .classDef n bs body, ctx, s, S, full, hI, hc, hst, hb, hk, hp => by
    simp only [visitStmt]
    obtain ⟨⟨hb1, hI1, he1, hf1⟩, hc1, hent, hpend⟩ :=
      enterClass_ok wf rx hI hc hst hb (fun o ho => hp o ho n (by simp [explicitNames]))
    have hk1 : cnt (enterClass ctx n bs s) ≤ k := Nat.le_trans (cnt_le_of_psRel he1.ps) hk
    obtain ⟨⟨hb2, hI2, he2, hf2⟩, hcomp⟩ :=
      visitStmts_ok wf rx hro hsl hpm body s.reg.objs.length _ _ body [] hI1 hc1 (by simp) hb1 hk1 hpend
    have hc2 := hc1.ext hI1 hI2 he2
    refine ⟨hb2, hI2, he1.trans he2, ?_, ?_⟩
    · obtain ⟨o2, ho2, hcl2⟩ := hc2.clsc
      refine ⟨hasEntry_ext he2 hent, hc1.stat, s.reg.objs.length, o2, ?_, ho2, ?_, hcomp⟩
      · rw [hc2.locc hI2]; exact hc2.pathc
      · rcases hcl2 with ⟨h0, _⟩ | ⟨_, h0⟩
        · simp at h0
        · exact h0
    · intro i o ho hpr
      obtain ⟨o1, ho1, k1⟩ := hf1 i o ho hpr
      obtain ⟨o2, ho2, k2⟩ := hf2 i o1 ho1 (hpr.ext he1.ps)
      have hne : some i ≠ some s.reg.objs.length := by
        have := (List.getElem?_eq_some_iff.1 ho).1
        intro h; injection h with h; omega
      refine ⟨o2, ho2, fun k' hk' hd => ?_⟩
      exact k2 k' (fun h => absurd h hne) (k1 k' (by simpa [explicitNames] using hk') hd)
  | .funcDef n, ctx, s, S, full, hI, hc, hst, hb, _, hp => by
    simp only [visitStmt]
    obtain ⟨h, _, _, he⟩ :=
      addObj_ok wf rx hI hc hst (st := .funcDef n) rfl hb (fun o ho => hp o ho n (by simp [explicitNames]))
    exact ⟨h.bad, h.inv, h.ext, he, h.frame⟩
  | .assign n v, ctx, s, S, full, hI, hc, hst, hb, _, _ => by
    simp only [visitStmt]
    obtain ⟨h, hcs⟩ := visitAssign_ok wf rx hI hc hst hb
    exact ⟨h.bad, h.inv, h.ext, hcs, h.frame⟩
  | .allAssign l, ctx, s, S, full, hI, _, _, hb, _, _ => by
    simp only [visitStmt]
    exact ⟨hb, hI, Ext.refl _ s, by simp [CompleteStmt], FrameX.refl _ _ _ _⟩
theorem visitStmts_ok {proj : Project} {rank : List Nat} (wf : WFacts proj rank) (rx : RxFacts proj)
    (hro : ReparentOk) (hsl : SubLookup proj rank) {pm : St → Nat → St} {k : Nat} (hpm : PmOk proj rank pm k) {mod : Nat} :
    ∀ (sts : List Stmt) (ctx : Nat) (s : St) (S : Site) (full pre : List Stmt), PdInv proj s →
      Ctx proj rank s mod ctx S full → full = pre ++ sts → s.bad = false → cnt s ≤ k → Pending s ctx sts →
      OkStep proj (some ctx) (sts.flatMap explicitNames) s (visitStmts pm mod ctx sts s) ∧
      CompleteStmts proj (visitStmts pm mod ctx sts s) S ctx sts
  | [], ctx, s, S, full, pre, hI, _, _, hb, _, _ => by
    simp only [visitStmts]; exact ⟨.refl hb hI, by simp [CompleteStmts]⟩
  | st :: rest, ctx, s, S, full, pre, hI, hc, hfull, hb, hk, hp => by
    simp only [visitStmts]
    have hmem : st ∈ full := by rw [hfull]; simp
    obtain ⟨hb1, hI1, he1, hc1, hf1⟩ := visitStmt_ok wf rx hro hsl hpm st ctx s S full hI hc hmem hb hk
      (fun o ho n hn => hp o ho st (List.mem_cons_self ..) n hn)
    have hk1 := Nat.le_trans (cnt_le_of_psRel he1.ps) hk
    have hpend1 : Pending (visitStmt pm mod ctx st s) ctx rest := fun o1 ho1 st' hst' n' hn' =>
      hc.pending hI hf1 (fun hin => later_name_ne wf hc.body hfull hin hst' hn')
        (fun o ho => hp o ho st' (List.mem_cons_of_mem _ hst') n' hn') o1 ho1
    obtain ⟨h2, hc2⟩ := visitStmts_ok wf rx hro hsl hpm rest ctx _ S full (pre ++ [st]) hI1
      (hc.ext hI hI1 he1) (by rw [hfull]; simp) hb1 hk1 hpend1
    refine ⟨by simpa using OkStep.trans ⟨hb1, hI1, he1, hf1⟩ h2, ?_⟩
    exact ⟨CompleteStmt.mono h2.ext.keeps st hc1, hc2⟩
end

/-! ## a module -/

/-- a module that has not been started holds no entry of `contents` for a name its statements bind -/
theorem unstarted_pending {proj : Project} {rank : List Nat} (wf : WFacts proj rank) {s : St}
    (hI : PdInv proj s) {m : Nat} (hm : m < proj.length) (hu : getPs s m = .unprocessed) {o : Obj}
    (ho : s.reg.objs[m]? = some o) {st : Stmt} {x : Name} (hst : st ∈ bodyOf proj m) (hx : x ∈ explicitNames st) :
    dget o.contents x = none := by
  cases hdc : dget o.contents x with
  | none => rfl
  | some c =>
    exfalso
    rcases hI.cont m o hm ho x c hdc with hch | ⟨st', hst', hd'⟩ | ⟨r, hr, h1, _, h3⟩
    · exact child_not_stmt wf (siteBody_zero hm) hch hst (stmtNames_of_explicit hx)
    · obtain ⟨_, _, hpm, _⟩ := hI.mods m hm
      have hle : loc proj s (m, [x]) = pathOf proj m ++ [x] := by
        rw [hI.loc_eq (S := (m, [x])) (by simp only; rw [hu]; simp)]; simp [sitePath]
      exact hI.started c (m, [x]) (by rw [hle]; exact path_child hI.reg ho hdc hpm)
        (def_static (siteBody_zero hm) hst' hd') (by simp) hu
    · have := (hI.movedPs r hr h3).2
      rw [h1, hu] at this; exact this rfl

theorem processModule_ok {proj : Project} {rank : List Nat} (wf : WFacts proj rank) (rx : RxFacts proj)
    (hro : ReparentOk) (hsl : SubLookup proj rank) : ∀ f, PmOk proj rank (processModule proj f) f := by
  intro f
  induction f with
  | zero => intro s t _ _ _ hu hk _; have := cnt_pos hu; omega
  | succ f ih =>
    intro s m hb hI hm hu hk hrk
    have hmd : proj[m]? = some proj[m] := List.getElem?_eq_getElem hm
    have hbody : bodyOf proj m = proj[m].body := bodyOf_eq hmd
    have hps2 : ∀ t, getPs { s with ps := s.ps.set m .processing, alls := s.alls.set m (lastAll proj[m].body) } t =
        if t = m then .processing else getPs s t :=
      getPs_set (s := { s with alls := _ }) (show m < s.ps.length by rw [hI.lens.1]; exact hm)
    have hal2 : ∀ t, getAll { s with ps := s.ps.set m .processing, alls := s.alls.set m (lastAll proj[m].body) } t =
        if t = m then lastAll proj[m].body else getAll s t :=
      getAll_set (s := { s with ps := _ }) (show m < s.alls.length by rw [hI.lens.2]; exact hm)
    have hcnt := cnt_start (al := s.alls.set m (lastAll proj[m].body)) hu
    obtain ⟨o, ho, hpm, hcl⟩ := hI.mods m hm
    have hI2 : PdInv proj { s with ps := s.ps.set m .processing, alls := s.alls.set m (lastAll proj[m].body) } := by
      refine hI.of_reg rfl hI.cbase (by simp [hI.lens]) (fun t ht => ?_) (fun t ht => ?_) (fun t ht => ?_)
        (fun t md _ hp hq => ?_)
      · rw [hal2, hps2]
        by_cases htm : t = m
        · subst htm; simp [hbody]
        · simp only [htm, if_false]; exact hI.alls t ht
      · rw [hps2]; split
        · simp
        · exact ht
      · rw [hps2, if_neg (fun h => by rw [h, hu] at ht; cases ht)]; exact ht
      · rw [hps2] at hp
        split at hp
        · cases hp
        · exact absurd hp hq
    obtain ⟨⟨hb3, hI3, he3, hf3⟩, hcomp⟩ :=
      visitStmts_ok wf rx hro hsl ih proj[m].body m _ (m, []) proj[m].body [] hI2
        { hmod := hm, hS1 := rfl, body := by rw [siteBody_zero hm, hbody]
          stat := ⟨hm, Or.inl rfl⟩
          pathc := by simpa [sitePath] using hpm
          clsc := ⟨o, ho, Or.inl ⟨rfl, hcl ▸ isModuleCls_modCls proj m⟩⟩
          ctxmod := fun _ => rfl
          ps := by rw [hps2]; simp
          low := fun u hu' => by
            rw [hps2] at hu'
            split at hu'
            · rename_i hum; rw [hum]; exact Nat.le_refl _
            · exact Nat.le_of_lt (hrk u hu') }
        (by simp) hb (by omega)
        (fun o' ho' st hst x hx => unstarted_pending wf hI hm hu ho' (by rw [hbody]; exact hst) hx)
    simp only [processModule, hu, ne_eq, not_true_eq_false, if_false, hmd]
    generalize visitStmts (processModule proj f) m m proj[m].body _ = s3 at hb3 hI3 he3 hcomp hf3 ⊢
    have hps4 := getPs_set (s := s3) (v := .processed) (show m < s3.ps.length by rw [hI3.lens.1]; exact hm)
    have hm3p : getPs s3 m = .processing := (he3.ps m).1 (by rw [hps2]; simp)
    refine ⟨hb3, ?_, ⟨he3.objs, he3.sites, fun t => ?_, he3.moved⟩, by rw [hps4]; simp, ?_⟩
    · refine hI3.of_reg rfl hI3.cbase (by simp [hI3.lens]) (fun t ht => ?_) (fun t ht => ?_) (fun t ht => ?_)
        (fun t md hmt hp hq => ?_)
      · rw [show getAll { s3 with ps := s3.ps.set m .processed } t = getAll s3 t from rfl, hps4, hI3.alls t ht]
        by_cases htm : t = m
        · subst htm; simp [hm3p]
        · simp [htm]
      · rw [hps4]; split
        · simp
        · exact ht
      · rw [hps4]; split
        · rfl
        · exact ht
      · rw [hps4] at hp
        split at hp
        · rename_i htm; subst htm
          rw [hmd] at hmt; injection hmt with hmt; subst hmt
          exact hcomp
        · exact absurd hp hq
    · have h3 := he3.ps t
      rw [hps2] at h3
      rw [hps4]
      split
      · rename_i htm; rw [htm, hu]; exact ⟨nofun, nofun, fun _ => by simp⟩
      · rename_i htm; simpa only [htm, if_false] using h3
    · intro i o ho hpr
      have him : i ≠ m := fun h => hpr (h ▸ hm) (h ▸ hu)
      obtain ⟨o3, ho3, k3⟩ := hf3 i o ho (fun hi => by rw [hps2]; simp only [him, if_false]; exact hpr hi)
      exact ⟨o3, ho3, fun k _ hd => k3 k (fun h => by injection h with h; exact absurd h him) hd⟩

/-! ## the whole run -/

theorem initSt_ok {proj : Project} {rank : List Nat} (wf : WFacts proj rank) :
    (initSt proj).bad = false ∧ PdInv proj (initSt proj) ∧ ∀ t, getPs (initSt proj) t ≠ .processing := by
  obtain ⟨hb, hI⟩ := initSt_init wf
  generalize initSt proj = s at hb hI
  have hps := getPs_replicate hI.ps
  refine ⟨hb, ?_, fun t => by rw [hps]; split <;> simp⟩
  -- nothing has moved
  have hnm : ∀ r ∈ reexportReqs proj, movedB proj s r = false := by
    intro r hr
    obtain ⟨o, ho, _, _, ha, _⟩ := hI.mods r.1 (req_definer_lt hr)
    unfold movedB
    simp [ho, ha, dget]
  have hloc : ∀ S, loc proj s S = sitePath proj S := fun S => relocSite_unmoved (fun r hr _ _ => hnm r hr)
  exact
    { reg := hI.reg
      cbase := by intro e hm; rw [hI.cinfo] at hm; cases hm
      lens := by rw [hI.ps, hI.alls]; simp
      mods := fun m hm => by obtain ⟨o, ho, hp, hc, _⟩ := hI.mods m hm; exact ⟨o, ho, hp, hc⟩
      site := fun i o ho => by
        obtain ⟨hi, hp, hc, _⟩ := hI.obj ho
        exact ⟨(i, []), by rw [hc]; exact ObjKind.mod hi, by rw [loc_mod]; exact hp⟩
      alias := fun i o S ho _ _ x tgt hx => by rw [(hI.obj ho).2.2.2.1] at hx; cases hx
      cont := fun m o hm ho x c hx => Or.inl ((hI.obj ho).2.2.2.2 x c hx)
      alls := fun m hm => by rw [hI.getAll, hps]; simp [hm]
      started := fun i S hp hS hne => absurd (hI.started wf (hloc S ▸ hp) hS) hne
      complete := by
        intro m md hm hp
        have hlt : m < proj.length := (List.getElem?_eq_some_iff.1 hm).1
        rw [hps] at hp; simp [hlt] at hp
      movedPs := fun r hr hm => by rw [hnm r hr] at hm; cases hm
      movedIn := fun r hr hm => by rw [hnm r hr] at hm; cases hm }

/-- the invariant does not speak about the `pending` order -/
theorem PdInv.setPending {proj : Project} {s : St} (h : PdInv proj s) (l : List Nat) : PdInv proj { s with pending := l } :=
  h.of_reg rfl h.cbase h.lens h.alls (fun _ h => h) (fun _ h => h) (fun _ _ _ hp hq => absurd hp hq)

/-- **the run of a `WFr` project**: it raises nothing, the relocated invariant holds at the end, no module
is left in `processing`, every module of the order is processed -/
theorem run_ok {proj : Project} {rank : List Nat} (wf : WFacts proj rank) (rx : RxFacts proj)
    (hro : ReparentOk) (hsl : SubLookup proj rank) (order : List Nat) :
    (run proj order).bad = false ∧ PdInv proj (run proj order) ∧ NoProcessing (run proj order) ∧
    ∀ m ∈ order, getPs (run proj order) m = .processed := by
  unfold run
  obtain ⟨hb0, hI0, hn0⟩ := initSt_ok wf
  obtain ⟨h0, h1, h2, _, h4⟩ := process_all (I := PdInv proj) (fun _ h => h.lens.1)
    (fun s m hb hI hm hu hk hn =>
      have ⟨hb1, hI1, he1, hd, _⟩ := processModule_ok wf rx hro hsl _ s m hb hI hm hu hk (fun u hu' => absurd hu' (hn u))
      ⟨hb1, hI1, he1.ps, hd⟩) order _ (hI0.setPending order) (fun t => hn0 t) hb0
  exact ⟨h0, h1, h2, h4⟩

end Imports.Rx
