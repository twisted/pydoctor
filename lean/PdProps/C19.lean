/-
C19 — Visitor extensions see a balanced, ordered walk whatever the main visitor prunes
(`PdModel.Visitor`: pydoctor/visitor.py and the ASTBuilder scope stack).

`prune_meaning`: the trace of `walkabout` is the documented walk `specTrace` over the pruned tree.  What one
observer sees of it (`nested`, `main_trace`, …) is then a fact about `specTrace` of ANY pruned tree, restricted to
that observer.  The walk with raising departures (`walkaboutG_spec`) and the departure-less `Visitor.walk`
(`walk_is_walkabout_visits`) are brought back to the same `specTrace`.
-/
import PdModel.Visitor

namespace Visitor

theorem extsAux_succ (w : When) (xs : List When) (i : Nat) :
    extsAux w xs (i + 1) = (extsAux w xs i).map (· + 1) := by
  fun_induction extsAux w xs i <;> simp [extsAux, *]

theorem extsOf_cons (x : When) (xs : List When) (w : When) :
    extsOf (x :: xs) w = (if x = w then [0] else []) ++ (extsOf xs w).map (· + 1) := by
  by_cases h : x = w <;> simp [extsOf, extsAux, extsAux_succ, h]

theorem filter_extsOf (exts : List When) (w : When) (e : Nat) :
    (extsOf exts w).filter (fun j => j = e) = if exts[e]? = some w then [e] else [] := by
  induction exts generalizing e with
  | nil => rfl
  | cons x xs ih =>
    rw [extsOf_cons, List.filter_append, List.filter_map]
    cases e with
    | zero => simp [Function.comp_def, apply_ite (List.filter _)]
    | succ e => simp [Function.comp_def, ih, apply_ite (List.filter _), apply_ite (List.map _)]

theorem extsAux_append (w : When) (a b : List When) (i : Nat) :
    extsAux w (a ++ b) i = extsAux w a i ++ extsAux w b (i + a.length) := by
  fun_induction extsAux w a i <;> simp +arith [extsAux, *]

/-- Within one timing class the extensions run in registration order, the ones added later (`ExtList.add` on a
live visitor appends to the per-timing lists) after the ones already registered. -/
theorem extsOf_append (a b : List When) (w : When) :
    extsOf (a ++ b) w = extsOf a w ++ extsAux w b a.length := by
  simp only [extsOf, extsAux_append, Nat.zero_add]

example : extsOf ([.before, .after] ++ [.before]) .before = [0, 2] := by decide +kernel

theorem restrict_append (w : Who) (a b : List Event) :
    restrict w (a ++ b) = restrict w a ++ restrict w b := by
  simp only [restrict, List.filter_append, List.map_append]

theorem restrict_evs (w : Who) (k : Kind) (id : Nat) (l : List Nat) :
    restrict w (evs k id l) = (l.filter (fun j => Who.ext j = w)).map (fun _ => (k, id)) := by
  simp only [restrict, evs, List.filter_map, List.map_map, Function.comp_def]

theorem restrict_evs_main (k : Kind) (id : Nat) (l : List Nat) : restrict .main (evs k id l) = [] := by
  simp [restrict_evs]

theorem evs_append (k : Kind) (id : Nat) (a b : List Nat) : evs k id (a ++ b) = evs k id a ++ evs k id b :=
  List.map_append

theorem restrict_evs_extsOf (exts : List When) (e : Nat) (he : e < exts.length) (k : Kind) (id : Nat) (w : When) :
    restrict (.ext e) (evs k id (extsOf exts w)) = if exts[e] = w then [(k, id)] else [] := by
  simp only [restrict_evs, Who.ext.injEq, filter_extsOf, List.getElem?_eq_getElem he, Option.some.injEq,
    apply_ite (List.map _), List.map_cons, List.map_nil]

theorem restrict_visitEvents_ext (exts : List When) (e : Nat) (he : e < exts.length) (id : Nat) :
    restrict (.ext e) (visitEvents exts id) = [(.visit, id)] := by
  simp only [visitEvents, evs_append, restrict_append, restrict_evs_extsOf exts e he]
  cases exts[e] <;> rfl

theorem restrict_departEvents_ext (exts : List When) (e : Nat) (he : e < exts.length) (id : Nat)
    (b : Bool) : restrict (.ext e) (departEvents exts id b) = [(.depart, id)] := by
  simp only [departEvents, evs_append, restrict_append, restrict_evs_extsOf exts e he]
  cases exts[e] <;> cases b <;> rfl

theorem restrict_visitEvents_main (exts : List When) (id : Nat) :
    restrict .main (visitEvents exts id) = [(.visit, id)] := by
  simp only [visitEvents, restrict_append, restrict_evs_main]; rfl

theorem restrict_departEvents_main (exts : List When) (id : Nat) (b : Bool) :
    restrict .main (departEvents exts id b) = if b then [] else [(.depart, id)] := by
  simp only [departEvents, restrict_append, restrict_evs_main]; cases b <;> rfl

/-- **order** on entry: BEFORE, OUTTER, main, AFTER, INNER. -/
theorem order_visit (exts : List When) (id : Nat) :
    visitEvents exts id =
      evs .visit id (extsOf exts .before) ++ evs .visit id (extsOf exts .outter)
        ++ [⟨.main, .visit, id⟩]
        ++ evs .visit id (extsOf exts .after) ++ evs .visit id (extsOf exts .inner) := by
  simp only [visitEvents, evs_append, List.append_assoc]

/-- **order** on exit: BEFORE, INNER, main, AFTER, OUTTER. -/
theorem order_depart (exts : List When) (id : Nat) :
    departEvents exts id false =
      evs .depart id (extsOf exts .before) ++ evs .depart id (extsOf exts .inner)
        ++ [⟨.main, .depart, id⟩]
        ++ evs .depart id (extsOf exts .after) ++ evs .depart id (extsOf exts .outter) := by
  simp only [departEvents, evs_append, List.append_assoc]; rfl

/-- **order** on exit when the main visitor's departure is skipped (`SkipNode` / `SkipDeparture`, i.e.
`depart(ob, extensions_only=True)`): BEFORE, INNER, AFTER, OUTTER. -/
theorem order_depart_ext_only (exts : List When) (id : Nat) :
    departEvents exts id true =
      evs .depart id (extsOf exts .before) ++ evs .depart id (extsOf exts .inner)
        ++ evs .depart id (extsOf exts .after) ++ evs .depart id (extsOf exts .outter) := by
  simp only [departEvents, evs_append, List.append_assoc]; rfl

/-- the main visitor's departure is the only difference between the two exit blocks -/
theorem depart_ext_only_is_filter (exts : List When) (id : Nat) :
    departEvents exts id true = (departEvents exts id false).filter (fun e => !decide (e.who = Who.main)) := by
  have h (l : List Nat) : (evs .depart id l).filter (fun e => !decide (e.who = Who.main)) = evs .depart id l := by
    induction l with
    | nil => rfl
    | cons _ _ ih => exact congrArg (_ :: ·) ih
  simp only [departEvents, List.filter_append, h]; rfl

/-- `SkipSiblings` leaves `walkabout` (to stop the parent's loop over the siblings) exactly when the walked node's
`visit_*` raised it. -/
theorem escape_iff (exts : List When) (id : Nat) (act : Act) (cs : List Tree) :
    (walkabout exts (.node id act cs)).2 = true ↔ act = .skipSiblings := by
  cases act <;> simp [walkabout]

mutual
/-- The walk performed by `walkabout` is exactly the documented walk over the tree pruned according to the
docstrings of the four pruning exceptions. -/
theorem prune_meaning (exts : List When) (t : Tree) :
    (walkabout exts t).1 = specTrace exts (prune t) :=
  match t with
  | .node id act cs => by
    cases act <;> simp [walkabout, prune, specTrace, specList, walkChildren_spec exts cs]
theorem walkChildren_spec (exts : List When) :
    (ts : List Tree) → walkChildren exts ts = specList exts (pruneList ts)
  | [] => rfl
  | (.node id act cs) :: ts => by
    simp only [walkChildren, pruneList, escape_iff, prune_meaning exts (.node id act cs), walkChildren_spec exts ts]
    split <;> simp [specList, *]
end

mutual
theorem spec_restrict_ext (exts : List When) (e : Nat) (he : e < exts.length) :
    (p : PTree) → restrict (.ext e) (specTrace exts p) = brackets p
  | .node id md cs => by
    simp [specTrace, brackets, restrict_append, restrict_visitEvents_ext exts e he,
      restrict_departEvents_ext exts e he, spec_restrict_ext_list exts e he cs]
theorem spec_restrict_ext_list (exts : List When) (e : Nat) (he : e < exts.length) :
    (ps : List PTree) → restrict (.ext e) (specList exts ps) = bracketsList ps
  | [] => rfl
  | p :: ps => (restrict_append ..).trans
    (congr (congrArg _ (spec_restrict_ext exts e he p)) (spec_restrict_ext_list exts e he ps))
end

mutual
theorem spec_restrict_main (exts : List When) :
    (p : PTree) → restrict .main (specTrace exts p) = mainBrackets p
  | .node id md cs => by
    cases md <;>
    simp [specTrace, mainBrackets, restrict_append, restrict_visitEvents_main,
      restrict_departEvents_main, spec_restrict_main_list exts cs]
theorem spec_restrict_main_list (exts : List When) :
    (ps : List PTree) → restrict .main (specList exts ps) = mainBracketsList ps
  | [] => rfl
  | p :: ps => (restrict_append ..).trans
    (congr (congrArg _ (spec_restrict_main exts p)) (spec_restrict_main_list exts ps))
end

mutual
theorem dyck_brackets : (p : PTree) → ∀ (rest : List (Kind × Nat)) (st : List Nat),
    dyckRun (brackets p ++ rest) st = dyckRun rest st
  | .node id md cs => fun rest st => by
    simp [brackets, dyckRun, dyck_bracketsList cs]
theorem dyck_bracketsList : (ps : List PTree) → ∀ (rest : List (Kind × Nat)) (st : List Nat),
    dyckRun (bracketsList ps ++ rest) st = dyckRun rest st
  | [] => fun _ _ => rfl
  | p :: ps => fun rest st => by
    rw [bracketsList, List.append_assoc, dyck_brackets p, dyck_bracketsList ps]
end

theorem isDyck_brackets (p : PTree) : isDyck (brackets p) = true := by
  simpa [isDyck, dyckRun] using dyck_brackets p [] []

mutual
theorem visits_brackets : (p : PTree) →
    ((brackets p).filter (fun x => x.1 = .visit)).map (·.2) = pids p
  | .node id md cs => by
    simp [brackets, pids, visits_bracketsList cs]
theorem visits_bracketsList : (ps : List PTree) →
    ((bracketsList ps).filter (fun x => x.1 = .visit)).map (·.2) = pidsList ps
  | [] => rfl
  | p :: ps => by simp [bracketsList, pidsList, visits_brackets p, visits_bracketsList ps]
end

mutual
theorem visits_mainBrackets : (p : PTree) →
    ((mainBrackets p).filter (fun x => x.1 = .visit)).map (·.2) = pids p
  | .node id md cs => by
    cases md <;> simp [mainBrackets, pids, visits_mainBracketsList cs]
theorem visits_mainBracketsList : (ps : List PTree) →
    ((mainBracketsList ps).filter (fun x => x.1 = .visit)).map (·.2) = pidsList ps
  | [] => rfl
  | p :: ps => by simp [mainBracketsList, pidsList, visits_mainBrackets p, visits_mainBracketsList ps]
end

mutual
theorem pids_sublist : (t : Tree) → (pids (prune t)).Sublist (ids t)
  | .node id act cs => by
    have h := pidsList_sublist cs
    cases act <;> simp [prune, pids, ids, pidsList, h]
theorem pidsList_sublist : (ts : List Tree) → (pidsList (pruneList ts)).Sublist (idsList ts)
  | [] => .slnil
  | (.node id act cs) :: ts => by
    simp only [pruneList, idsList]
    split
    · exact (pids_sublist _).append (List.nil_sublist _)
    · exact (pids_sublist _).append (pidsList_sublist ts)
end

/-- Restricted to one registered extension, the trace is the bracket word of the pruned tree: one enter and one
leave per reached node, nested like the tree. -/
theorem nested (exts : List When) (t : Tree) (e : Nat) (he : e < exts.length) :
    restrict (.ext e) (walkabout exts t).1 = brackets (prune t) := by
  rw [prune_meaning, spec_restrict_ext exts e he]

/-- Every extension that entered a node also leaves it, properly nested. -/
theorem balanced (exts : List When) (t : Tree) (e : Nat) (he : e < exts.length) :
    isDyck (restrict (.ext e) (walkabout exts t).1) = true := by
  rw [nested exts t e he, isDyck_brackets]

/-- The main visitor sees the same word minus the departures it asked to skip. -/
theorem main_trace (exts : List When) (t : Tree) :
    restrict .main (walkabout exts t).1 = mainBrackets (prune t) := by
  rw [prune_meaning, spec_restrict_main]

/-- With distinct nodes, no extension enters a node twice. -/
theorem enter_once (exts : List When) (t : Tree) (e : Nat) (he : e < exts.length)
    (hn : (ids t).Nodup) :
    (((restrict (.ext e) (walkabout exts t).1).filter (fun x => x.1 = .visit)).map (·.2)).Nodup := by
  rw [nested exts t e he, visits_brackets]
  exact (pids_sublist t).nodup hn

/-- … nor does the main visitor. -/
theorem main_enter_once (exts : List When) (t : Tree) (hn : (ids t).Nodup) :
    (((restrict .main (walkabout exts t).1).filter (fun x => x.1 = .visit)).map (·.2)).Nodup := by
  rw [main_trace, visits_mainBrackets]
  exact (pids_sublist t).nodup hn

/-- Every registered extension enters exactly the nodes the main visitor enters, in the same order — also the
nodes whose departure or children the main visitor skips. -/
theorem same_nodes_entered (exts : List When) (t : Tree) (e : Nat) (he : e < exts.length) :
    ((restrict (.ext e) (walkabout exts t).1).filter (fun x => x.1 = .visit)).map (·.2)
      = ((restrict .main (walkabout exts t).1).filter (fun x => x.1 = .visit)).map (·.2) := by
  rw [nested exts t e he, main_trace, visits_brackets, visits_mainBrackets]

/-! ## extensions registered later (`ExtList.add` on a live visitor)

The registration list of the second walk is `a ++ b` (`extsOf_append`). -/

/-- What an already registered extension sees of a walk is not changed by registering further extensions. -/
theorem late_add_ext_view (a b : List When) (t : Tree) (e : Nat) (he : e < a.length) :
    restrict (.ext e) (walkabout (a ++ b) t).1 = restrict (.ext e) (walkabout a t).1 := by
  rw [nested (a ++ b) t e (List.length_append ▸ Nat.lt_add_right _ he), nested a t e he]

/-- … nor what the main visitor sees. -/
theorem late_add_main_view (a b : List When) (t : Tree) :
    restrict .main (walkabout (a ++ b) t).1 = restrict .main (walkabout a t).1 := by
  rw [main_trace, main_trace]

/-- … and the newcomers see the same balanced walk as everybody else. -/
theorem late_add_new_view (a b : List When) (t : Tree) (e : Nat) (he : e < (a ++ b).length) :
    restrict (.ext e) (walkabout (a ++ b) t).1 = brackets (prune t) :=
  nested (a ++ b) t e he

mutual
/-- the actions `ModuleVistor` can raise (only SkipNode, before pushing), recorded per node id -/
def consistent (skips : Nat → Bool) : Tree → Prop
  | .node id act cs =>
    ((act = .none ∧ skips id = false) ∨ (act = .skipNode ∧ skips id = true)) ∧ consistentList skips cs
def consistentList (skips : Nat → Bool) : List Tree → Prop
  | [] => True
  | t :: ts => consistent skips t ∧ consistentList skips ts
end

theorem stackRun_append (scope skips : Nat → Bool) (a b : List Event) (st : List Nat) :
    stackRun scope skips (a ++ b) st = (stackRun scope skips a st).bind (stackRun scope skips b) := by
  fun_induction stackRun scope skips a st <;> simp [stackRun, *]

theorem stackRun_evs (scope skips : Nat → Bool) (k : Kind) (id : Nat) (l : List Nat) (st : List Nat) :
    stackRun scope skips (evs k id l) st = some st := by
  induction l with
  | nil => rfl
  | cons _ _ ih => exact ih

mutual
theorem stack_walkabout (scope skips : Nat → Bool) (exts : List When) :
    (t : Tree) → consistent skips t → ∀ st, stackRun scope skips (walkabout exts t).1 st = some st
  | .node id act cs => by
    intro ⟨hact, hcs⟩ st
    have ihc := stack_walkChildren scope skips exts cs hcs
    rcases hact with ⟨rfl, hs⟩ | ⟨rfl, hs⟩
    · cases hsc : scope id <;>
        simp [walkabout, visitEvents, departEvents, stackRun_append, stackRun_evs, stackRun, hs, hsc, ihc]
    · simp [walkabout, visitEvents, departEvents, stackRun_append, stackRun_evs, stackRun, hs]
theorem stack_walkChildren (scope skips : Nat → Bool) (exts : List When) :
    (ts : List Tree) → consistentList skips ts → ∀ st, stackRun scope skips (walkChildren exts ts) st = some st
  | [] => fun _ _ => rfl
  | t :: ts => by
    intro ⟨ht, hts⟩ st
    simp only [walkChildren]
    split
    · exact stack_walkabout scope skips exts t ht st
    · simp [stackRun_append, stack_walkabout scope skips exts t ht, stack_walkChildren scope skips exts ts hts]
end

/-- After `walkabout` over any module tree whose prunings are those `ModuleVistor` raises, the scope stack is
back to what it was (empty at top level), and no `pop` ever met an empty stack or the wrong object. -/
theorem builder_stack_empty (scope skips : Nat → Bool) (exts : List When) (t : Tree)
    (h : consistent skips t) : stackRun scope skips (walkabout exts t).1 [] = some [] :=
  stack_walkabout scope skips exts t h []

def exTree : Tree :=
  .node 0 .none [.node 1 .skipSiblings [.node 2 .none []], .node 3 .none []]

-- the hypotheses of `enter_once` and of `builder_stack_empty` can be met
example : (ids exTree).Nodup ∧ (1 : Nat) < [When.before, When.inner].length := by decide +kernel
example : consistent (fun n => n == 2)
    (.node 0 .none [.node 1 .none [], .node 2 .skipNode [.node 3 .none []]]) := by
  simp [consistent, consistentList]

example : ((restrict .main (walkabout [.inner] exTree).1).filter (fun x => x.1 = .visit)).map (·.2) = [0, 1, 2] := by decide +kernel

/-- The walk as pydoctor implemented it before 93fd237 was *not* balanced: with a SkipSiblings raised by the
main visitor, an extension entered node 1 and never left it. -/
theorem old_unbalanced :
    isDyck (restrict (.ext 0) (walkaboutOld [.before] exTree).1) = false := by decide +kernel

/-- … and the child of the SkipSiblings node was not visited although the docstring says the
current node's children are not affected. -/
theorem old_skips_children :
    (restrict (.ext 0) (walkaboutOld [.before] exTree).1).contains (.visit, 2) = false := by decide +kernel

theorem new_visits_children :
    (restrict (.ext 0) (walkabout [.before] exTree).1).contains (.visit, 2) = true := by decide +kernel

/-! ## the general walk: pruning raised by `depart_*`, nodes visited from inside a `visit_*`

`walkaboutG inl dact` is what the code does when the main visitor's `depart_*` of node `n` raises `dact n`
and its `visit_*` of node `n` visits the nodes `inl n` itself (`NodeVisitor.generic_visit`).

Since 97d973e the statements hold for EVERY `dact`; what the code did before is `walkaboutGOld`
(`old_departure_prune_unbalanced`, `old_departure_prune_escape`).  Nodes visited by a `visit_*` method itself are
entered and never left, today as before, so balance without `NoInline` is false
(`inline_visit_unbalanced_counterexample`, `inline_visit_order_counterexample`); since 090633d the AST builder's
`visit_Expr` no longer calls `generic_visit`, so `NoInline` is true of every walk pydoctor performs. -/

/-- no `visit_*` of a node in `l` visits other nodes itself -/
def NoInline (inl : Nat → List Nat) (l : List Nat) : Prop := ∀ n ∈ l, inl n = []

instance (inl : Nat → List Nat) (l : List Nat) : Decidable (NoInline inl l) := by
  unfold NoInline; exact inferInstance

def excOf (b : Bool) : Option Act := if b then some .skipSiblings else none

theorem visitEventsG_plain (inl : Nat → List Nat) (exts : List When) (id : Nat) (h : inl id = []) :
    visitEventsG inl exts id = visitEvents exts id := by
  simp [visitEventsG, visitEvents, h]

theorem finishG_eq (dact : Nat → Act) (exts : List When) (id : Nat) (act : Act) (tr : List Event)
    (extOnly : Bool) :
    finishG dact exts id act tr extOnly =
      (tr ++ departEvents exts id extOnly,
        excOf (act == .skipSiblings || (!extOnly && dact id == .skipSiblings))) := by
  cases extOnly
  · cases h : dact id <;> simp [finishG, departEventsG, departEvents, excOf, h]
  · simp [finishG, departEventsG, departEvents, excOf]

mutual
theorem walkaboutG_spec (inl : Nat → List Nat) (dact : Nat → Act) (exts : List When) :
    (t : Tree) → NoInline inl (ids t) →
      walkaboutF (finishG dact exts) inl exts t =
        (specTrace exts (pruneG dact t),
          match t with | .node id act _ => excOf (stopsG dact id act))
  | .node id act cs => by
    intro h
    obtain ⟨hid, hcs⟩ := List.forall_mem_cons.1 h
    obtain ⟨k1, k2⟩ := walkChildrenG_spec inl dact exts cs hcs
    -- the children end with no exception or SkipSiblings, so the walk reaches its tail `finishG`;
    -- once the action is fixed the flags on both sides are closed terms
    cases act <;> rcases k2 with k2 | k2 <;>
      simp only [walkaboutF, k2, finishG_eq, k1, visitEventsG_plain inl exts id hid, pruneG, specTrace, specList,
        List.append_nil] <;> rfl
theorem walkChildrenG_spec (inl : Nat → List Nat) (dact : Nat → Act) (exts : List When) :
    (ts : List Tree) → NoInline inl (idsList ts) →
      (walkChildrenF (finishG dact exts) inl exts ts).1 = specList exts (pruneListG dact ts) ∧
      ((walkChildrenF (finishG dact exts) inl exts ts).2 = none ∨
        (walkChildrenF (finishG dact exts) inl exts ts).2 = some .skipSiblings)
  | [] => fun _ => ⟨rfl, .inl rfl⟩
  | (.node id act cs) :: ts => by
    intro h
    obtain ⟨ht, hts⟩ := List.forall_mem_append.1 h
    have h1 := walkaboutG_spec inl dact exts (.node id act cs) ht
    obtain ⟨k1, k2⟩ := walkChildrenG_spec inl dact exts ts hts
    cases hb : stopsG dact id act <;>
      simp [walkChildrenF, pruneListG, specList, h1, hb, excOf, k1, k2]
end

/-- Whatever the main visitor's `depart_*` methods raise (no `visit_*` visiting nodes itself), the walk is the
documented walk over the tree pruned by the visit actions and by the SkipSiblings of the departures that ran. -/
theorem general_walk (inl : Nat → List Nat) (dact : Nat → Act) (exts : List When) (t : Tree)
    (h : NoInline inl (ids t)) :
    (walkaboutG inl dact exts t).1 = specTrace exts (pruneG dact t) :=
  congrArg Prod.fst (walkaboutG_spec inl dact exts t h)

/-- Nothing but a SkipSiblings of the walked node itself (raised by its visit, or by its departure if that ran)
leaves `walkabout` — when no `visit_*` visits nodes itself (`NoInline`). -/
theorem escape_general (inl : Nat → List Nat) (dact : Nat → Act) (exts : List When) (id : Nat) (act : Act)
    (cs : List Tree) (h : NoInline inl (ids (.node id act cs))) :
    (walkaboutG inl dact exts (.node id act cs)).2 = excOf (stopsG dact id act) :=
  congrArg Prod.snd (walkaboutG_spec inl dact exts (.node id act cs) h)

/-- Every extension that entered a node leaves it, nested like the pruned tree — also when departures raise, as long as
no `visit_*` visits nodes itself (`NoInline`). -/
theorem balanced_general (inl : Nat → List Nat) (dact : Nat → Act) (exts : List When) (t : Tree)
    (h : NoInline inl (ids t)) (e : Nat) (he : e < exts.length) :
    restrict (.ext e) (walkaboutG inl dact exts t).1 = brackets (pruneG dact t) ∧
    isDyck (restrict (.ext e) (walkaboutG inl dact exts t).1) = true := by
  rw [general_walk inl dact exts t h, spec_restrict_ext exts e he]
  exact ⟨rfl, isDyck_brackets _⟩

/-- no `depart_*` of a node in `l` raises, no `visit_*` of a node in `l` visits other nodes itself -/
def Plain (inl : Nat → List Nat) (dact : Nat → Act) (l : List Nat) : Prop :=
  ∀ n ∈ l, inl n = [] ∧ dact n = .none

instance (inl : Nat → List Nat) (dact : Nat → Act) (l : List Nat) : Decidable (Plain inl dact l) := by
  unfold Plain; exact inferInstance

mutual
theorem pruneG_plain (dact : Nat → Act) : (t : Tree) → (∀ n ∈ ids t, dact n = .none) → pruneG dact t = prune t
  | .node id act cs => by
    intro h
    have hcs := pruneListG_plain dact cs (List.forall_mem_cons.1 h).2
    cases act <;> simp [pruneG, prune, hcs]
theorem pruneListG_plain (dact : Nat → Act) :
    (ts : List Tree) → (∀ n ∈ idsList ts, dact n = .none) → pruneListG dact ts = pruneList ts
  | [] => fun _ => rfl
  | (.node id act cs) :: ts => by
    intro h
    obtain ⟨ht, hts⟩ := List.forall_mem_append.1 h
    simp [pruneListG, pruneList, stopsG, ht id List.mem_cons_self, pruneG_plain dact _ ht,
      pruneListG_plain dact ts hts]
end

/-- When no `depart_*` raises and no `visit_*` visits nodes itself, the general walk is `walkabout`, the walk
`prune_meaning`, `nested`, `enter_once`, `main_trace`, `builder_stack_empty` speak about. -/
theorem general_walk_plain (inl : Nat → List Nat) (dact : Nat → Act) (exts : List When) (t : Tree)
    (h : Plain inl dact (ids t)) :
    (walkaboutG inl dact exts t).1 = (walkabout exts t).1 := by
  rw [general_walk inl dact exts t (fun n hn => (h n hn).1), prune_meaning,
    pruneG_plain dact t (fun n hn => (h n hn).2)]

def exTree3 : Tree := .node 0 .none [.node 1 .none [], .node 2 .none []]

-- the hypotheses of `general_walk_plain` and of `general_walk` can be met
example : Plain (fun _ => []) (fun _ => .none) (ids exTree3) := by decide +kernel
example : NoInline (fun _ => []) (ids exTree3) := by decide +kernel

/-- today: `SkipSiblings` raised by the main visitor's departure of node 1 skips node 2 and every extension
leaves node 1; a `SkipNode` raised there is ignored -/
theorem new_departure_prune_balanced :
    restrict (.ext 0) (walkaboutG (fun _ => []) (fun n => if n = 1 then .skipSiblings else .none)
      [.after] exTree3).1 = [(.visit, 0), (.visit, 1), (.depart, 1), (.depart, 0)]
    ∧ (walkaboutG (fun _ => []) (fun n => if n = 1 then .skipNode else .none) [.before] exTree3).2 = none := by
  decide +kernel

/-- HISTORICAL (before 97d973e): `SkipSiblings` raised by the main visitor's departure of node 1: node 2 was
skipped as asked, but the AFTER (and OUTTER) extension entered node 1 and never left it. -/
theorem old_departure_prune_unbalanced :
    isDyck (restrict (.ext 0) (walkaboutGOld (fun _ => []) (fun n => if n = 1 then .skipSiblings else .none)
      [.after] exTree3).1) = false
    ∧ isDyck (restrict (.ext 0) (walkaboutGOld (fun _ => []) (fun n => if n = 1 then .skipSiblings else .none)
      [.outter] exTree3).1) = false
    ∧ (restrict (.ext 0) (walkaboutGOld (fun _ => []) (fun n => if n = 1 then .skipSiblings else .none)
      [.before] exTree3).1).contains (.visit, 2) = false := by decide +kernel

/-- HISTORICAL (before 97d973e): `SkipNode` raised by the main visitor's departure of node 1 left every enclosing
`walkabout`: the root was entered and never left, by the main visitor and by every extension. -/
theorem old_departure_prune_escape :
    (walkaboutGOld (fun _ => []) (fun n => if n = 1 then .skipNode else .none) [.before] exTree3).2 = some .skipNode
    ∧ isDyck (restrict (.ext 0) (walkaboutGOld (fun _ => []) (fun n => if n = 1 then .skipNode else .none)
      [.before] exTree3).1) = false := by decide +kernel

/-- what `generic_visit` called from a `visit_*` method does (the AST builder's `visit_Expr` did, for
`Module(body=[Expr(value=Call)])` = nodes 0, 1 and (inline) 2, until 090633d): every extension enters the inline
node and never leaves it … -/
theorem inline_visit_unbalanced_counterexample :
    isDyck (restrict (.ext 0) (walkaboutG (fun n => if n = 1 then [2] else []) (fun _ => .none) [.before]
      (.node 0 .none [.node 1 .none []])).1) = false := by decide +kernel

/-- … and an AFTER extension enters it (2) before the node (1) it belongs to. -/
theorem inline_visit_order_counterexample :
    restrict (.ext 0) (walkaboutG (fun n => if n = 1 then [2] else []) (fun _ => .none) [.after]
      (.node 0 .none [.node 1 .none []])).1
      = [(.visit, 0), (.visit, 2), (.visit, 1), (.depart, 1), (.depart, 0)] := by decide +kernel

/-- `_BaseVisitor.visit` / `depart`: a node is left through the same handler family it was entered through (the
method written for its class name, the lower-case spelling, or the generic handler), for every visitor that
defines its handlers in pairs -/
theorem dispatch_same_family (defined : List String) (cls : String) (h : Paired defined cls) :
    (dispatch defined "visit_" cls).family = (dispatch defined "depart_" cls).family := by
  simp only [dispatch, h.1, h.2, apply_ite Handler.family]
  simp only [Handler.family]

/-- the pairing hypothesis is needed: a visitor with `visit_N` but no `depart_N` enters through the
specific handler and leaves through the generic one -/
theorem dispatch_unpaired_counterexample :
    (dispatch ["visit_N"] "visit_" "N").family = .exact ∧ (dispatch ["visit_N"] "depart_" "N").family = .unknown := by
  decide +kernel

example : Paired ["visit_N", "depart_N", "visit_low", "depart_low"] "Low" := by
  unfold Paired; decide +kernel
example : (dispatch ["visit_N", "depart_N", "visit_low", "depart_low"] "visit_" "Low") = .lower "visit_low" := by decide +kernel
example : (dispatch ["visit_N", "depart_N"] "visit_" "SubN") = .unknown := by decide +kernel

/-! ## the departure-less traversal `Visitor.walk`

The traversal pydoctor's AST builder uses is `walkabout`.  `visitor.py` has a second public one, `Visitor.walk`,
which calls `visit()` only; its docstring says `walkabout` is "similar, except" for the departures (`SkipDeparture`:
"not applicable; ignore").  `walk_is_walkabout_visits` makes "similar" exact; the other statements about `walk`
follow from it. -/

def isVisit (e : Event) : Bool := e.kind == .visit

theorem filter_isVisit_evs_visit (id : Nat) (l : List Nat) :
    (evs .visit id l).filter isVisit = evs .visit id l := by
  induction l with
  | nil => rfl
  | cons _ _ ih => exact congrArg (_ :: ·) ih

theorem filter_isVisit_evs_depart (id : Nat) (l : List Nat) :
    (evs .depart id l).filter isVisit = [] := by
  induction l with
  | nil => rfl
  | cons _ _ ih => exact ih

theorem filter_isVisit_visitEvents (exts : List When) (id : Nat) :
    (visitEvents exts id).filter isVisit = visitEvents exts id := by
  simp only [visitEvents, List.filter_append, filter_isVisit_evs_visit]; rfl

theorem filter_isVisit_departEvents (exts : List When) (id : Nat) (b : Bool) :
    (departEvents exts id b).filter isVisit = [] := by
  simp only [departEvents, List.filter_append, filter_isVisit_evs_depart]; cases b <;> rfl

mutual
/-- `walk` is `walkabout` with every departure erased — same entries, same order, same pruning — and
`SkipSiblings` reaches the caller in exactly the same cases. -/
theorem walk_is_walkabout_visits (exts : List When) (t : Tree) :
    walk exts t = ((walkabout exts t).1.filter isVisit, (walkabout exts t).2) :=
  match t with
  | .node id act cs => by
    cases act <;>
      simp [walk, walkabout, List.filter_append, filter_isVisit_visitEvents, filter_isVisit_departEvents,
        walkKids_filter exts cs]
theorem walkKids_filter (exts : List When) :
    (ts : List Tree) → walkKids exts ts = (walkChildren exts ts).filter isVisit
  | [] => rfl
  | t :: ts => by
    simp only [walkKids, walkChildren, walk_is_walkabout_visits exts t, walkKids_filter exts ts]
    split <;> simp [List.filter_append]
end

theorem walk_filter (exts : List When) (t : Tree) : (walk exts t).1 = (walkabout exts t).1.filter isVisit :=
  congrArg Prod.fst (walk_is_walkabout_visits exts t)

mutual
/-- the documented walk without departures over a pruned tree: enter block, then the children left to right -/
def specVisits (exts : List When) : PTree → List Event
  | .node id _ cs => visitEvents exts id ++ specVisitsList exts cs
def specVisitsList (exts : List When) : List PTree → List Event
  | [] => []
  | t :: ts => specVisits exts t ++ specVisitsList exts ts
end

mutual
theorem specTrace_filter (exts : List When) :
    (p : PTree) → (specTrace exts p).filter isVisit = specVisits exts p
  | .node id md cs => by
    simp [specTrace, specVisits, List.filter_append, filter_isVisit_visitEvents, filter_isVisit_departEvents,
      specList_filter exts cs]
theorem specList_filter (exts : List When) :
    (ps : List PTree) → (specList exts ps).filter isVisit = specVisitsList exts ps
  | [] => rfl
  | p :: ps => (List.filter_append ..).trans
    (congr (congrArg _ (specTrace_filter exts p)) (specList_filter exts ps))
end

theorem restrict_filter_isVisit (w : Who) (tr : List Event) :
    restrict w (tr.filter isVisit) = (restrict w tr).filter (fun x => x.1 = .visit) := by
  simp only [restrict, isVisit, List.filter_map, List.filter_filter, Function.comp_def, Bool.and_comm,
    Bool.beq_eq_decide_eq]

/-- The walk performed by `walk` is the documented enter-only walk over the pruned tree. -/
theorem walk_meaning (exts : List When) (t : Tree) :
    (walk exts t).1 = specVisits exts (prune t) := by
  rw [walk_filter, prune_meaning, specTrace_filter]

theorem walk_escape_iff (exts : List When) (id : Nat) (act : Act) (cs : List Tree) :
    (walk exts (.node id act cs)).2 = true ↔ act = .skipSiblings := by
  rw [walk_is_walkabout_visits, escape_iff]

/-- `walk` never calls a departure, of the main visitor or of an extension. -/
theorem walk_visits_only (exts : List When) (t : Tree) :
    ∀ e ∈ (walk exts t).1, e.kind = .visit := by
  intro e he
  rw [walk_filter] at he
  exact eq_of_beq (List.mem_filter.mp he).2

/-- One registered extension sees, under `walk`, the reached nodes in preorder. -/
theorem walk_ext_preorder (exts : List When) (t : Tree) (e : Nat) (he : e < exts.length) :
    (restrict (.ext e) (walk exts t).1).map (·.2) = pids (prune t) := by
  rw [walk_filter, restrict_filter_isVisit, nested exts t e he, visits_brackets]

/-- the main visitor sees the same nodes in the same order -/
theorem walk_main_preorder (exts : List When) (t : Tree) :
    (restrict .main (walk exts t).1).map (·.2) = pids (prune t) := by
  rw [walk_filter, restrict_filter_isVisit, main_trace, visits_mainBrackets]

/-- With distinct nodes, no extension enters a node twice under `walk`. -/
theorem walk_enter_once (exts : List When) (t : Tree) (e : Nat) (he : e < exts.length)
    (hn : (ids t).Nodup) :
    ((restrict (.ext e) (walk exts t).1).map (·.2)).Nodup := by
  rw [walk_ext_preorder exts t e he]
  exact (pids_sublist t).nodup hn

/-- An extension enters, under `walk`, exactly the nodes it enters under `walkabout`, in the same order. -/
theorem walk_same_nodes_as_walkabout (exts : List When) (t : Tree) (e : Nat) :
    restrict (.ext e) (walk exts t).1
      = (restrict (.ext e) (walkabout exts t).1).filter (fun x => x.1 = .visit) := by
  rw [walk_filter, restrict_filter_isVisit]

/-- the entry order inside one node is the documented one under `walk` too: the trace of a leaf is
`visitEvents` (`order_visit`). -/
theorem walk_leaf (exts : List When) (id : Nat) (act : Act) :
    (walk exts (.node id act [])).1 = visitEvents exts id := by
  cases act <;> simp [walk, walkKids]

-- the hypotheses of `walk_enter_once` can be met
example : (ids exTree).Nodup ∧ (0 : Nat) < [When.after].length := by decide +kernel
example : restrict (.ext 0) (walk [.after] exTree).1 = [(.visit, 0), (.visit, 1), (.visit, 2)] := by decide +kernel
example : (walk [.after] (.node 1 .skipSiblings [])).2 = true := by decide +kernel

end Visitor
