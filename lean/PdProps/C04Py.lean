/-
C04, the Python machine (`PyImp.run`): every namespace entry of every reachable state is justified by the static
relation `Jpy` (`PyInv`, `execStmt_ok`, `ensure_ok`, `run_py_ok`).  Hence what `pyDenotes` answers is derivable
(`pyDenotes_jpy`): by `JpyI` — `Jpy` whose attribute steps may find the name in the body of SOME class (`Step`: the MRO is
over-approximated) — and by plain `Jpy` when every class step found the attribute in the class itself (`pyOwn`), which
is always so in a project without base classes (`pyOwn_of_noBases`).
-/
import PdModel.PyImp
import PdProps.C04Static
import PdProps.C05

namespace Imports
open Registry
open PyImp

/-- the static value a runtime value stands for -/
def svalV (s : PyImp.St) : Val → Option SVal
  | .mod m => some (.mod m)
  | .cls h => (s.heap[h]?).map (fun co => .dfn co.mod co.cp)
  | .obj m cp => some (.dfn m cp)

/-- every entry of the namespace is a possible binding of scope `S` -/
def NsOk (proj : Project) (s : PyImp.St) (S : Site) (ns : Ns) : Prop :=
  ∀ x v, dget ns x = some v → ∃ sv, svalV s v = some sv ∧ Jpy proj S [x] sv

def IsClassSite (proj : Project) (S : Site) : Prop :=
  ∃ cp n bs body full, S.2 = cp ++ [n] ∧ siteBody proj (S.1, cp) = some full ∧ Stmt.classDef n bs body ∈ full

theorem IsClassSite.ne {proj : Project} {S : Site} (h : IsClassSite proj S) : S.2 ≠ [] := by
  obtain ⟨cp, n, _, _, _, h, _⟩ := h
  rw [h]; simp

structure PyInv (proj : Project) (s : PyImp.St) : Prop where
  mods : ∀ m, NsOk proj s (m, []) (nsOf s m)
  heap : ∀ (h : Nat) (co : ClassObj), s.heap[h]? = some co → NsOk proj s (co.mod, co.cp) co.ns
  alls : ∀ m l, allOf s m = some l → ∀ x ∈ l, x ∈ allNames (bodyOf proj m)
  -- read only by `getAttr_own_nb`: without base classes an attribute of a class is found in the class itself
  nobases : noBases proj = true → ∀ (h : Nat) (co : ClassObj), s.heap[h]? = some co → co.bases = []
  cls : ∀ (h : Nat) (co : ClassObj), s.heap[h]? = some co → IsClassSite proj (co.mod, co.cp)

/-- class objects persist -/
def HeapExt (s s' : PyImp.St) : Prop := ∀ (h : Nat) (co : ClassObj), s.heap[h]? = some co → s'.heap[h]? = some co

theorem HeapExt.refl (s : PyImp.St) : HeapExt s s := fun _ _ h => h
theorem HeapExt.trans {a b c : PyImp.St} (h1 : HeapExt a b) (h2 : HeapExt b c) : HeapExt a c :=
  fun h co hh => h2 h co (h1 h co hh)

theorem svalV_ext {s s' : PyImp.St} (he : HeapExt s s') {v : Val} {sv : SVal} (h : svalV s v = some sv) :
    svalV s' v = some sv := by
  cases v with
  | mod m => exact h
  | obj m cp => exact h
  | cls hh =>
    obtain ⟨co, hc, rfl⟩ := Option.map_eq_some_iff.1 h
    simp [svalV, he hh co hc]

theorem NsOk.ext {proj : Project} {s s' : PyImp.St} (he : HeapExt s s') {S : Site} {ns : Ns} (h : NsOk proj s S ns) :
    NsOk proj s' S ns := fun x v hx => by
  obtain ⟨sv, h1, h2⟩ := h x v hx
  exact ⟨sv, svalV_ext he h1, h2⟩

theorem NsOk.dset {proj : Project} {s : PyImp.St} {S : Site} {ns : Ns} (h : NsOk proj s S ns) {k : Name} {v : Val}
    {sv : SVal} (hv : svalV s v = some sv) (hj : Jpy proj S [k] sv) : NsOk proj s S (dset ns k v) := by
  intro x v' hx
  by_cases hk : x = k
  · subst hk; rw [dset_get_same] at hx; injection hx with hx; subst hx; exact ⟨sv, hv, hj⟩
  · rw [dset_get_other _ _ _ _ hk] at hx; exact h x v' hx

theorem NsOk.nil {proj : Project} {s : PyImp.St} {S : Site} : NsOk proj s S [] := fun x v h => by simp [dget] at h

theorem nsOf_bindGlobal {s : PyImp.St} {m t : Nat} {k : Name} {v : Val} :
    nsOf (bindGlobal s m k v) t = if t = m ∧ m < s.ns.length then dset (nsOf s m) k v else nsOf s t := by
  simp only [nsOf, bindGlobal, getD_set]

theorem pyInv_bindGlobal {proj : Project} {s : PyImp.St} (hI : PyInv proj s) {m : Nat} {k : Name} {v : Val}
    {sv : SVal} (hv : svalV s v = some sv) (hj : Jpy proj (m, []) [k] sv) : PyInv proj (bindGlobal s m k v) := by
  have he : HeapExt s (bindGlobal s m k v) := fun _ _ h => h
  refine ⟨fun t => ?_, fun h co hh => ?_, hI.alls, hI.nobases, hI.cls⟩
  · rw [nsOf_bindGlobal]
    split
    · rename_i hc; rw [hc.1]
      exact ((hI.mods m).dset hv hj).ext he
    · exact (hI.mods t).ext he
  · exact (hI.heap h co hh).ext he

theorem importFromAttr_j {proj : Project} {s : PyImp.St} (hI : PyInv proj s) {t : Nat} {y : Name} {v : Val}
    (h : importFromAttr proj s t y = some v) : ∃ sv, svalV s v = some sv ∧ Jpy proj (t, []) [y] sv := by
  revert h
  fun_cases importFromAttr proj s t y <;> intro h
  case case1 _ hm => cases h; exact hI.mods t y _ hm
  case case3 md hp c hc _ => cases h; exact ⟨.mod c, rfl, Jpy.child (by rw [pathOf_eq hp]; exact hc)⟩
  all_goals cases h

theorem importChain_j {proj : Project} {s : PyImp.St} (hI : PyInv proj s) :
    ∀ (ys : List Name) (t : Nat) (v : Val), importChain proj s (.mod t) ys = some v → ys ≠ [] →
      ∃ sv, svalV s v = some sv ∧ Jpy proj (t, []) ys sv
  | [], _, _, _, hne => absurd rfl hne
  | [y], t, v, h, _ => by
    simp only [importChain] at h
    cases ha : importFromAttr proj s t y with
    | none => simp [ha] at h
    | some w =>
      simp only [ha] at h
      cases w <;> simp only [Option.some.injEq] at h <;> subst h <;> exact importFromAttr_j hI ha
  | y :: y2 :: ys, t, v, h, _ => by
    simp only [importChain] at h
    cases ha : importFromAttr proj s t y with
    | none => simp [ha] at h
    | some w =>
      simp only [ha] at h
      obtain ⟨sw, hsw, hjw⟩ := importFromAttr_j hI ha
      cases w with
      | mod t' =>
        simp only [svalV, Option.some.injEq] at hsw; subst hsw
        obtain ⟨sv, hsv, hj⟩ := importChain_j hI (y2 :: ys) t' v h (by simp)
        exact ⟨sv, hsv, Jpy.cons hjw hj⟩
      | cls hh => simp [importChain] at h
      | obj m' cp' => simp [importChain] at h

def ImpOk (proj : Project) (imp : PyImp.St → Path → PyImp.St) : Prop :=
  ∀ s p, PyInv proj s → PyInv proj (imp s p) ∧ HeapExt s (imp s p)

def FrOk (proj : Project) (s : PyImp.St) (S : Site) (fr : Option Ns) : Prop :=
  (∀ l, fr = some l → NsOk proj s S l) ∧ (fr = none → S.2 = [])

theorem FrOk.ext {proj : Project} {s s' : PyImp.St} (he : HeapExt s s') {S : Site} {fr : Option Ns}
    (h : FrOk proj s S fr) : FrOk proj s' S fr := ⟨fun l hl => (h.1 l hl).ext he, h.2⟩

/-- the outcome of one statement keeps the invariants -/
def ExecOk (proj : Project) (S : Site) (x x' : PyImp.St × Option Ns) : Prop :=
  PyInv proj x'.1 ∧ HeapExt x.1 x'.1 ∧ FrOk proj x'.1 S x'.2 ∧ (x'.2 = none ↔ x.2 = none)

/-- the invariant looks at the namespaces, the heap and the `__all__` table only -/
theorem PyInv.congr {proj : Project} {s s' : PyImp.St} (hI : PyInv proj s) (hns : s'.ns = s.ns)
    (hh : s'.heap = s.heap) (ha : s'.alls = s.alls) : PyInv proj s' := by
  obtain ⟨_, _, _, _, _⟩ := s; obtain ⟨_, _, _, _, _⟩ := s'
  simp only at hns hh ha; subst hns hh ha
  exact ⟨hI.mods, hI.heap, hI.alls, hI.nobases, hI.cls⟩

theorem ExecOk.refl {proj : Project} {S : Site} {x : PyImp.St × Option Ns} (hI : PyInv proj x.1)
    (hf : FrOk proj x.1 S x.2) : ExecOk proj S x x := ⟨hI, HeapExt.refl _, hf, Iff.rfl⟩

theorem ExecOk.fail {proj : Project} {S : Site} {x : PyImp.St × Option Ns} {s1 : PyImp.St} (hI : PyInv proj s1)
    (he : HeapExt x.1 s1) (hf : FrOk proj x.1 S x.2) : ExecOk proj S x (fail (s1, x.2)) :=
  ⟨hI.congr rfl rfl rfl, he, hf.ext he, Iff.rfl⟩

theorem ExecOk.state {proj : Project} {S : Site} {x : PyImp.St × Option Ns} {s1 : PyImp.St} (hI : PyInv proj s1)
    (he : HeapExt x.1 s1) (hf : FrOk proj x.1 S x.2) : ExecOk proj S x (s1, x.2) :=
  ⟨hI, he, hf.ext he, Iff.rfl⟩

theorem ExecOk.guard {proj : Project} {S : Site} {x k : PyImp.St × Option Ns} {s1 : PyImp.St} (hI : PyInv proj s1)
    (he : HeapExt x.1 s1) (hf : FrOk proj x.1 S x.2) (h : ExecOk proj S x k) :
    ExecOk proj S x (if s1.err = true then (s1, x.2) else k) := by
  split
  · exact ExecOk.state hI he hf
  · exact h

/-- `STORE_NAME` of a justified value keeps the invariants (globals, or the class-body locals) -/
theorem ExecOk.bind {proj : Project} {m : Nat} {cp : Path} {x : PyImp.St × Option Ns} {s1 : PyImp.St}
    (hI : PyInv proj s1) (he : HeapExt x.1 s1) (hf : FrOk proj x.1 (m, cp) x.2) {k : Name} {v : Val} {sv : SVal}
    (hv : svalV s1 v = some sv) (hj : Jpy proj (m, cp) [k] sv) :
    ExecOk proj (m, cp) x (PyImp.bind s1 m x.2 k v) := by
  obtain ⟨s0, fr⟩ := x
  cases fr with
  | none =>
    obtain rfl : cp = [] := hf.2 rfl
    exact ⟨pyInv_bindGlobal hI hv hj, fun h co hh => he h co hh, ⟨fun l h => (by cases h), fun _ => rfl⟩, Iff.rfl⟩
  | some l =>
    refine ⟨hI, he, ⟨fun l' h => ?_, fun h => (by cases h)⟩, by simp [PyImp.bind]⟩
    cases h
    exact ((hf.1 l rfl).ext he).dset hv hj

theorem execImport_ok {proj : Project} {imp : PyImp.St → Path → PyImp.St} (himp : ImpOk proj imp) {m : Nat}
    {cp : Path} {full : List Stmt} (hb : siteBody proj (m, cp) = some full) {target : Path} {asname : Option Name}
    (hst : Stmt.importMod target asname ∈ full) {x : PyImp.St × Option Ns} (hI : PyInv proj x.1)
    (hf : FrOk proj x.1 (m, cp) x.2) : ExecOk proj (m, cp) x (execImport proj imp m target asname x) := by
  unfold execImport
  refine ExecOk.guard hI (HeapExt.refl _) hf ?_
  obtain ⟨hI1, hx1⟩ := himp x.1 target hI
  refine ExecOk.guard hI1 hx1 hf ?_
  cases target with
  | nil => exact ExecOk.fail hI1 hx1 hf
  | cons h rest =>
    simp only
    cases ht : modIdx proj [h] with
    | none => exact ExecOk.fail hI1 hx1 hf
    | some top =>
      simp only
      cases asname with
      | none => exact ExecOk.bind hI1 hx1 hf rfl (Jpy.importTop hb hst ht)
      | some a =>
        simp only
        cases hc : importChain proj (imp x.1 (h :: rest)) (.mod top) rest with
        | none => exact ExecOk.fail hI1 hx1 hf
        | some v =>
          simp only
          cases rest with
          | nil =>
            simp only [importChain, Option.some.injEq] at hc; subst hc
            exact ExecOk.bind hI1 hx1 hf rfl (Jpy.importAs1 hb hst ht)
          | cons y ys =>
            obtain ⟨sv, hsv, hj⟩ := importChain_j hI1 (y :: ys) top v hc (by simp)
            exact ExecOk.bind hI1 hx1 hf hsv (Jpy.importAs hb hst ht hj)

theorem fromlistOne_ok {proj : Project} {imp : PyImp.St → Path → PyImp.St} (himp : ImpOk proj imp) (T : Path) (t : Nat)
    (s : PyImp.St) (n : Name) (hI : PyInv proj s) :
    PyInv proj (fromlistOne proj imp T t s n) ∧ HeapExt s (fromlistOne proj imp T t s n) := by
  unfold fromlistOne
  split
  · split
    · exact himp s _ hI
    · exact ⟨hI, HeapExt.refl s⟩
  · exact ⟨hI, HeapExt.refl s⟩

theorem foldl_pyOk {proj : Project} {α : Type} {f : PyImp.St → α → PyImp.St} :
    ∀ (l : List α) (s : PyImp.St), PyInv proj s →
      (∀ x ∈ l, ∀ s, PyInv proj s → PyInv proj (f s x) ∧ HeapExt s (f s x)) →
      PyInv proj (l.foldl f s) ∧ HeapExt s (l.foldl f s)
  | [], s, hI, _ => ⟨hI, HeapExt.refl s⟩
  | x :: l, s, hI, hf => by
    obtain ⟨h1, e1⟩ := hf x (List.mem_cons_self ..) s hI
    obtain ⟨h2, e2⟩ := foldl_pyOk l _ h1 (fun y hy => hf y (List.mem_cons_of_mem _ hy))
    exact ⟨h2, e1.trans e2⟩

theorem execImportFrom_ok {proj : Project} {imp : PyImp.St → Path → PyImp.St} (himp : ImpOk proj imp) {m : Nat}
    {cp : Path} {full : List Stmt} (hb : siteBody proj (m, cp) = some full) {lvl : Nat} {M : Path} {n : Name}
    {a : Option Name} (hst : Stmt.importFrom lvl M n a ∈ full) {x : PyImp.St × Option Ns} (hI : PyInv proj x.1)
    (hf : FrOk proj x.1 (m, cp) x.2) : ExecOk proj (m, cp) x (execImportFrom proj imp m lvl M n a x) := by
  unfold execImportFrom
  refine ExecOk.guard hI (HeapExt.refl _) hf ?_
  cases hT : pyAbsName proj m lvl M with
  | none => exact ExecOk.fail hI (HeapExt.refl _) hf
  | some T =>
    simp only
    obtain ⟨hI1, hx1⟩ := himp x.1 T hI
    refine ExecOk.guard hI1 hx1 hf ?_
    cases ht : modIdx proj T with
    | none => exact ExecOk.fail hI1 hx1 hf
    | some t =>
      simp only
      obtain ⟨hI2, hx2⟩ := fromlistOne_ok himp T t _ n hI1
      refine ExecOk.guard hI2 (hx1.trans hx2) hf ?_
      cases hv : importFromAttr proj (fromlistOne proj imp T t (imp x.1 T) n) t n with
      | none => exact ExecOk.fail hI2 (hx1.trans hx2) hf
      | some v =>
        simp only
        obtain ⟨sv, hsv, hj⟩ := importFromAttr_j hI2 hv
        exact ExecOk.bind hI2 (hx1.trans hx2) hf hsv (Jpy.from hb hst (target_of hT ht) hj)

theorem starBind_ok {proj : Project} {m t : Nat} {full : List Stmt} {lvl : Nat} {M : Path}
    (hb : siteBody proj (m, []) = some full) (hst : Stmt.importStar lvl M ∈ full) (ht : target proj m lvl M = some t)
    {s : PyImp.St} {x : Name} (hI : PyInv proj s) (hok : starOk proj t x) :
    PyInv proj (starBind m t s x) ∧ HeapExt s (starBind m t s x) := by
  unfold starBind
  split
  · exact ⟨hI, HeapExt.refl s⟩
  · cases hv : modAttr s t x with
    | none => exact ⟨hI.congr rfl rfl rfl, fun _ _ h => h⟩
    | some v =>
      obtain ⟨sv, hsv, hj⟩ := hI.mods t x v hv
      exact ⟨pyInv_bindGlobal hI hsv (Jpy.star hb hst ht hok hj), fun _ _ h => h⟩

theorem execImportStar_ok {proj : Project} {imp : PyImp.St → Path → PyImp.St} (himp : ImpOk proj imp) {m : Nat}
    {cp : Path} {full : List Stmt} (hb : siteBody proj (m, cp) = some full) {lvl : Nat} {M : Path}
    (hst : Stmt.importStar lvl M ∈ full) {x : PyImp.St × Option Ns} (hI : PyInv proj x.1)
    (hf : FrOk proj x.1 (m, cp) x.2) : ExecOk proj (m, cp) x (execImportStar proj imp m lvl M x) := by
  unfold execImportStar
  refine ExecOk.guard hI (HeapExt.refl _) hf ?_
  by_cases hfs : x.2.isSome = true
  · simp only [hfs, if_true]
    exact ExecOk.fail hI (HeapExt.refl _) hf
  · simp only [hfs]
    have hnone : x.2 = none := by cases h : x.2 <;> simp_all
    have hcp : cp = [] := hf.2 hnone
    subst hcp
    cases hT : pyAbsName proj m lvl M with
    | none => exact ExecOk.fail hI (HeapExt.refl _) hf
    | some T =>
      simp only
      obtain ⟨hI1, hx1⟩ := himp x.1 T hI
      refine ExecOk.guard hI1 hx1 hf ?_
      cases ht : modIdx proj T with
      | none => exact ExecOk.fail hI1 hx1 hf
      | some t =>
        simp only
        have h2 : PyInv proj (starPrep proj imp T t (imp x.1 T)) ∧ HeapExt (imp x.1 T) (starPrep proj imp T t (imp x.1 T)) := by
          unfold starPrep
          cases allOf (imp x.1 T) t with
          | none => exact ⟨hI1, HeapExt.refl _⟩
          | some l => exact foldl_pyOk l _ hI1 (fun n _ s hI => fromlistOne_ok himp T t s n hI)
        obtain ⟨hI2, hx2⟩ := h2
        generalize starPrep proj imp T t (imp x.1 T) = s2 at hI2 hx2 ⊢
        refine ExecOk.guard hI2 (hx1.trans hx2) hf ?_
        have hnames : ∀ y ∈ starNamesPy s2 t, starOk proj t y := by
          intro y hy
          unfold starNamesPy at hy
          cases ha : allOf s2 t with
          | some l => simp only [ha] at hy; exact Or.inl (hI2.alls t l ha y hy)
          | none =>
            simp only [ha, List.mem_filter] at hy
            exact Or.inr (by simpa [isPublic] using hy.2)
        obtain ⟨hI3, hx3⟩ := foldl_pyOk _ s2 hI2
          (fun y hy _ hI => starBind_ok hb hst (target_of hT ht) hI (hnames y hy))
        exact ExecOk.state hI3 ((hx1.trans hx2).trans hx3) hf

theorem execDef_ok {proj : Project} {m : Nat} {cp : Path} {full : List Stmt} (hb : siteBody proj (m, cp) = some full)
    {st : Stmt} {n : Name} (hst : st ∈ full) (hd : st.defName = some n) {x : PyImp.St × Option Ns}
    (hI : PyInv proj x.1) (hf : FrOk proj x.1 (m, cp) x.2) : ExecOk proj (m, cp) x (execDef m cp n x) := by
  unfold execDef
  refine ExecOk.guard hI (HeapExt.refl _) hf ?_
  exact ExecOk.bind hI (HeapExt.refl _) hf rfl (Jpy.dfn hb hst hd)

theorem allOf_set {s : PyImp.St} {m t : Nat} {v : Option (List Name)} :
    allOf { s with alls := s.alls.set m v } t = if t = m ∧ m < s.alls.length then v else allOf s t := by
  simp only [allOf, getD_set]

theorem execAll_ok {proj : Project} {m : Nat} {cp : Path} {full : List Stmt} (hb : siteBody proj (m, cp) = some full)
    {l : List Name} (hst : Stmt.allAssign l ∈ full) {x : PyImp.St × Option Ns}
    (hI : PyInv proj x.1) (hf : FrOk proj x.1 (m, cp) x.2) : ExecOk proj (m, cp) x (execAll m l x) := by
  unfold execAll
  refine ExecOk.guard hI (HeapExt.refl _) hf ?_
  cases hfr : x.2 with
  | some l' => exact ExecOk.refl hI hf
  | none =>
    have hcp : cp = [] := hf.2 hfr
    subst hcp
    have hfull := siteBody_mod hb
    refine ⟨⟨hI.mods, hI.heap, ?_, hI.nobases, hI.cls⟩, fun _ _ h => h, ⟨fun l' hl' => (by cases hl'), fun _ => rfl⟩, by rw [hfr]⟩
    intro t l' hl' y hy
    have hl2 : allOf { x.1 with alls := x.1.alls.set m (some l) } t = some l' := hl'
    rw [allOf_set] at hl2
    split at hl2
    · rename_i hc
      injection hl2 with hl2; subst hl2
      rw [hc.1, ← hfull]; exact mem_allNames.2 ⟨_, hst, hy⟩
    · exact hI.alls t l' hl2 y hy

theorem ExecOk.trans {proj : Project} {S : Site} {a b c : PyImp.St × Option Ns} (h1 : ExecOk proj S a b)
    (h2 : ExecOk proj S b c) : ExecOk proj S a c :=
  ⟨h2.1, h1.2.1.trans h2.2.1, h2.2.2.1, h2.2.2.2.trans h1.2.2.2⟩

theorem PyInv.push {proj : Project} {s : PyImp.St} (hI : PyInv proj s) (co : ClassObj)
    (hns : NsOk proj s (co.mod, co.cp) co.ns) (hcls : IsClassSite proj (co.mod, co.cp))
    (hnb : noBases proj = true → co.bases = []) :
    PyInv proj { s with heap := s.heap ++ [co] } ∧ HeapExt s { s with heap := s.heap ++ [co] } := by
  have hext : HeapExt s { s with heap := s.heap ++ [co] } := fun h c hh => by
    simp only; rw [List.getElem?_append_left (List.getElem?_eq_some_iff.1 hh).1]; exact hh
  -- an object of the new heap is an old one, or the new one
  have hcases : ∀ {h : Nat} {c : ClassObj}, (s.heap ++ [co])[h]? = some c → s.heap[h]? = some c ∨ c = co := by
    intro h c hh
    by_cases hlt : h < s.heap.length
    · rw [List.getElem?_append_left hlt] at hh; exact Or.inl hh
    · have hlen := (List.getElem?_eq_some_iff.1 hh).1
      simp only [List.length_append, List.length_singleton] at hlen
      rw [show h = s.heap.length by omega] at hh
      simp only [List.getElem?_concat_length, Option.some.injEq] at hh
      exact Or.inr hh.symm
  refine ⟨⟨fun t => (hI.mods t).ext hext, fun h c hh => ?_, hI.alls, fun hn h c hh => ?_, fun h c hh => ?_⟩, hext⟩
  · rcases hcases hh with hold | rfl
    · exact (hI.heap h c hold).ext hext
    · exact hns.ext hext
  · rcases hcases hh with hold | rfl
    · exact hI.nobases hn h c hold
    · exact hnb hn
  · rcases hcases hh with hold | rfl
    · exact hI.cls h c hold
    · exact hcls

theorem finishClass_ok {proj : Project} {m : Nat} {cp : Path} {full : List Stmt} (hb : siteBody proj (m, cp) = some full)
    {name : Name} {bs : List Path} {body : List Stmt} (hst : Stmt.classDef name bs body ∈ full)
    {x : PyImp.St × Option Ns} {s1 : PyImp.St} {fr1 : Option Ns} (hs : List Nat) (hhs : noBases proj = true → hs = [])
    (hI : PyInv proj s1) (he : HeapExt x.1 s1) (hf : FrOk proj x.1 (m, cp) x.2)
    (hfi : FrOk proj s1 (m, cp ++ [name]) fr1) : ExecOk proj (m, cp) x (finishClass m cp name hs x.2 s1 fr1) := by
  unfold finishClass
  refine ExecOk.guard hI he hf ?_
  obtain ⟨hI2, hext⟩ := hI.push ⟨m, cp ++ [name], hs, fr1.getD []⟩
    (by cases hfr1 : fr1 with
      | none => exact NsOk.nil
      | some l => exact hfi.1 l hfr1)
    ⟨cp, name, bs, body, full, rfl, hb, hst⟩ hhs
  have hv : svalV { s1 with heap := s1.heap ++ [⟨m, cp ++ [name], hs, fr1.getD []⟩] } (.cls s1.heap.length) =
      some (.dfn m (cp ++ [name])) := by simp [svalV]
  generalize ({ s1 with heap := s1.heap ++ [⟨m, cp ++ [name], hs, fr1.getD []⟩] } : PyImp.St) = s2 at hI2 hext hv ⊢
  by_cases hm : (PyImp.mroOf s2 s1.heap.length).isNone = true
  · rw [if_pos hm]; exact ExecOk.fail hI2 (he.trans hext) hf
  · rw [if_neg hm]; exact ExecOk.bind hI2 (he.trans hext) hf hv (Jpy.dfn hb hst rfl)

mutual
theorem execStmt_ok {proj : Project} {rank : List Nat} (wf : WFacts proj rank) {imp : PyImp.St → Path → PyImp.St}
    (himp : ImpOk proj imp) {m : Nat} :
    ∀ (st : Stmt) (cp : Path) (full : List Stmt) (x : PyImp.St × Option Ns), siteBody proj (m, cp) = some full →
      st ∈ full → PyInv proj x.1 → FrOk proj x.1 (m, cp) x.2 → ExecOk proj (m, cp) x (execStmt proj imp m cp st x)
  | .importMod _ _, _, _, _, hb, hst, hI, hf => execImport_ok himp hb hst hI hf
  | .importFrom _ _ _ _, _, _, _, hb, hst, hI, hf => execImportFrom_ok himp hb hst hI hf
  | .importStar _ _, _, _, _, hb, hst, hI, hf => execImportStar_ok himp hb hst hI hf
  | .classDef name bs body, cp, full, x, hb, hst, hI, hf => by
    simp only [execStmt]
    refine ExecOk.guard hI (HeapExt.refl _) hf ?_
    cases hev : evalBases x.1 m x.2 bs with
    | none =>
      exact ExecOk.fail hI (HeapExt.refl _) hf
    | some hs =>
      simp only
      have hbi : siteBody proj (m, cp ++ [name]) = some body := siteBody_snoc hb (findClass_of_mem wf hb hst)
      have hfi0 : FrOk proj x.1 (m, cp ++ [name]) (some []) :=
        ⟨fun l hl => by injection hl with hl; subst hl; exact NsOk.nil, fun h => by cases h⟩
      have hin := execStmts_ok wf himp body (cp ++ [name]) body (x.1, some []) hbi (fun _ h => h) hI hfi0
      obtain ⟨hI1, hx1, hfi1, _⟩ := hin
      have hhs : noBases proj = true → hs = [] := by
        intro hn
        have hbs : bs = [] := by
          have := allProj_spec hn hb hst
          simpa using this
        subst hbs
        simp [evalBases] at hev
        exact hev
      exact finishClass_ok hb hst hs hhs hI1 hx1 hf hfi1
  | .funcDef _, _, _, _, hb, hst, hI, hf => execDef_ok hb hst rfl hI hf
  | .assign _ _, _, _, _, hb, hst, hI, hf => execDef_ok hb hst rfl hI hf
  | .allAssign _, _, _, _, hb, hst, hI, hf => execAll_ok hb hst hI hf
theorem execStmts_ok {proj : Project} {rank : List Nat} (wf : WFacts proj rank) {imp : PyImp.St → Path → PyImp.St}
    (himp : ImpOk proj imp) {m : Nat} :
    ∀ (sts : List Stmt) (cp : Path) (full : List Stmt) (x : PyImp.St × Option Ns), siteBody proj (m, cp) = some full →
      (∀ st ∈ sts, st ∈ full) → PyInv proj x.1 → FrOk proj x.1 (m, cp) x.2 →
      ExecOk proj (m, cp) x (execStmts proj imp m cp sts x)
  | [], _, _, _, _, _, hI, hf => ExecOk.refl hI hf
  | st :: rest, cp, full, x, hb, hsub, hI, hf => by
    have h1 := execStmt_ok wf himp st cp full x hb (hsub st (List.mem_cons_self ..)) hI hf
    have h2 := execStmts_ok wf himp rest cp full _ hb (fun y hy => hsub y (List.mem_cons_of_mem _ hy)) h1.1 h1.2.2.1
    exact h1.trans h2
end

theorem ite_pyOk {proj : Project} {c : Prop} [Decidable c] {s a b : PyImp.St} (ha : PyInv proj a ∧ HeapExt s a)
    (hb : PyInv proj b ∧ HeapExt s b) : PyInv proj (if c then a else b) ∧ HeapExt s (if c then a else b) := by
  split
  · exact ha
  · exact hb

theorem ensure_ok {proj : Project} {rank : List Nat} (wf : WFacts proj rank) : ∀ f, ImpOk proj (ensure proj f) := by
  intro f
  induction f with
  | zero => intro s p hI; simp only [ensure]; exact ⟨hI.congr rfl rfl rfl, fun _ _ h => h⟩
  | succ f ih =>
    intro s p hI
    simp only [ensure]
    refine ite_pyOk ⟨hI, HeapExt.refl s⟩ ?_
    cases hm : modIdx proj p with
    | none => exact ⟨hI.congr rfl rfl rfl, fun _ _ h => h⟩
    | some m =>
      simp only
      refine ite_pyOk ⟨hI, HeapExt.refl s⟩ ?_
      generalize hs1 : (if p.length ≤ 1 then s else ensure proj f s p.dropLast) = s1
      have h1 : PyInv proj s1 ∧ HeapExt s s1 := by
        rw [← hs1]; exact ite_pyOk ⟨hI, HeapExt.refl s⟩ (ih s _ hI)
      obtain ⟨hI1, hx1⟩ := h1
      refine ite_pyOk ⟨hI1, hx1⟩ ?_
      refine ite_pyOk ⟨hI1, hx1⟩ ?_
      generalize (decide (p.length ≤ 1) || match modIdx proj p.dropLast with
        | some q => isPkg proj q | none => false) = parentOk
      refine ite_pyOk ⟨hI1.congr rfl rfl rfl, fun h co hh => hx1 h co hh⟩ ?_
      obtain ⟨hlt, hpath⟩ := modIdx_spec hm
      have hmd : proj[m]? = some proj[m] := by simp [hlt]
      simp only [hmd]
      have hbody : siteBody proj (m, []) = some proj[m].body := by
        rw [siteBody_zero hlt, bodyOf_eq hmd]
      have hI2 : PyInv proj { s1 with ms := s1.ms.set m .executing } := hI1.congr rfl rfl rfl
      have hex := execStmts_ok wf ih proj[m].body [] proj[m].body
        ({ s1 with ms := s1.ms.set m .executing }, none) hbody (fun _ h => h) hI2
        ⟨fun l hl => (by cases hl), fun _ => rfl⟩
      obtain ⟨hI3, hx3, _, _⟩ := hex
      generalize (execStmts proj (ensure proj f) m [] proj[m].body
        ({ s1 with ms := s1.ms.set m .executing }, none)).1 = s3 at hI3 hx3 ⊢
      have hx13 : HeapExt s s3 := hx1.trans (fun h co hh => hx3 h co hh)
      refine ite_pyOk ⟨hI3, hx13⟩ ?_
      have hI4 : PyInv proj { s3 with ms := s3.ms.set m .done } := hI3.congr rfl rfl rfl
      refine ite_pyOk ⟨hI4, hx13⟩ ?_
      cases hq : modIdx proj p.dropLast with
      | none => exact ⟨hI4, hx13⟩
      | some q =>
        cases hnm : p.getLast? with
        | none => exact ⟨hI4, hx13⟩
        | some nm =>
          simp only
          have hpne : p ≠ [] := by intro h; subst h; simp at hnm
          have hsplit : p.dropLast ++ [nm] = p := by
            have := List.dropLast_concat_getLast hpne
            rw [List.getLast?_eq_some_getLast hpne] at hnm
            injection hnm with hnm; rw [← hnm]; exact this
          have hchild : modIdx proj (pathOf proj q ++ [nm]) = some m := by
            rw [(modIdx_spec hq).2, hsplit]; exact hm
          exact ⟨pyInv_bindGlobal hI4 (v := .mod m) rfl (Jpy.child hchild), fun h co hh => hx13 h co hh⟩

theorem run_py_ok {proj : Project} {rank : List Nat} (wf : WFacts proj rank) (order : List Nat) :
    PyInv proj (PyImp.run proj order) := by
  unfold PyImp.run
  have h0 : PyInv proj (PyImp.initSt proj) := by
    refine ⟨fun m x v h => ?_, fun h co hh => ?_, fun m l h => ?_, fun _ h co hh => by simp [PyImp.initSt] at hh,
      fun h co hh => by simp [PyImp.initSt] at hh⟩
    · unfold nsOf PyImp.initSt at h
      simp only [List.getD_eq_getElem?_getD, List.getElem?_replicate] at h
      split at h <;> simp [dget] at h
    · simp [PyImp.initSt] at hh
    · unfold allOf PyImp.initSt at h
      simp only [List.getD_eq_getElem?_getD, List.getElem?_replicate] at h
      split at h <;> simp at h
  generalize PyImp.initSt proj = s0 at h0
  induction order generalizing s0 with
  | nil => exact h0
  | cons m rest ih => exact ih _ (ensure_ok wf _ s0 _ h0).1

/-- one step of a dotted name: the binding of `y` in scope `S` itself, or — for an attribute of a
class (not the first component) — in the body of SOME class (over-approximation of the MRO walk) -/
def Step (proj : Project) (f : Bool) (S : Site) (y : Name) (w : SVal) : Prop :=
  Jpy proj S [y] w ∨ (f = false ∧ IsClassSite proj S ∧ ∃ A : Site, A.2 ≠ [] ∧ Jpy proj A [y] w)

/-- `Jpy` with inherited attribute steps -/
inductive JpyI (proj : Project) : Bool → Site → List Name → SVal → Prop
  | one {f : Bool} {S : Site} {y : Name} {v : SVal} : Step proj f S y v → JpyI proj f S [y] v
  | cons {f : Bool} {S : Site} {y y2 : Name} {ys : List Name} {w v : SVal} :
      Step proj f S y w → JpyI proj false (scopeOf w) (y2 :: ys) v → JpyI proj f S (y :: y2 :: ys) v

theorem getAttr_j {proj : Project} {s : PyImp.St} (hI : PyInv proj s) {v0 v1 : Val} {sv0 : SVal} {y : Name}
    (hs : svalV s v0 = some sv0) (h : getAttr s v0 y = some v1) :
    ∃ sv1, svalV s v1 = some sv1 ∧ Step proj false (scopeOf sv0) y sv1 ∧
      (ownAttr s v0 y = true → Jpy proj (scopeOf sv0) [y] sv1) := by
  cases v0 with
  | mod t =>
    simp only [svalV, Option.some.injEq] at hs; subst hs
    obtain ⟨sv1, h1, h2⟩ := hI.mods t y v1 h
    exact ⟨sv1, h1, Or.inl h2, fun _ => h2⟩
  | obj m cp => simp [getAttr] at h
  | cls hh =>
    obtain ⟨co, hc, rfl⟩ := Option.map_eq_some_iff.1 hs
    simp only [getAttr] at h
    cases hm : PyImp.mroOf s hh with
    | none => simp [hm] at h
    | some l =>
      simp only [hm] at h
      obtain ⟨b, _, hb⟩ := List.exists_of_findSome?_eq_some h
      cases hcb : s.heap[b]? with
      | none => simp [hcb] at hb
      | some cb =>
        simp only [hcb] at hb
        obtain ⟨sv1, h1, h2⟩ := hI.heap b cb hcb y v1 hb
        refine ⟨sv1, h1, Or.inr ⟨rfl, hI.cls hh co hc, (cb.mod, cb.cp), (hI.cls b cb hcb).ne, h2⟩, fun hown => ?_⟩
        -- the class holds the attribute itself, and heads its own linearisation
        simp only [ownAttr, hc, dhas] at hown
        cases hx : dget co.ns y with
        | none => simp [hx] at hown
        | some w =>
          obtain ⟨t, rfl⟩ := Mro.pyMroFuel_head _ _ _ _ hm
          simp only [List.findSome?, hc, hx, Option.some.injEq] at h
          subst h
          obtain ⟨sv1', h1', h2'⟩ := hI.heap hh co hc y w hx
          rw [h1] at h1'; injection h1' with h1'
          exact h1' ▸ h2'

theorem getAttrs_j {proj : Project} {s : PyImp.St} (hI : PyInv proj s) :
    ∀ (ys : List Name) (v0 v : Val) (sv0 : SVal), svalV s v0 = some sv0 → getAttrs s v0 ys = some v → ys ≠ [] →
      ∃ sv, svalV s v = some sv ∧ JpyI proj false (scopeOf sv0) ys sv ∧
        (ownAttrs s v0 ys = true → Jpy proj (scopeOf sv0) ys sv)
  | [], _, _, _, _, _, hne => absurd rfl hne
  | [y], v0, v, sv0, hs, h, _ => by
    simp only [getAttrs] at h
    cases ha : getAttr s v0 y with
    | none => simp [ha] at h
    | some w =>
      simp only [ha, Option.some.injEq] at h; subst h
      obtain ⟨sv, h1, h2, h3⟩ := getAttr_j hI hs ha
      exact ⟨sv, h1, .one h2, fun hown => h3 (by simp only [ownAttrs, Bool.and_eq_true] at hown; exact hown.1)⟩
  | y :: y2 :: ys, v0, v, sv0, hs, h, _ => by
    simp only [getAttrs] at h
    cases ha : getAttr s v0 y with
    | none => simp [ha] at h
    | some w =>
      simp only [ha] at h
      obtain ⟨sw, hsw, hjw, hjo⟩ := getAttr_j hI hs ha
      obtain ⟨sv, hsv, hj, hjo2⟩ := getAttrs_j hI (y2 :: ys) w v sw hsw h (by simp)
      refine ⟨sv, hsv, .cons hjw hj, fun hown => ?_⟩
      rw [ownAttrs, ha, Bool.and_eq_true] at hown
      exact Jpy.cons (hjo hown.1) (hjo2 hown.2)

theorem denoteIn_j {proj : Project} {s : PyImp.St} (hI : PyInv proj s) {S : Site} {ns : Ns} (hns : NsOk proj s S ns)
    {name : Path} {v : Val} (h : denoteIn s ns name = some v) :
    ∃ sv, svalV s v = some sv ∧ JpyI proj true S name sv ∧ (ownIn s ns name = true → Jpy proj S name sv) := by
  cases name with
  | nil => simp [denoteIn] at h
  | cons x rest =>
    simp only [denoteIn] at h
    cases hd : dget ns x with
    | none => simp [hd] at h
    | some v0 =>
      simp only [hd] at h
      obtain ⟨sv0, hs0, hj0⟩ := hns x v0 hd
      cases rest with
      | nil =>
        simp only [getAttrs, Option.some.injEq] at h; subst h
        exact ⟨sv0, hs0, .one (Or.inl hj0), fun _ => hj0⟩
      | cons y ys =>
        obtain ⟨sv, hsv, hj, hjo⟩ := getAttrs_j hI (y :: ys) v0 v sv0 hs0 h (by simp)
        exact ⟨sv, hsv, .cons (Or.inl hj0) hj, fun hown => Jpy.cons hj0 (hjo (by simpa only [ownIn, hd] using hown))⟩

theorem walkNs_j {proj : Project} {s : PyImp.St} (hI : PyInv proj s) (cp : List Name) (ns ns' : Ns) (S : Site)
    (hns : NsOk proj s S ns) (h : walkNs s ns cp = some ns') :
    ∃ S', NsOk proj s S' ns' ∧ ((cp = [] ∧ S' = S) ∨ (cp ≠ [] ∧ Jpy proj S cp (.dfn S'.1 S'.2))) := by
  revert h
  fun_induction walkNs s ns cp generalizing S <;> intro h
  case case1 => cases h; exact ⟨S, hns, Or.inl ⟨rfl, rfl⟩⟩
  case case2 ns c cs hh hd co hc ih =>
    obtain ⟨sv0, hs0, hj0⟩ := hns c _ hd
    simp only [svalV, hc, Option.map_some, Option.some.injEq] at hs0; subst hs0
    obtain ⟨S', hns', hcase⟩ := ih (co.mod, co.cp) (hI.heap hh co hc) h
    refine ⟨S', hns', Or.inr ⟨by simp, ?_⟩⟩
    rcases hcase with ⟨hcs, hS⟩ | ⟨hcs, hj⟩
    · subst hcs; subst hS; exact hj0
    · cases cs with
      | nil => exact absurd rfl hcs
      | cons y ys => exact Jpy.cons hj0 hj
  all_goals cases h

theorem identOf_sval {proj : Project} {s : PyImp.St} {v : Val} {sv : SVal} (h : svalV s v = some sv) :
    PyImp.identOf proj s v = some (identSV proj sv) := by
  cases v with
  | mod m => simp only [svalV, Option.some.injEq] at h; subst h; rfl
  | obj m cp => simp only [svalV, Option.some.injEq] at h; subst h; rfl
  | cls hh =>
    obtain ⟨co, hc, rfl⟩ := Option.map_eq_some_iff.1 h
    simp [PyImp.identOf, hc, identSV]

theorem denoteAt_some {proj : Project} {s : PyImp.St} {m : Nat} {cp : List Name} {name : Path} {id : Ident}
    (h : denoteAt proj s m cp name = some id) :
    ∃ ns v, walkNs s (nsOf s m) cp = some ns ∧ denoteIn s ns name = some v ∧ PyImp.identOf proj s v = some id := by
  revert h
  fun_cases denoteAt proj s m cp name <;> intro h
  case case3 ns hw v hd => exact ⟨ns, v, hw, hd, h⟩
  all_goals cases h

/-- **what Python's run answers is derivable**: the scope reached through the class chain `cp` is a static site `S`,
and the identity answered for `name` is that of a value the static relations give for `name` in `S`: `JpyI`, and
plain `Jpy` when every class step found the attribute in the class itself (`pyOwn`) -/
theorem pyDenotes_jpy {proj : Project} {rank : List Nat} (wf : WFacts proj rank) {order : List Nat} {m : Nat}
    {cp : List Name} {name : Path} {id : Ident} (h : pyDenotes proj order m cp name = some id) :
    ∃ S sv, ((cp = [] ∧ S = (m, [])) ∨ (cp ≠ [] ∧ Jpy proj (m, []) cp (.dfn S.1 S.2))) ∧
      JpyI proj true S name sv ∧ (pyOwn proj order m cp name = true → Jpy proj S name sv) ∧ identSV proj sv = id := by
  have hI := run_py_ok wf order
  obtain ⟨ns, v, hw, hd, hid⟩ := denoteAt_some h
  obtain ⟨S, hns, hcase⟩ := walkNs_j hI cp _ ns (m, []) (hI.mods m) hw
  obtain ⟨sv, hsv, hj, hjo⟩ := denoteIn_j hI hns hd
  rw [identOf_sval hsv] at hid
  exact ⟨S, sv, hcase, hj, fun hown => hjo (by simpa [pyOwn, hw] using hown), Option.some.inj hid⟩

theorem pyDenotes_j {proj : Project} {rank : List Nat} (wf : WFacts proj rank) {order : List Nat} {m : Nat}
    {cp : List Name} {name : Path} {id : Ident} (h : pyDenotes proj order m cp name = some id)
    (hown : pyOwn proj order m cp name = true) :
    ∃ S sv, ((cp = [] ∧ S = (m, [])) ∨ (cp ≠ [] ∧ Jpy proj (m, []) cp (.dfn S.1 S.2))) ∧
      Jpy proj S name sv ∧ identSV proj sv = id :=
  let ⟨S, sv, hc, _, hj, hid⟩ := pyDenotes_jpy wf h
  ⟨S, sv, hc, hj hown, hid⟩

theorem pyDenotes_jI {proj : Project} {rank : List Nat} (wf : WFacts proj rank) {order : List Nat} {m : Nat}
    {cp : List Name} {name : Path} {id : Ident} (h : pyDenotes proj order m cp name = some id) :
    ∃ S sv, ((cp = [] ∧ S = (m, [])) ∨ (cp ≠ [] ∧ Jpy proj (m, []) cp (.dfn S.1 S.2))) ∧
      JpyI proj true S name sv ∧ identSV proj sv = id :=
  let ⟨S, sv, hc, hj, _, hid⟩ := pyDenotes_jpy wf h
  ⟨S, sv, hc, hj, hid⟩

/-! ## without base classes every attribute of a class is its own -/

theorem mroOf_nobases {s : PyImp.St} {h : Nat} (hb : basesOf s h = []) : PyImp.mroOf s h = some [h] := by
  unfold PyImp.mroOf
  simp [PyMro.mroFuel, hb, Mro.mapOpt, PyMro.hasDup]
  decide

theorem getAttr_own_nb {proj : Project} {s : PyImp.St} (hI : PyInv proj s) (hn : noBases proj = true) {v w : Val}
    {y : Name} (h : getAttr s v y = some w) : ownAttr s v y = true := by
  cases v with
  | mod t => rfl
  | obj m cp => rfl
  | cls hh =>
    have hb : basesOf s hh = [] := by
      unfold basesOf
      cases hc : s.heap[hh]? with
      | none => rfl
      | some co => exact hI.nobases hn hh co hc
    simp only [getAttr, mroOf_nobases hb, List.findSome?] at h
    simp only [ownAttr, dhas]
    cases hc : s.heap[hh]? with
    | none => simp [hc] at h
    | some co => cases hx : dget co.ns y <;> simp_all

theorem ownAttrs_nb {proj : Project} {s : PyImp.St} (hI : PyInv proj s) (hn : noBases proj = true) (ys : List Name)
    (v w : Val) (h : getAttrs s v ys = some w) : ownAttrs s v ys = true := by
  revert h
  fun_induction getAttrs s v ys <;> intro h
  case case1 => rfl
  case case2 ha ih => simp only [ownAttrs, ha, Bool.and_eq_true]; exact ⟨getAttr_own_nb hI hn ha, ih h⟩
  case case3 => cases h

theorem pyOwn_of_noBases {proj : Project} {rank : List Nat} (wf : WFacts proj rank) (hn : noBases proj = true)
    {order : List Nat} {m : Nat} {cp : List Name} {name : Path} {id : Ident}
    (h : pyDenotes proj order m cp name = some id) : pyOwn proj order m cp name = true := by
  have hI := run_py_ok wf order
  obtain ⟨ns, v, hw, hd, _⟩ := denoteAt_some h
  simp only [pyOwn, hw]
  cases name with
  | nil => rfl
  | cons x rest =>
    simp only [denoteIn] at hd
    simp only [ownIn]
    cases hx : dget ns x with
    | none => rfl
    | some v0 => simp only [hx] at hd ⊢; exact ownAttrs_nb hI hn rest v0 v hd

end Imports
