/-
C04, inherited members: soundness of `resolveName` for dotted names whose attribute steps go through
an INHERITED member of a class, for the decidable sub-class `classImportsUnique` of `WF`.

Why no reasoning about the ORDER of the MRO (nor about how the bases are resolved) is needed: names of
definitions are globally unique (`namesUnique`), and `classImportsUnique` says that a name bound by an
import inside a class body is not the name of a definition made inside a class body and that the imports
binding it in other class bodies bind it to the same thing — so the BINDING of an attribute name is the
same in every class body that binds it (`class_bind_same`).  `Step` is the over-approximation of Python's
`type.__getattribute__`: the attribute is found in the class's own namespace, or in the namespace of SOME
class.  pydoctor's `classLookup` walks ITS linearisation and finds the name in the contents / alias map
of some class object; both finds are the same binding (`content_den`, `Settled.alias`).

The resolution part (`content_den`, `expand_stepI`, `expand_soundI`, `resolve_sound_stateI`) is stated over
`Settled proj s L`: what it uses of a finished state whose objects are found under the names `L`.  `PdInv.settled`
(here, `L = sitePath`) and `Rx.PdInv.settled` (PdProps/C04ReexpE.lean, the relocated names) are its two instances.
-/
import PdProps.C04Resolve
import PdProps.C04Py
import PdProps.C05

namespace Imports
open Registry
open Names (contLoop expandLoop_component)

theorem classImportsStmt_import {proj : Project} {m : Nat} {cp : List Name} (hcp : cp ≠ []) {st : Stmt}
    (hd : st.defName = none) :
    classImportsStmt proj m cp st = (explicitNames st).map fun x => ((m, cp), x, impKey proj m st) := by
  have hne : cp.isEmpty = false := by cases cp <;> simp_all
  cases st <;> simp_all [Stmt.defName, classImportsStmt]

theorem classImportList_mem {proj : Project} {S : Site} {b : List Stmt} (hb : siteBody proj S = some b) (hS : S.2 ≠ [])
    {st : Stmt} {x : Name} (hst : st ∈ b) (hd : st.defName = none) (hx : x ∈ explicitNames st) :
    (S, x, impKey proj S.1 st) ∈ classImportList proj := by
  obtain ⟨m, cp⟩ := S
  unfold classImportList
  rw [List.mem_flatMap]
  refine ⟨m, List.mem_range.2 (siteBody_lt hb), ?_⟩
  exact walk_mem (pre := []) (fun _ _ _ => rfl) (fun _ _ _ _ _ h => h) (siteBody_bodyAt hb) hst
    (by rw [List.nil_append, classImportsStmt_import hS hd]; exact List.mem_map.2 ⟨x, hx, rfl⟩)

/-- what `classImportsUnique` says -/
structure CIU (proj : Project) : Prop where
  fresh : ∀ S x k, (S, x, k) ∈ classImportList proj →
    ∀ E ∈ entities proj, 2 ≤ E.2.length → (sitePath proj E).getLast? ≠ some x
  one : ∀ S S' x k k', (S, x, k) ∈ classImportList proj → (S', x, k') ∈ classImportList proj → S = S' ∨ k = k'

theorem CIU.of {proj : Project} (h : classImportsUnique proj = true) : CIU proj := by
  unfold classImportsUnique at h
  simp only [List.all_eq_true, Bool.and_eq_true, Bool.or_eq_true, Bool.not_eq_true', bne_iff_ne, ne_eq,
    beq_iff_eq, Prod.forall] at h
  constructor
  · intro S x k hm E hE h2 heq
    obtain ⟨m, cp⟩ := S
    have hn := (h m cp x k hm).1
    have : (List.map (fun S => (sitePath proj S).getLast?)
        (List.filter (fun S => decide (2 ≤ S.2.length)) (entities proj))).contains (some x) = true := by
      rw [List.contains_iff_mem]
      exact List.mem_map.2 ⟨E, List.mem_filter.2 ⟨hE, by simpa using h2⟩, heq⟩
    rw [this] at hn; cases hn
  · intro S S' x k k' hm hm'
    obtain ⟨m, cp⟩ := S
    obtain ⟨m', cp'⟩ := S'
    rcases (h m cp x k hm).2 m' cp' x k' hm' with (hne | heq) | heq
    · exact absurd rfl hne
    · exact Or.inl heq
    · exact Or.inr heq

theorem two_le_length_snoc {α : Type} {l : List α} (h : l ≠ []) (y : α) : 2 ≤ (l ++ [y]).length := by
  have := List.length_pos_iff.2 h
  simp only [List.length_append, List.length_singleton]; omega

/-- what Python binds a name to by an import statement with key `k` -/
def KeyJ (proj : Project) : ImpKey → SVal → Prop
  | .top h, v => ∃ top, modIdx proj [h] = some top ∧ v = .mod top
  | .path t, v => ∃ h r top, t = h :: r ∧ modIdx proj [h] = some top ∧
      ((r = [] ∧ v = .mod top) ∨ (∃ y ys, r = y :: ys ∧ Jpy proj (top, []) (y :: ys) v))
  | .frm t n, v => ∃ t', t = some t' ∧ Jpy proj (t', []) [n] v
  | .other, _ => False

theorem stmtJ_key {proj : Project} {A : Site} {st : Stmt} {y : Name} {w : SVal} (hd : st.defName = none)
    (hx : y ∈ explicitNames st) (hJ : StmtJ proj A st y w) : KeyJ proj (impKey proj A.1 st) w := by
  cases st with
  | importMod t a =>
    cases a with
    | none => obtain ⟨r, top, rfl, hm, hw⟩ := hJ; exact ⟨top, hm, hw⟩
    | some a => cases t <;> exact hJ.2
  | importFrom lvl M n a => exact hJ.2
  | _ => simp [Stmt.defName, explicitNames] at hd hx

theorem jpy_of_key {proj : Project} {S : Site} {b : List Stmt} {st : Stmt} {y : Name} {w : SVal}
    (hb : siteBody proj S = some b) (hst : st ∈ b) (hx : y ∈ explicitNames st)
    (hK : KeyJ proj (impKey proj S.1 st) w) : Jpy proj S [y] w := by
  cases st with
  | importMod t a =>
    cases a with
    | none =>
      cases t with
      | nil => simp [explicitNames] at hx
      | cons h r =>
        obtain ⟨top, hm, rfl⟩ := hK
        obtain rfl := List.mem_singleton.1 hx
        exact .importTop hb hst hm
    | some a =>
      obtain ⟨h, r, top, rfl, hm, hv⟩ : KeyJ proj (.path t) w := by cases t <;> exact hK
      obtain rfl := List.mem_singleton.1 hx
      rcases hv with ⟨rfl, rfl⟩ | ⟨_, _, rfl, hj⟩
      · exact .importAs1 hb hst hm
      · exact .importAs hb hst hm hj
  | importFrom lvl M n a =>
    obtain ⟨t, ht, hj⟩ := hK
    obtain rfl := List.mem_singleton.1 hx
    exact .from hb hst ht hj
  | _ => exact hK.elim

theorem class_import_jpy {proj : Project} {rank : List Nat} (wf : WFacts proj rank) (ciu : CIU proj) {S A : Site}
    {b : List Stmt} {st : Stmt} {y : Name} (hb : siteBody proj S = some b) (hS : S.2 ≠ []) (hst : st ∈ b)
    (hd : st.defName = none) (hx : y ∈ explicitNames st) (hA : A.2 ≠ []) {w : SVal} (hj : Jpy proj A [y] w) :
    Jpy proj S [y] w := by
  have hm := classImportList_mem hb hS hst hd hx
  obtain ⟨b2, st2, hb2, hst2, hx2, hJ2, hc2⟩ := jpy_class_inv wf hA hj
  rcases hc2 with ⟨hd2, _⟩ | hd2
  · exact (ciu.fresh S y _ hm _ (static_mem_entities (def_static hb2 hst2 hd2)) (two_le_length_snoc hA y)
      (def_last proj A y)).elim
  · rcases ciu.one S A y _ _ hm (classImportList_mem hb2 hA hst2 hd2 hx2) with h | h
    · exact h ▸ hj
    · exact jpy_of_key hb hst hx (h ▸ stmtJ_key hd2 hx2 hJ2)

/-- a definition nested in a class (`2 ≤ Sc.2.length`) whose last name is `y` IS what any class-level binding of `y`
gives: definition names are globally unique and no class-body import binds such a name -/
theorem entity_is_binding {proj : Project} {rank : List Nat} (wf : WFacts proj rank) (ciu : CIU proj) {Sc : Site}
    (hSc : StaticSite proj Sc) (h2 : 2 ≤ Sc.2.length) {y : Name} (hlast : (sitePath proj Sc).getLast? = some y)
    {A : Site} (hA : A.2 ≠ []) {w : SVal} (hj : Jpy proj A [y] w) : w = svalOf Sc := by
  obtain ⟨b, st, hb, hst, hx, _, hc⟩ := jpy_class_inv wf hA hj
  rcases hc with ⟨hd, hw⟩ | hd
  · have := site_unique_last wf hSc (def_static hb hst hd) (by rw [hlast, def_last])
    subst this
    rw [hw]; simp [svalOf]
  · exact (ciu.fresh A y _ (classImportList_mem hb hA hst hd hx) _ (static_mem_entities hSc) h2 hlast).elim

theorem class_bind_same {proj : Project} {rank : List Nat} (wf : WFacts proj rank) (ciu : CIU proj) {S A : Site}
    (hS : S.2 ≠ []) (hA : A.2 ≠ []) {y : Name} {v w : SVal} (h1 : Jpy proj S [y] v) (h2 : Jpy proj A [y] w) : v = w := by
  obtain ⟨b1, st1, hb1, hst1, hx1, _, hc1⟩ := jpy_class_inv wf hS h1
  rcases hc1 with ⟨hd1, hv⟩ | hd1
  · rw [hv, entity_is_binding wf ciu (def_static hb1 hst1 hd1) (two_le_length_snoc hS y) (def_last proj S y) hA h2]
    simp [svalOf]
  · exact jpy_fun wf h1 (class_import_jpy wf ciu hb1 hS hst1 hd1 hx1 hA h2)

theorem Step.weaken {proj : Project} {f : Bool} {S : Site} {y : Name} {w : SVal} (h : Step proj f S y w) :
    Step proj false S y w := by
  rcases h with h | ⟨_, h⟩
  · exact Or.inl h
  · exact Or.inr ⟨rfl, h⟩

theorem Step.ofMod {proj : Project} {f g : Bool} {S : Site} (hS : S.2 = []) {y : Name} {w : SVal}
    (h : Step proj f S y w) : Step proj g S y w := by
  rcases h with h | ⟨_, h, _⟩
  · exact Or.inl h
  · exact absurd hS h.ne

theorem JpyI.one_inv {proj : Project} {f : Bool} {S : Site} {y : Name} {v : SVal} (h : JpyI proj f S [y] v) :
    Step proj f S y v := by
  cases h with
  | one h => exact h

theorem JpyI.cons_inv {proj : Project} {f : Bool} {S : Site} {y y2 : Name} {ys : List Name} {v : SVal}
    (h : JpyI proj f S (y :: y2 :: ys) v) : ∃ w, Step proj f S y w ∧ JpyI proj false (scopeOf w) (y2 :: ys) v := by
  cases h with
  | cons h1 h2 => exact ⟨_, h1, h2⟩

theorem JpyI.weaken {proj : Project} {f : Bool} {S : Site} {ys : List Name} {v : SVal} (h : JpyI proj f S ys v) :
    JpyI proj false S ys v := by
  cases h with
  | one h => exact .one h.weaken
  | cons h1 h2 => exact .cons h1.weaken h2

theorem JpyI.ofMod {proj : Project} {f g : Bool} {S : Site} (hS : S.2 = []) {ys : List Name} {v : SVal}
    (h : JpyI proj f S ys v) : JpyI proj g S ys v := by
  cases h with
  | one h => exact .one (h.ofMod hS)
  | cons h1 h2 => exact .cons (h1.ofMod hS) h2

theorem JpyI.ofJpy {proj : Project} (f : Bool) : ∀ {ys : List Name} {S : Site} {v : SVal}, Jpy proj S ys v → ys ≠ [] →
    JpyI proj f S ys v
  | [], _, _, _, hne => absurd rfl hne
  | [y], _, _, h, _ => .one (Or.inl h)
  | y :: y2 :: ys, S, v, h, _ => by
    obtain ⟨w, h1, h2⟩ := jpy_cons_inv h
    exact .cons (Or.inl h1) (JpyI.ofJpy false h2 (by simp))

theorem JpyI.append {proj : Project} : ∀ {xs : List Name} {f : Bool} {S : Site} {w v : SVal} {y : Name} {ys : List Name},
    JpyI proj f S xs w → JpyI proj false (scopeOf w) (y :: ys) v → JpyI proj f S (xs ++ y :: ys) v
  | [], _, _, _, _, _, _, h1, _ => by cases h1
  | [x], _, _, _, _, _, _, h1, h2 => .cons h1.one_inv h2
  | x :: x2 :: xs, f, S, w, v, y, ys, h1, h2 => by
    obtain ⟨w1, ha, hb⟩ := h1.cons_inv
    exact .cons ha (JpyI.append (xs := x2 :: xs) hb h2)

theorem step_fun {proj : Project} {rank : List Nat} (wf : WFacts proj rank) (ciu : CIU proj) {f : Bool} {S : Site}
    {y : Name} {v w : SVal} (h1 : Jpy proj S [y] v) (h2 : Step proj f S y w) : v = w := by
  rcases h2 with h2 | ⟨_, hS, A, hA, h2⟩
  · exact jpy_fun wf h1 h2
  · exact class_bind_same wf ciu hS.ne hA h1 h2

/-- **functionality**: what the derivation with inherited steps gives for a name that the plain
derivation binds is the same value -/
theorem jpyI_fun {proj : Project} {rank : List Nat} (wf : WFacts proj rank) (ciu : CIU proj) :
    ∀ {ys : List Name} {f : Bool} {S : Site} {v w : SVal}, Jpy proj S ys v → JpyI proj f S ys w → v = w
  | [], _, _, _, _, h, _ => absurd rfl (jpy_ne_nil h)
  | [y], _, _, _, _, h1, h2 => step_fun wf ciu h1 h2.one_inv
  | y :: y2 :: ys, _, _, _, _, h1, h2 => by
    obtain ⟨w1, ha, hb⟩ := jpy_cons_inv h1
    obtain ⟨w2, hc, hd⟩ := h2.cons_inv
    have := step_fun wf ciu ha hc
    subst this
    exact jpyI_fun wf ciu hb hd

/-- the absolute dotted name `p` denotes `v` (inherited attribute steps allowed) if its first
component is a root module at all -/
def AbsDenIW (proj : Project) : Path → SVal → Prop := AbsDenR proj (JpyI proj true)

theorem AbsDenW.toI {proj : Project} {p : Path} {v : SVal} (h : AbsDenW proj p v) : AbsDenIW proj p v := by
  intro r rest root hp hr
  rcases h r rest root hp hr with h | ⟨hne, hj⟩
  · exact Or.inl h
  · exact Or.inr ⟨hne, JpyI.ofJpy true hj hne⟩

theorem AbsDenIW.ext {proj : Project} {p : Path} {w v : SVal} {y : Name} {ys : List Name}
    (h : AbsDenIW proj p w) (hp : p ≠ []) (h2 : JpyI proj false (scopeOf w) (y :: ys) v) :
    AbsDenIW proj (p ++ y :: ys) v := by
  intro r rest root he hr
  cases p with
  | nil => exact absurd rfl hp
  | cons r0 rest0 =>
    simp only [List.cons_append] at he
    injection he with e1 e2; subst e1; subst e2
    refine Or.inr ⟨by simp, ?_⟩
    rcases h r0 rest0 root rfl hr with ⟨h0, hw⟩ | ⟨hne, hj⟩
    · subst h0; subst hw
      simpa [scopeOf] using (h2.ofMod (g := true) (by simp [scopeOf]))
    · exact JpyI.append hj h2

theorem AbsDenI.fun {proj : Project} {rank : List Nat} (wf : WFacts proj rank) (ciu : CIU proj) {p : Path} {v w : SVal}
    (h1 : AbsDen proj p v) (h2 : AbsDenIW proj p w) : v = w :=
  AbsDen.fun_of (jpyI_fun wf ciu) h1 h2

/-! ## the members of pydoctor's linearisations are class objects -/

theorem finalBases_class {s : St} (hI : CBase s) {c b : Nat} (hb : b ∈ finalBases s c) :
    ∃ o : Obj, s.reg.objs[b]? = some o ∧ o.cls = .cls := by
  unfold finalBases finalBasesIn at hb
  cases hd : dget s.cinfo c with
  | none => simp [hd] at hb
  | some ci =>
    simp only [hd, List.mem_filterMap] at hb
    obtain ⟨x, hx, hxb⟩ := hb
    cases hx2 : x.2 with
    | some b' =>
      simp only [hx2, Option.some.injEq] at hxb; subst hxb
      have hmem : some b' ∈ ci.objs := by
        have := (List.of_mem_zip (show (x.1, x.2) ∈ _ from hx)).2
        rw [hx2] at this; exact this
      exact hI (c, ci) (mem_of_dget hd) b' hmem
    | none =>
      simp only [hx2] at hxb
      split at hxb
      · rename_i b0 hb0
        injection hxb with hxb; subst hxb
        split at hb0
        · split at hb0
          · rename_i hcl; injection hb0 with hb0; subst hb0; exact isClassObj_obj hcl
          · cases hb0
        · cases hb0
      · split at hxb
        · split at hxb
          · rename_i hcl; injection hxb with hxb; subst hxb; exact isClassObj_obj hcl
          · cases hxb
        · cases hxb

theorem mro_member_class {s : St} (hI : CBase s) {i b : Nat}
    (hb : b ∈ Names.mroOf (finalEnv s) i) : b = i ∨ ∃ o : Obj, s.reg.objs[b]? = some o ∧ o.cls = .cls := by
  unfold Names.mroOf finalEnv at hb
  simp only at hb
  cases hd : dget (finalMro s) i with
  | none => simp [hd] at hb; exact Or.inl hb
  | some v =>
    unfold finalMro at hd
    have := dget_map_key (fun c => match Mro.mroFuel (finalBases s) (s.reg.objs.length + 1) c with
      | some l => l
      | none => Mro.allbasesFuel (finalBases s) (fun _ => false) (s.reg.objs.length + 1) c) _ _ _ hd
    have hfm : dget (finalMro s) i = some v := by unfold finalMro; exact hd
    rw [hfm] at hb
    simp only [Option.getD_some, this] at hb
    have hor : b = i ∨ ∃ d, b ∈ finalBases s d := by
      cases hm : Mro.mroFuel (finalBases s) (s.reg.objs.length + 1) i with
      | some l => simp only [hm] at hb; exact Mro.anc_eq_or_base ((Mro.mroFuel_mem_iff hm b).1 hb)
      | none => simp only [hm] at hb; exact Mro.anc_eq_or_base (Mro.allbasesFuel_anc _ _ _ _ _ hb)
    rcases hor with h | ⟨d, hd'⟩
    · exact Or.inl h
    · exact Or.inr (finalBases_class hI hd')

/-! ## class sites and class objects; what an alias entry of a class object denotes -/

theorem classSite_kind {proj : Project} {rank : List Nat} (wf : WFacts proj rank) {S : Site} {c : Cls}
    (hk : ObjKind proj S c) (hc : IsClassSite proj S) : c = .cls := by
  obtain ⟨cp', n', bs, body, full, h2, hfull, hm⟩ := hc
  cases hk with
  | mod hm' => simp at h2
  | @dfn m cp b0 st n c hb0 hst hkind =>
    simp only at h2 hfull
    obtain ⟨e1, e2⟩ := List.append_inj' h2 rfl
    simp only [List.cons.injEq, and_true] at e2
    subst e1; subst e2
    rw [hb0] at hfull; injection hfull with hfull; subst hfull
    have := same_stmt wf hb0 hst hm (x := n) (stmtNames_of_explicit (defName_explicit (stKind_defName hkind)))
      (stmtNames_of_explicit (by simp [explicitNames]))
    subst this
    simp only [stKind, Option.some.injEq, Prod.mk.injEq] at hkind
    exact hkind.2.symm

theorem step_canContain {proj : Project} {rank : List Nat} (wf : WFacts proj rank) {S : Site} {c : Cls}
    (hk : ObjKind proj S c) {f : Bool} {y : Name} {w : SVal} (hw : Step proj f S y w) : canContainImports c = true := by
  rcases hw with h | ⟨_, hS, _⟩
  · exact jpy_canContain wf hk h
  · rw [classSite_kind wf hk hS]; rfl

theorem alias_den {proj : Project} {rank : List Nat} (wf : WFacts proj rank) (ciu : CIU proj) {Sb : Site}
    (hcl : Sb.2 ≠ []) {y : Name} {tgt : Path} (hjd : Jpd proj Sb y tgt) {A : Site} (hA : A.2 ≠ []) {w : SVal}
    (hj : Jpy proj A [y] w) : AbsDenW proj tgt w := by
  obtain ⟨bb, st, hbb, hst, hxs, hD⟩ := jpd_inv wf hjd
  exact jpd_jpy wf hjd (class_import_jpy wf ciu hbb hcl hst hD.defName (explicit_in_class wf hbb hcl hst hxs) hA hj)

/-! ## pydoctor: `expandName` / `resolveName` with the inherited-member step -/

/-- **what name resolution with inherited steps uses of a finished state** whose objects are found under the names `L`
(`sitePath`; with re-export moves the relocated names): the bases on record are class objects; a class object holds an
entry for every name its body binds; an alias entry denotes what the scope — for a class object: any class body —
binds the name to -/
structure Settled (proj : Project) (s : St) (L : Site → Path) : Prop where
  naming : Naming proj s L
  cbase : CBase s
  entry : ∀ {i o S y w}, s.reg.objs[i]? = some o → path s.reg i = some (L S) → ObjKind proj S o.cls → o.cls = .cls →
    Jpy proj S [y] w → dget o.contents y ≠ none ∨ dget o.aliases y ≠ none
  alias : ∀ {i o S y tgt w}, s.reg.objs[i]? = some o → path s.reg i = some (L S) → ObjKind proj S o.cls →
    dget o.aliases y = some tgt → Jpy proj S [y] w ∨ (o.cls = .cls ∧ ∃ A : Site, A.2 ≠ [] ∧ Jpy proj A [y] w) →
    AbsDenW proj tgt w ∧ tgt ≠ []

theorem PdInv.settled {proj : Project} {rank : List Nat} (wf : WFacts proj rank) (ciu : CIU proj) {s : St}
    (hI : PdInv proj s) (hn : NoProcessing s) : Settled proj s (sitePath proj) where
  naming := hI.naming wf
  cbase := hI.cbase
  entry := fun ho hp hk hcl hw => class_entry wf hI hn ho hp hk hcl hw
  alias := fun {i o S y tgt w} ho hp hk hda hw => by
    have hjd := hI.alias i o S ho hp hk.static y tgt hda
    refine ⟨?_, jpd_ne_nil wf hjd⟩
    rcases hw with hw | ⟨hcl, A, hA, hjA⟩
    · exact jpd_jpy wf hjd hw
    · exact alias_den wf ciu (hk.cls_ne_nil hcl) hjd hA hjA

/-- the qualified name of the entry denotes its site (`Naming.canon`); read as the name of the class followed by `y`, it says
that the body of the class binds `y` to that site (`AbsDen.snoc_inv`), and class-level bindings agree -/
theorem content_den {proj : Project} {rank : List Nat} (wf : WFacts proj rank) (ciu : CIU proj) {s : St} {L : Site → Path}
    (hF : Settled proj s L) {b : Nat} {bo : Obj} (hbo : s.reg.objs[b]? = some bo) (hbcls : bo.cls = .cls) {y : Name} {c : Nat}
    (hd : dget bo.contents y = some c) {A : Site} (hA : A.2 ≠ []) {w : SVal} (hj : Jpy proj A [y] w) :
    ∃ kb, path s.reg b = some kb ∧ path s.reg c = some (kb ++ [y]) ∧ AbsDen proj (kb ++ [y]) w := by
  have hN := hF.naming
  obtain ⟨Sb, hkb, hpb⟩ := hN.site b bo hbo
  have hpc := path_child hN.reg hbo hd hpb
  obtain ⟨Sc, hkc, hpsc⟩ := hN.site c _ (List.getElem?_eq_getElem (path_lt hpc))
  have hc : AbsDen proj (L Sb ++ [y]) (svalOf Sc) := Option.some.inj (hpsc.symm.trans hpc) ▸ hN.canon Sc hkc.static
  have hjb : Jpy proj Sb [y] (svalOf Sc) := scopeOf_svalOf Sb ▸ (hN.canon Sb hkb.static).snoc_inv wf hc
  exact ⟨L Sb, hpb, hpc, class_bind_same wf ciu (hkb.cls_ne_nil hbcls) hA hjb hj ▸ hc⟩

/-- **one component of `expandName`, inherited members included**: the name `y`, which Python gives `w` in scope `S`
(perhaps by inheritance), looked up in the object of `S`: the loop goes on with a dotted name that denotes `w`, or ends
with the name of the object followed by what is left.  For an inherited step the object is a class object, and whatever
entry of a class object of the linearisation (the class itself included) answers for the name denotes what Python
found: `content_den`, `Settled.alias`. -/
theorem expand_stepI {proj : Project} {rank : List Nat} (wf : WFacts proj rank) (ciu : CIU proj) {s : St} {L : Site → Path}
    (hF : Settled proj s L) {e : Names.Env} (he : e.st = s.reg)
    (hmro : ∀ c, ∃ t, Names.mroOf e c = c :: t)
    (hmem : ∀ i b, b ∈ Names.mroOf e i → b = i ∨ ∃ o : Obj, s.reg.objs[b]? = some o ∧ o.cls = .cls)
    {i : Nat} {f : Bool} {S : Site} {o : Obj} {y : Name} {w : SVal} (ho : s.reg.objs[i]? = some o)
    (hp : path s.reg i = some (L S)) (hk : ObjKind proj S o.cls) (hw : Step proj f S y w) :
    (∃ fn, AbsDenIW proj fn w ∧ fn ≠ [] ∧ ∀ rest, Names.expandLoop e i f (y :: rest) = contLoop e fn rest) ∨
    ∀ rest, Names.expandLoop e i f (y :: rest) = some (L S ++ y :: rest) := by
  have hN := hF.naming
  -- the step as the alias entries see it
  have hw' : Jpy proj S [y] w ∨ (o.cls = .cls ∧ ∃ A : Site, A.2 ≠ [] ∧ Jpy proj A [y] w) :=
    hw.imp id fun ⟨_, hS2, hA⟩ => ⟨classSite_kind wf hk hS2, hA⟩
  refine expandLoop_component (D := fun p => AbsDenIW proj p w) (by rw [he]; exact hN.reg) hmro (by rw [he]; exact ho)
    (by rw [he]; exact hp) (step_canContain wf hk hw) ?_
    (fun tgt _ hda => (hF.alias ho hp hk hda hw').imp_left (·.toI)) ?_ ?_
  · intro c hdc
    rcases hw' with hw | ⟨hcl, A, hA, hjA⟩
    · exact (AbsDen.ext (hN.canon S hk.static) (by rw [scopeOf_svalOf]; exact hw)).weak.toI
    · obtain ⟨kb, hpb, _, hden⟩ := content_den wf ciu hF ho hcl hdc hA hjA
      exact Option.some.inj (hp.symm.trans hpb) ▸ hden.weak.toI
  · intro hdc hda hcl
    -- not the class's own binding: its body would have left an entry
    obtain ⟨hf, A, hA, hjA⟩ : f = false ∧ ∃ A : Site, A.2 ≠ [] ∧ Jpy proj A [y] w := by
      rcases hw with hw | ⟨hf, _, hA⟩
      · exact ((hF.entry ho hp hk hcl hw).elim (· hdc) (· hda)).elim
      · exact ⟨hf, hA⟩
    refine ⟨hf, fun b bo hbm hgb => ?_⟩
    rw [he] at hgb
    replace hgb : s.reg.objs[b]? = some bo := hgb
    have hbcls : bo.cls = .cls := by
      rcases hmem i b hbm with hbi | ⟨o', ho', hc'⟩
      · subst hbi; rw [ho] at hgb; injection hgb with hgb; exact hgb ▸ hcl
      · rw [hgb] at ho'; injection ho' with ho'; exact ho' ▸ hc'
    refine ⟨fun c hbc => ?_, fun q _ hq => ?_⟩
    · obtain ⟨kb, _, hpc, hden⟩ := content_den wf ciu hF hgb hbcls hbc hA hjA
      exact ⟨kb ++ [y], by rw [he]; exact hpc, hden.weak.toI, by simp⟩
    · obtain ⟨Sb, hkb, hpsb⟩ := hN.site b bo hgb
      exact (hF.alias hgb hpsb hkb hq (Or.inr ⟨hbcls, A, hA, hjA⟩)).imp_left (·.toI)
  · intro _ _ _ hf r rest' root hpr hroot
    -- at the first position the step is the scope's own
    have hw' : Jpy proj S [y] w := hw.resolve_right fun h => Bool.noConfusion (hf.symm.trans h.1)
    injection hpr with e1 e2; subst e1; subst e2
    exact Or.inl ⟨rfl, jpy_root wf hw' hroot⟩

theorem AbsDenIW.of_scope {proj : Project} {p : Path} {S : Site} {f : Bool} {ys : List Name} {v : SVal}
    (hc : AbsDen proj p (svalOf S)) (hj : JpyI proj f S ys v) : AbsDenIW proj (p ++ ys) v := by
  have hne : p ≠ [] := by obtain ⟨r, rest, _, hp, _⟩ := hc; rw [hp]; simp
  have hw : JpyI proj false (scopeOf (svalOf S)) ys v := (scopeOf_svalOf S).symm ▸ hj.weaken
  -- a derivation is of a non-empty name
  cases hj <;> exact AbsDenIW.ext hc.weak.toI hne hw

/-- **expandName is sound, inherited members included**: on a finished state of a `classImportsUnique` project, the
dotted name that `expandName` returns for `ys` looked up in object `i` (the object of scope `S`) denotes — if its first
component is a root module at all (`AbsDenIW`) — whatever Python gives for `ys` in `S`; pydoctor's attribute steps
follow its linearisation, Python's side is `JpyI` (the attribute is found in SOME class body: no order is used). -/
theorem expand_soundI {proj : Project} {rank : List Nat} (wf : WFacts proj rank) (ciu : CIU proj) {s : St} {L : Site → Path}
    (hF : Settled proj s L) (e : Names.Env) (he : e.st = s.reg)
    (hmro : ∀ c, ∃ t, Names.mroOf e c = c :: t)
    (hmem : ∀ i b, b ∈ Names.mroOf e i → b = i ∨ ∃ o : Obj, s.reg.objs[b]? = some o ∧ o.cls = .cls)
    {ys : List Name} {i : Nat} {first : Bool} {S : Site} {v : SVal} {p : Path} (hS : ObjAt proj L s i S)
    (hj : JpyI proj first S ys v) (hx : Names.expandLoop e i first ys = some p) : AbsDenIW proj p v :=
  expandLoop_sound hF.naming he (R := JpyI proj) (Stp := Step proj) JpyI.one_inv JpyI.cons_inv
    (fun hd hne hjr => AbsDenIW.ext hd hne hjr) (AbsDenI.fun wf ciu) (fun hS hj => .of_scope (hF.naming.canon _ hS) hj)
    (fun ho hp hk hw => expand_stepI wf ciu hF he hmro hmem ho hp hk hw) hS hj hx

/-- **resolveName is sound on a finished state, inherited members included**: the object it answers with is the
object of the site Python's value stands for -/
theorem resolve_sound_stateI {proj : Project} {rank : List Nat} (wf : WFacts proj rank) (ciu : CIU proj) {s : St}
    {L : Site → Path} (hF : Settled proj s L) {i : Nat} {S : Site} (hS : ObjAt proj L s i S) {name : Path} {v : SVal}
    {j : Nat} (hj : JpyI proj true S name v) (hr : Names.resolveName (finalEnv s) i name = some j) :
    ∃ S', svalOf S' = v ∧ ObjAt proj L s j S' :=
  resolveName_sound hF.naming (R := JpyI proj true) rfl (AbsDenI.fun wf ciu)
    (fun hS hj hx => expand_soundI wf ciu hF _ rfl (mroOf_final_head s)
      (fun _ _ hb => mro_member_class hF.cbase hb) hS hj hx) hS hj hr

end Imports
