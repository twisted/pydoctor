/-
C04, the pydoctor machine (`Imports.run`): the invariant `PdInv` ties every object, alias entry and `contents` entry
of a reachable state to the static project; its preservation is carried forwards, in one induction with the facts that
keep the run clean (`Good`: no exception, no duplicate, fuel left), up to `run_good` / `run_ok` / `run_clean`.  After
the run: what a finished state gives the resolution layers (`complete_entry`, `class_complete`).
Stated for this machine and the one with re-export moves (PdProps/C04ReexpB … D) at once: the module lookups
(`ModFacts`), the schedule of on-demand processing (`Enter`), the scheduler (`process_all`), and what needs only the
visiting context (`Ctx.prot`, `Ctx.exports`).
-/
import PdProps.C04Static

namespace Imports
open Registry
open Names (localName_module)

def stKind : Stmt → Option (Name × Cls)
  | .classDef n _ _ => some (n, .cls)
  | .funcDef n => some (n, .function)
  | .assign n _ => some (n, .attribute)
  | _ => none

theorem stKind_defName {st : Stmt} {n : Name} {c : Cls} (h : stKind st = some (n, c)) : st.defName = some n := by
  cases st <;> simp_all [stKind, Stmt.defName]

def modCls (proj : Project) (m : Nat) : Cls := if isPkg proj m then .package else .module

theorem isModuleCls_modCls (proj : Project) (m : Nat) : isModuleCls (modCls proj m) = true := by
  unfold modCls; split <;> rfl

/-- object class `c` is what pydoctor creates for the site -/
inductive ObjKind (proj : Project) : Site → Cls → Prop
  | mod {m : Nat} : m < proj.length → ObjKind proj (m, []) (modCls proj m)
  | dfn {m : Nat} {cp : List Name} {b : List Stmt} {st : Stmt} {n : Name} {c : Cls} :
      siteBody proj (m, cp) = some b → st ∈ b → stKind st = some (n, c) → ObjKind proj (m, cp ++ [n]) c

theorem ObjKind.static {proj : Project} {S : Site} {c : Cls} (h : ObjKind proj S c) : StaticSite proj S := by
  cases h with
  | mod hm => exact ⟨hm, Or.inl rfl⟩
  | @dfn m cp b st n c hb hst hk => exact ⟨(siteBody_lt hb : (m, cp).1 < proj.length), Or.inr ⟨cp, n, b, st, rfl, hb, hst, stKind_defName hk⟩⟩

theorem ObjKind.isMod {proj : Project} {S : Site} {c : Cls} (h : ObjKind proj S c) :
    isModuleCls c = true ↔ S.2 = [] := by
  cases h with
  | mod hm => simp only [modCls]; split <;> simp [isModuleCls]
  | @dfn m cp b st n c hb hst hk =>
    cases st <;> simp_all [stKind, isModuleCls]
    all_goals (obtain ⟨_, rfl⟩ := hk; simp)

/-- the object of a module site has a module class, so a class object sits at a nested site -/
theorem ObjKind.cls_ne_nil {proj : Project} {S : Site} {c : Cls} (hk : ObjKind proj S c) (hc : c = .cls) : S.2 ≠ [] := by
  intro h0
  have := hk.isMod.2 h0
  rw [hc] at this; cases this

def HasEntry (s : St) (ctx : Nat) (x : Name) : Prop :=
  ∃ o, s.reg.objs[ctx]? = some o ∧ (dget o.contents x ≠ none ∨ dget o.aliases x ≠ none)

def HasContent (s : St) (ctx : Nat) (x : Name) : Prop :=
  ∃ o c, s.reg.objs[ctx]? = some o ∧ dget o.contents x = some c

theorem HasContent.entry {s : St} {ctx : Nat} {x : Name} (h : HasContent s ctx x) : HasEntry s ctx x := by
  obtain ⟨o, c, ho, hd⟩ := h
  exact ⟨o, ho, Or.inl (by rw [hd]; simp)⟩

mutual
/-- every statement of a visited body that binds a name it spells out (not `import *`) left an entry in the scope's
object (and every class statement a class object whose own body is complete) -/
def CompleteStmt (s : St) (ctx : Nat) : Stmt → Prop
  | .classDef n _ body => ∃ c o po, s.reg.objs[ctx]? = some po ∧ dget po.contents n = some c ∧
      s.reg.objs[c]? = some o ∧ o.cls = .cls ∧ CompleteStmts s c body
  | .importMod t a => ∀ x ∈ explicitNames (.importMod t a), HasEntry s ctx x
  | .importFrom _ _ n a => HasEntry s ctx (a.getD n)
  | .importStar _ _ => True
  | .funcDef n => HasContent s ctx n
  | .assign n _ => HasContent s ctx n
  | .allAssign _ => True
def CompleteStmts (s : St) (ctx : Nat) : List Stmt → Prop
  | [] => True
  | st :: rest => CompleteStmt s ctx st ∧ CompleteStmts s ctx rest
end

/-- processing states only move forward, and a finished call leaves nothing in `processing` that was not -/
def PsRel (s s' : St) : Prop :=
  ∀ t, (getPs s t = .processing → getPs s' t = .processing) ∧
       (getPs s t = .processed → getPs s' t = .processed) ∧
       (getPs s t = .unprocessed → getPs s' t ≠ .processing)

theorem processed_of_ne {p : PState} (hu : p ≠ .unprocessed) (hp : p ≠ .processing) : p = .processed := by
  cases p <;> first | rfl | contradiction

theorem PsRel.refl (s : St) : PsRel s s := fun t => ⟨id, id, fun h => by rw [h]; simp⟩

theorem psRel_processing {s s' : St} (h : PsRel s s') {u : Nat} (hu : getPs s' u = .processing) : getPs s u = .processing := by
  cases hp : getPs s u with
  | processing => rfl
  | unprocessed => exact absurd hu ((h u).2.2 hp)
  | processed => rw [(h u).2.1 hp] at hu; cases hu

theorem PsRel.trans {a b c : St} (h1 : PsRel a b) (h2 : PsRel b c) : PsRel a c := fun t =>
  ⟨fun h => (h2 t).1 ((h1 t).1 h), fun h => (h2 t).2.1 ((h1 t).2.1 h),
    fun h hc => (h1 t).2.2 h (psRel_processing h2 hc)⟩

theorem psRel_unproc {s s' : St} (h : PsRel s s') {x : Nat} (hx : getPs s' x = .unprocessed) : getPs s x = .unprocessed := by
  cases hp : getPs s x with
  | unprocessed => rfl
  | processing => rw [(h x).1 hp] at hx; cases hx
  | processed => rw [(h x).2.1 hp] at hx; cases hx

/-- the later state extends the earlier one: objects, their classes, entries and names persist -/
structure Ext (s s' : St) : Prop where
  objs : ∀ (i : Nat) (o : Obj), s.reg.objs[i]? = some o → ∃ o' : Obj, s'.reg.objs[i]? = some o' ∧ o'.cls = o.cls ∧
    (∀ k c, dget o.contents k = some c → dget o'.contents k = some c) ∧
    (∀ k, dget o.aliases k ≠ none → dget o'.aliases k ≠ none)
  paths : ∀ i k, path s.reg i = some k → path s'.reg i = some k
  ps : PsRel s s'

theorem Ext.refl (s : St) : Ext s s :=
  ⟨fun _ o h => ⟨o, h, rfl, fun _ _ h => h, fun _ h => h⟩, fun _ _ h => h, PsRel.refl s⟩

theorem Ext.trans {a b c : St} (h1 : Ext a b) (h2 : Ext b c) : Ext a c := by
  refine ⟨fun i o ho => ?_, fun i k hk => h2.paths i k (h1.paths i k hk), h1.ps.trans h2.ps⟩
  obtain ⟨o1, ho1, c1, d1, e1⟩ := h1.objs i o ho
  obtain ⟨o2, ho2, c2, d2, e2⟩ := h2.objs i o1 ho1
  exact ⟨o2, ho2, c2.trans c1, fun k c h => d2 k c (d1 k c h), fun k h => e2 k (e1 k h)⟩

/-- the field `Ext.objs` alone, for states whose `ps` are not `PsRel`-related (a module is being started or finished) -/
def ExtObjs (s s' : St) : Prop :=
  ∀ (i : Nat) (o : Obj), s.reg.objs[i]? = some o → ∃ o' : Obj, s'.reg.objs[i]? = some o' ∧ o'.cls = o.cls ∧
    (∀ k c, dget o.contents k = some c → dget o'.contents k = some c) ∧
    (∀ k, dget o.aliases k ≠ none → dget o'.aliases k ≠ none)

theorem HasEntry.extObjs {s s' : St} (h : ExtObjs s s') {ctx : Nat} {x : Name} (he : HasEntry s ctx x) : HasEntry s' ctx x := by
  obtain ⟨o, ho, hx⟩ := he
  obtain ⟨o', ho', _, hc, ha⟩ := h ctx o ho
  refine ⟨o', ho', ?_⟩
  rcases hx with hx | hx
  · left
    cases hd : dget o.contents x with
    | none => exact absurd hd hx
    | some c => rw [hc x c hd]; simp
  · exact Or.inr (ha x hx)

theorem HasContent.extObjs {s s' : St} (h : ExtObjs s s') {ctx : Nat} {x : Name} (he : HasContent s ctx x) :
    HasContent s' ctx x := by
  obtain ⟨o, c, ho, hd⟩ := he
  obtain ⟨o', ho', _, hcc, _⟩ := h ctx o ho
  exact ⟨o', c, ho', hcc x c hd⟩

mutual
theorem CompleteStmt.extObjs {s s' : St} (h : ExtObjs s s') : ∀ {ctx : Nat} (st : Stmt), CompleteStmt s ctx st → CompleteStmt s' ctx st
  | ctx, .classDef n bs body, hc => by
    obtain ⟨c, o, po, hpo, hd, ho, hcl, hb⟩ := hc
    obtain ⟨po', hpo', _, hcc, _⟩ := h ctx po hpo
    obtain ⟨o', ho', hcl', _, _⟩ := h c o ho
    exact ⟨c, o', po', hpo', hcc n c hd, ho', hcl'.trans hcl, CompleteStmts.extObjs h body hb⟩
  | _, .importMod _ _, hc => fun x hx => (hc x hx).extObjs h
  | _, .importFrom _ _ _ _, hc => HasEntry.extObjs h hc
  | _, .importStar _ _, _ => trivial
  | _, .funcDef _, hc => HasContent.extObjs h hc
  | _, .assign _ _, hc => HasContent.extObjs h hc
  | _, .allAssign _, _ => trivial
theorem CompleteStmts.extObjs {s s' : St} (h : ExtObjs s s') : ∀ {ctx : Nat} (sts : List Stmt), CompleteStmts s ctx sts → CompleteStmts s' ctx sts
  | _, [], _ => trivial
  | _, st :: rest, hc => ⟨CompleteStmt.extObjs h st hc.1, CompleteStmts.extObjs h rest hc.2⟩
end

theorem ExtObjs.of_reg {s s' : St} (h : s'.reg = s.reg) : ExtObjs s s' :=
  fun i o ho => ⟨o, by rw [h]; exact ho, rfl, fun _ _ h => h, fun _ h => h⟩

/-- the bases that were resolved when their class statement was visited are class objects -/
def CBase (s : St) : Prop :=
  ∀ e ∈ s.cinfo, ∀ b, some b ∈ e.2.objs → ∃ o : Obj, s.reg.objs[b]? = some o ∧ o.cls = .cls

theorem CBase.ext {s s' : St} (h : CBase s) (he : Ext s s') (hc : s'.cinfo = s.cinfo) : CBase s' := by
  intro e hm b hb
  rw [hc] at hm
  obtain ⟨o, ho, hcl⟩ := h e hm b hb
  obtain ⟨o', ho', hc', _⟩ := he.objs b o ho
  exact ⟨o', ho', hc'.trans hcl⟩

/-- **the invariant of reachable, well-behaved states** -/
structure PdInv (proj : Project) (s : St) : Prop where
  reg : Inv s.reg
  cbase : CBase s
  lens : s.ps.length = proj.length ∧ s.alls.length = proj.length
  mods : ∀ m, m < proj.length → ∃ o, s.reg.objs[m]? = some o ∧ path s.reg m = some (pathOf proj m) ∧ o.cls = modCls proj m
  site : ∀ i o, s.reg.objs[i]? = some o → ∃ S, ObjKind proj S o.cls ∧ path s.reg i = some (sitePath proj S)
  alias : ∀ i o S, s.reg.objs[i]? = some o → path s.reg i = some (sitePath proj S) → StaticSite proj S →
    ∀ x tgt, dget o.aliases x = some tgt → Jpd proj S x tgt
  -- of MODULE objects only (what a star import may take: `Jpd.starChild`); class contents follow from `site`
  cont : ∀ m o, m < proj.length → s.reg.objs[m]? = some o → ∀ x c, dget o.contents x = some c →
    x ∈ childNames proj m ∨ ∃ st ∈ bodyOf proj m, st.defName = some x
  alls : ∀ m l, getAll s m = some l → ∀ x ∈ l, x ∈ allNames (bodyOf proj m)
  started : ∀ i S, path s.reg i = some (sitePath proj S) → StaticSite proj S → S.2 ≠ [] → getPs s S.1 ≠ .unprocessed
  complete : ∀ m md, proj[m]? = some md → getPs s m = .processed → CompleteStmts s m md.body

theorem PdInv.of_reg {proj : Project} {s s' : St} (h : PdInv proj s) (hreg : s'.reg = s.reg) (hcb : CBase s')
    (hlens : s'.ps.length = proj.length ∧ s'.alls.length = proj.length)
    (halls : ∀ m l, getAll s' m = some l → ∀ x ∈ l, x ∈ allNames (bodyOf proj m))
    (hstarted : ∀ m, getPs s m ≠ .unprocessed → getPs s' m ≠ .unprocessed)
    (hcomplete : ∀ m md, proj[m]? = some md → getPs s' m = .processed →
      getPs s m = .processed ∨ CompleteStmts s m md.body) : PdInv proj s' :=
  { reg := hreg ▸ h.reg, cbase := hcb, lens := hlens
    mods := by rw [hreg]; exact h.mods
    site := by rw [hreg]; exact h.site
    alias := by rw [hreg]; exact h.alias
    cont := by rw [hreg]; exact h.cont
    alls := halls
    started := fun i S hp hS hne => hstarted S.1 (h.started i S (hreg ▸ hp) hS hne)
    complete := fun m md hm hp => CompleteStmts.extObjs (ExtObjs.of_reg hreg) _
      ((hcomplete m md hm hp).elim (h.complete m md hm) id) }

theorem PdInv.setPending {proj : Project} {s : St} (h : PdInv proj s) (l : List Nat) : PdInv proj { s with pending := l } :=
  h.of_reg rfl h.cbase h.lens h.alls (fun _ h => h) (fun _ _ _ h => Or.inl h)

theorem setAlias_get {s : St} {ctx : Nat} {k : Name} {v : Path} {i : Nat} {o : Obj} (ho : s.reg.objs[i]? = some o) :
    (setAlias s ctx k v).reg.objs[i]? = some (if i = ctx then { o with aliases := dset o.aliases k v } else o) :=
  getElem?_modify_of_some ho

theorem setAlias_path {s : St} {ctx : Nat} {k : Name} {v : Path} (i : Nat) :
    path (setAlias s ctx k v).reg i = path s.reg i :=
  path_setAliases s.reg ctx _ i

theorem setAlias_ext (s : St) (ctx : Nat) (k : Name) (v : Path) : Ext s (setAlias s ctx k v) := by
  refine ⟨fun i o ho => ⟨_, setAlias_get ho, by split <;> rfl, fun _ _ h => by split <;> exact h, fun k' hk' => ?_⟩,
    fun i p hp => by rw [setAlias_path]; exact hp, PsRel.refl _⟩
  split
  · by_cases hk : k' = k
    · subst hk; simp [dset_get_same]
    · simpa [dset_get_other _ _ _ _ hk] using hk'
  · exact hk'

theorem setAlias_entry {s : St} {ctx : Nat} {k : Name} {v : Path} {o : Obj} (ho : s.reg.objs[ctx]? = some o) :
    HasEntry (setAlias s ctx k v) ctx k :=
  ⟨_, setAlias_get ho, Or.inr (by simp [dset_get_same])⟩

theorem setAlias_inv {s : St} {ctx : Nat} {k : Name} {v : Path} {i : Nat} {o' : Obj}
    (h : (setAlias s ctx k v).reg.objs[i]? = some o') : ∃ o, s.reg.objs[i]? = some o ∧ o'.cls = o.cls ∧
      o'.contents = o.contents ∧ o'.aliases = if i = ctx then dset o.aliases k v else o.aliases := by
  obtain ⟨o, ho, rfl⟩ := getElem?_modify_some h
  exact ⟨o, ho, by split <;> simp⟩

theorem pdInv_setAlias {proj : Project} {rank : List Nat} (wf : WFacts proj rank) {s : St} (hI : PdInv proj s)
    {ctx : Nat} {k : Name} {v : Path} {S : Site}
    (hp : path s.reg ctx = some (sitePath proj S)) (hj : Jpd proj S k v) :
    PdInv proj (setAlias s ctx k v) := by
  have hext := setAlias_ext s ctx k v
  obtain ⟨_, _, hbody, _⟩ := jpd_inv wf hj
  refine
    { reg := hI.reg.setAliases _ _, cbase := hI.cbase.ext hext rfl, lens := hI.lens,
      mods := ?_, site := ?_, alias := ?_, cont := ?_, alls := hI.alls,
      started := fun i S' hp' hS' hne => hI.started i S' (setAlias_path i ▸ hp') hS' hne,
      complete := fun m md hm hps => CompleteStmts.extObjs hext.objs _ (hI.complete m md hm hps) }
  · intro m hm
    obtain ⟨o, ho, hpm, hc⟩ := hI.mods m hm
    obtain ⟨o', ho', hc', _, _⟩ := hext.objs m o ho
    exact ⟨o', ho', by rw [setAlias_path]; exact hpm, hc'.trans hc⟩
  · intro i o' ho'
    obtain ⟨o, ho, hc, _⟩ := setAlias_inv ho'
    obtain ⟨S', hk', hp'⟩ := hI.site i o ho
    exact ⟨S', hc ▸ hk', by rw [setAlias_path]; exact hp'⟩
  · intro i o' S' ho' hp' hS' x tgt hx
    obtain ⟨o, ho, _, _, ha⟩ := setAlias_inv ho'
    rw [setAlias_path] at hp'
    rw [ha] at hx
    split at hx
    · rename_i hic; subst hic
      by_cases hk : x = k
      · -- the new entry: the statement being visited justifies it
        subst hk
        rw [dset_get_same] at hx; injection hx with hx; subst hx
        rw [site_unique wf hS' (static_of_body hbody) (Option.some.inj (hp'.symm.trans hp))]; exact hj
      · rw [dset_get_other _ _ _ _ hk] at hx; exact hI.alias i o S' ho hp' hS' x tgt hx
    · exact hI.alias i o S' ho hp' hS' x tgt hx
  · intro m o' hm ho' x c hx
    obtain ⟨o, ho, _, hc, _⟩ := setAlias_inv ho'
    exact hI.cont m o hm ho x c (hc ▸ hx)

theorem addObj_bad {s : St} {c : Cls} {name : Name} {parent : Nat} (h : (addObj s c name parent).bad = false) :
    s.bad = false := by
  revert h
  fun_cases addObj s c name parent
  · exact nofun
  · exact fun h => (Bool.or_eq_false_iff.1 h).1

theorem addObj_fresh {s : St} {c : Cls} {name : Name} {parent : Nat} {pp : Path}
    (hp : path s.reg parent = some pp) (h : (addObj s c name parent).bad = false) :
    dget s.reg.all (pp ++ [name]) = none := by
  unfold addObj at h
  cases ha : addObject s.reg c name (some parent) with
  | error e => simp [ha] at h
  | ok r =>
    simp only [ha, hp, Bool.or_eq_false_iff, dhas] at h
    cases hd : dget s.reg.all (pp ++ [name]) with
    | none => rfl
    | some v => rw [hd] at h; simp at h

theorem addObj_spec {s : St} (hI : Inv s.reg) {c : Cls} {name : Name} {parent : Nat} {pp : Path}
    (hp : path s.reg parent = some pp) (h : (addObj s c name parent).bad = false) :
    ∃ r, addObj s c name parent = { s with reg := r } ∧ Added s.reg c name (some parent) (pp ++ [name]) r := by
  have hf := addObj_fresh hp h
  obtain ⟨r, ha, A⟩ := addObject_added hI (c := c) (par := some parent) hp hf
  refine ⟨r, ?_, A⟩
  unfold addObj
  simp only [ha, hp, dhas, hf, addObj_bad h]
  rfl

/-- the state after a well-behaved `addObj` under the object `ctx` (qualified name `pp`) -/
structure AddReg (s : St) (c : Cls) (name : Name) (ctx : Nat) (pp : Path) (s' : St) : Prop where
  inv : Inv s'.reg
  rest : s'.ps = s.ps ∧ s'.alls = s.alls ∧ s'.cinfo = s.cinfo
  new : s'.reg.objs[s.reg.objs.length]? = some (⟨name, some ctx, c, [], []⟩ : Obj)
  old : ∀ i o, s.reg.objs[i]? = some o → s'.reg.objs[i]? =
    some (if i = ctx then { o with contents := dset o.contents name s.reg.objs.length } else o)
  cases : ∀ i o', s'.reg.objs[i]? = some o' → (i = s.reg.objs.length ∧ o' = ⟨name, some ctx, c, [], []⟩) ∨
    (∃ o, s.reg.objs[i]? = some o ∧
      o' = (if i = ctx then { o with contents := dset o.contents name s.reg.objs.length } else o))
  pold : ∀ i k, path s.reg i = some k → path s'.reg i = some k
  pback : ∀ i k, i < s.reg.objs.length → path s'.reg i = some k → path s.reg i = some k
  pnew : path s'.reg s.reg.objs.length = some (pp ++ [name])
  fresh : ∀ o k c', s.reg.objs[ctx]? = some o → dget o.contents k = some c' → k ≠ name

theorem addObj_reg {s : St} (hI : Inv s.reg) {c : Cls} {name : Name} {ctx : Nat} {pp : Path}
    (hp : path s.reg ctx = some pp) (hb : (addObj s c name ctx).bad = false) :
    AddReg s c name ctx pp (addObj s c name ctx) := by
  obtain ⟨r, he, A⟩ := addObj_spec hI hp hb
  rw [he]
  have hold : ∀ i o, s.reg.objs[i]? = some o → r.objs[i]? =
      some (if i = ctx then { o with contents := dset o.contents name s.reg.objs.length } else o) :=
    fun i o ho => by simpa using A.old i o ho
  refine ⟨A.inv, ⟨rfl, rfl, rfl⟩, A.new, hold, fun i o' ho' => by simpa using A.cases ho', A.pold,
    fun i k hi hk => A.pback hI hi hk, A.pnew, ?_⟩
  · -- the new name was free, so it is no entry of the parent yet
    intro o k c' ho hd hk
    have := dget_of_path hI (path_child hI ho hd hp)
    rw [hk, addObj_fresh hp hb] at this; cases this

theorem addObj_ext {s : St} (hI : Inv s.reg) {c : Cls} {name : Name} {ctx : Nat} {pp : Path}
    (hp : path s.reg ctx = some pp) (hb : (addObj s c name ctx).bad = false) : Ext s (addObj s c name ctx) := by
  have R := addObj_reg hI hp hb
  refine ⟨fun i o ho => ⟨_, R.old i o ho, ?_, ?_, ?_⟩, R.pold, fun t => ?_⟩
  · split <;> rfl
  · intro k' c' hd
    split
    · rename_i hic; subst hic
      simpa [dset_get_other _ _ _ _ (R.fresh o k' c' ho hd)] using hd
    · exact hd
  · intro k' hk'; split <;> exact hk'
  · rw [show getPs (addObj s c name ctx) t = getPs s t by unfold getPs; rw [R.rest.1]]; exact PsRel.refl s t

theorem pdInv_addObj {proj : Project} {rank : List Nat} (wf : WFacts proj rank) {s : St} (hI : PdInv proj s)
    {c : Cls} {name : Name} {ctx : Nat} {S : Site} {full : List Stmt} {st : Stmt}
    (hb : (addObj s c name ctx).bad = false)
    (hp : path s.reg ctx = some (sitePath proj S)) (hS : siteBody proj S = some full) (hst : st ∈ full)
    (hk : stKind st = some (name, c)) (hps : getPs s S.1 ≠ .unprocessed) : PdInv proj (addObj s c name ctx) := by
  have R := addObj_reg hI.reg hp hb
  have hext := addObj_ext hI.reg hp hb
  generalize addObj s c name ctx = s' at R hext ⊢
  obtain ⟨hinv, ⟨hps', hal', hci'⟩, _, _, hcases, hpold, hpback, hpn, _⟩ := R
  have hnewpath : path s'.reg s.reg.objs.length = some (sitePath proj (S.1, S.2 ++ [name])) := by
    rw [hpn]; simp [sitePath]
  have hgetPs : ∀ t, getPs s' t = getPs s t := fun t => by unfold getPs; rw [hps']
  refine
    { reg := hinv, cbase := hI.cbase.ext hext hci', lens := by rw [hps', hal']; exact hI.lens, mods := ?_, site := ?_,
      alias := ?_, cont := ?_, alls := fun m l hl => hI.alls m l (by unfold getAll at hl ⊢; rw [← hal']; exact hl),
      started := ?_,
      complete := fun m md hm hp' => CompleteStmts.extObjs hext.objs _ (hI.complete m md hm (hgetPs m ▸ hp')) }
  · intro m hm
    obtain ⟨o, ho, hpm, hc⟩ := hI.mods m hm
    obtain ⟨o', ho', hc', _, _⟩ := hext.objs m o ho
    exact ⟨o', ho', hpold m _ hpm, hc'.trans hc⟩
  · intro i o' ho'
    rcases hcases i o' ho' with ⟨rfl, rfl⟩ | ⟨o, ho, rfl⟩
    · exact ⟨(S.1, S.2 ++ [name]), ObjKind.dfn hS hst hk, hnewpath⟩
    · obtain ⟨S', hk', hp'⟩ := hI.site i o ho
      refine ⟨S', ?_, hpold i _ hp'⟩
      split <;> exact hk'
  · intro i o' S' ho' hp' hS' x tgt hx
    rcases hcases i o' ho' with ⟨rfl, rfl⟩ | ⟨o, ho, rfl⟩
    · cases hx
    · have hx' : dget o.aliases x = some tgt := by split at hx <;> exact hx
      exact hI.alias i o S' ho (hpback i _ (List.getElem?_eq_some_iff.1 ho).1 hp') hS' x tgt hx'
  · intro m o' hm ho' x c' hx
    rcases hcases m o' ho' with ⟨rfl, rfl⟩ | ⟨o, ho, rfl⟩
    · cases hx
    · split at hx
      · rename_i hmc; subst hmc
        by_cases hxn : x = name
        · -- the new entry of a module: the definition being visited
          subst hxn
          obtain ⟨om, _, hpm, _⟩ := hI.mods m hm
          have : S = (m, []) := site_unique wf (static_of_body hS) ⟨hm, Or.inl rfl⟩ (by
            rw [hpm] at hp; injection hp with hp; simpa [sitePath] using hp.symm)
          subst this
          exact Or.inr ⟨st, siteBody_mod hS ▸ hst, stKind_defName hk⟩
        · rw [dset_get_other _ _ _ _ hxn] at hx
          exact hI.cont m o hm ho x c' hx
      · exact hI.cont m o hm ho x c' hx
  · intro i S' hp' hS' hne
    rw [hgetPs]
    rcases hcases i _ (List.getElem?_eq_getElem (path_lt hp')) with ⟨rfl, _⟩ | ⟨o, ho, _⟩
    · -- the new object: its module is the one being visited
      rw [hnewpath] at hp'; injection hp' with hp'
      rw [site_unique wf hS' (ObjKind.dfn hS hst hk).static hp'.symm]; exact hps
    · exact hI.started i S' (hpback i _ (List.getElem?_eq_some_iff.1 ho).1 hp') hS' hne

/-! ## `bad` is sticky

Read backwards, from a clean result; the forward induction (`Good`, from `visitStmt_good` on) does not rest on this. -/

theorem markBad_sticky {s : St} {b : Bool} (h : (markBad s b).bad = false) : s.bad = false := by
  unfold markBad at h
  cases b <;> simp_all

theorem setAlias_bad (s : St) (ctx : Nat) (k : Name) (v : Path) : (setAlias s ctx k v).bad = s.bad := rfl

def Sticky (pm : St → Nat → St) : Prop := ∀ s t, (pm s t).bad = false → s.bad = false

theorem foldl_bad {α : Type} {f : St → α → St} (hf : ∀ s x, (f s x).bad = false → s.bad = false) :
    ∀ {l : List α} {s : St}, (l.foldl f s).bad = false → s.bad = false
  | [], _, h => h
  | _ :: _, _, h => hf _ _ (foldl_bad hf h)

theorem pmMany_bad {pm : St → Nat → St} (hpm : Sticky pm) {l : List Nat} {s : St}
    (h : (pmMany pm l s).bad = false) : s.bad = false :=
  foldl_bad (fun s m h => by split at h; exact hpm _ _ h; exact h) h

theorem gpmOne_bad {pm : St → Nat → St} (hpm : Sticky pm) {s : St} {t : Nat}
    (h : (gpmOne pm s t).bad = false) : s.bad = false := by
  have h := markBad_sticky h
  split at h
  · exact hpm _ _ h
  · exact h

theorem gpmAbove_bad {pm : St → Nat → St} (hpm : Sticky pm) {s : St} {t : Nat}
    (h : (gpmAbove pm s t).bad = false) : s.bad = false := by
  unfold gpmAbove at h
  split at h
  · exact pmMany_bad hpm h
  · exact h

theorem gpm_bad {pm : St → Nat → St} (hpm : Sticky pm) {s : St} {T : Path}
    (h : (getProcessedModule pm s T).1.bad = false) : s.bad = false := by
  unfold getProcessedModule at h
  cases hl : lookupModule s T with
  | mk r crash =>
    rw [hl] at h
    cases r with
    | none => exact markBad_sticky h
    | some t =>
      simp only at h
      exact markBad_sticky (gpmAbove_bad hpm (gpmOne_bad hpm h))

theorem importProcess_bad {pm : St → Nat → St} (hpm : Sticky pm) {T : Path} {s : St}
    (h : (importProcess pm T s).bad = false) : s.bad = false :=
  foldl_bad (fun _ _ => gpm_bad hpm) h

theorem doMove_bad {s : St} {ctx ob : Nat} {a : Name} (h : (doMove s ctx ob a).1.bad = false) : s.bad = false := by
  revert h
  fun_cases doMove s ctx ob a
  · exact fun h => (Bool.or_eq_false_iff.1 h).1
  · exact nofun

theorem pbm_bad {pm : St → Nat → St} (hpm : Sticky pm) {s : St} {ob : Nat}
    (h : (processBeforeMove pm s ob).bad = false) : s.bad = false := by
  unfold processBeforeMove at h
  split at h
  · split at h
    · exact gpm_bad hpm (pmMany_bad hpm h)
    · cases h
  · exact h

theorem hre_bad {pm : St → Nat → St} (hpm : Sticky pm) {s : St} {ctx : Nat} {ex : List Name} {o a : Name} {t : Nat}
    (h : (handleReExport pm s ctx ex o a t).1.bad = false) : s.bad = false := by
  revert h
  fun_cases handleReExport pm s ctx ex o a t
  case case6 => exact fun h => pbm_bad hpm (doMove_bad h)
  -- every other exit returns the state it was given
  all_goals exact id

theorem starOne_bad {pm : St → Nat → St} (hpm : Sticky pm) {ctx t : Nat} {ex : List Name} {s : St} {x : Name}
    (h : (starOne pm ctx t ex s x).bad = false) : s.bad = false := by
  unfold starOne at h
  simp only at h
  split at h
  · exact hre_bad hpm h
  · split at h
    · cases h
    · exact hre_bad hpm h

theorem visitImportFrom_bad {pm : St → Nat → St} (hpm : Sticky pm) {mod ctx level : Nat} {M : Path} {n : Name}
    {a : Option Name} {s : St} (h : (visitImportFrom pm mod ctx level M n a s).bad = false) : s.bad = false := by
  unfold visitImportFrom at h
  cases hT : absName s mod level M with
  | none => simp only [hT] at h; exact h
  | some T =>
    simp only [hT] at h
    cases ht : (getProcessedModule pm s T).2 with
    | none => simp only [ht, setAlias_bad] at h; exact gpm_bad hpm h
    | some t =>
      simp only [ht] at h
      generalize hs2 : (if isPkgObj (getProcessedModule pm s T).1.reg t = true then
          (getProcessedModule pm (getProcessedModule pm s T).1 (T ++ [n])).1 else (getProcessedModule pm s T).1) = s2 at h
      have h2 : s2.bad = false := by
        by_cases hh : (handleReExport pm s2 ctx (currentExports (getProcessedModule pm s T).1 ctx) n (a.getD n) t).2 = true
        · simp only [hh, if_true] at h; exact hre_bad hpm h
        · simp only [hh, Bool.false_eq_true, if_false] at h; rw [setAlias_bad] at h; exact hre_bad hpm h
      rw [← hs2] at h2
      split at h2
      · exact gpm_bad hpm (gpm_bad hpm h2)
      · exact gpm_bad hpm h2

theorem visitImportStar_bad {pm : St → Nat → St} (hpm : Sticky pm) {mod ctx level : Nat} {M : Path}
    {s : St} (h : (visitImportStar pm mod ctx level M s).bad = false) : s.bad = false := by
  unfold visitImportStar at h
  split at h
  · exact h
  · simp only at h
    split at h
    · exact gpm_bad hpm h
    · exact gpm_bad hpm (foldl_bad (fun _ _ => starOne_bad hpm) h)

theorem visitImport_bad {ctx : Nat} {t : Path} {a : Option Name} {s : St} (h : (visitImport ctx t a s).bad = false) :
    s.bad = false := by
  unfold visitImport at h
  split at h
  · exact h
  · split at h <;> exact h

/-- `_handleModuleVar` / `_handleClassVar` for a literal: an attribute is created unless the name is taken -/
theorem visitAssign_eq {s : St} {ctx : Nat} {n : Name} {o : Obj} (ho : getObj s.reg ctx = some o) :
    visitAssign ctx n s = if dhas o.contents n = true then s else addObj s .attribute n ctx := by
  unfold visitAssign
  simp only [ho]
  cases dhas o.contents n <;> simp

theorem visitAssign_bad {ctx : Nat} {n : Name} {s : St} (h : (visitAssign ctx n s).bad = false) : s.bad = false := by
  cases ho : getObj s.reg ctx with
  | none => simp [visitAssign, ho] at h
  | some o =>
    rw [visitAssign_eq ho] at h
    split at h
    · exact h
    · exact addObj_bad h

theorem enterClass_bad {ctx : Nat} {n : Name} {bs : List Path} {s : St} (h : (enterClass ctx n bs s).bad = false) :
    (addObj s .cls n ctx).bad = false := by
  unfold enterClass at h
  simp only at h
  exact (markBad_sticky h :)

mutual
theorem visitStmt_bad {pm : St → Nat → St} (hpm : Sticky pm) {mod : Nat} :
    ∀ (st : Stmt) (ctx : Nat) (s : St), (visitStmt pm mod ctx st s).bad = false → s.bad = false
  | .importMod _ _, _, _, h => importProcess_bad hpm (visitImport_bad h)
  | .importFrom _ _ _ _, _, _, h => visitImportFrom_bad hpm h
  | .importStar _ _, _, _, h => visitImportStar_bad hpm h
  | .classDef _ _ body, _, _, h => addObj_bad (enterClass_bad (visitStmts_bad hpm body _ _ h))
  | .funcDef _, _, _, h => addObj_bad h
  | .assign _ _, _, _, h => visitAssign_bad h
  | .allAssign _, _, _, h => h
theorem visitStmts_bad {pm : St → Nat → St} (hpm : Sticky pm) {mod : Nat} :
    ∀ (sts : List Stmt) (ctx : Nat) (s : St), (visitStmts pm mod ctx sts s).bad = false → s.bad = false
  | [], _, _, h => h
  | st :: rest, ctx, s, h => visitStmt_bad hpm st ctx s (visitStmts_bad hpm rest ctx _ h)
end

theorem addModules_bad : ∀ (l : List Module) (s : St), (addModules l s).bad = false → s.bad = false := by
  intro l s
  fun_induction addModules l s
  case case1 => exact id
  case case5 ih => exact fun h => (Bool.or_eq_false_iff.1 (ih h)).1
  -- the error exits go on with `bad := true`
  all_goals (rename_i ih; exact fun h => nomatch ih h)

/-! ## the visiting context; module lookups -/

/-- `ctx` is the object of scope `S` (of module `mod`, which is being processed), whose body is `full` -/
structure Ctx (proj : Project) (s : St) (mod ctx : Nat) (S : Site) (full : List Stmt) : Prop where
  hmod : mod < proj.length
  hS1 : S.1 = mod
  body : siteBody proj S = some full
  pathc : path s.reg ctx = some (sitePath proj S)
  clsc : ∃ o, s.reg.objs[ctx]? = some o ∧ ((S.2 = [] ∧ isModuleCls o.cls = true) ∨ (S.2 ≠ [] ∧ o.cls = .cls))
  ctxmod : S.2 = [] → ctx = mod
  ps : getPs s mod = .processing

theorem Ctx.ext {proj : Project} {s s' : St} {mod ctx : Nat} {S : Site} {full : List Stmt}
    (h : Ctx proj s mod ctx S full) (he : Ext s s') : Ctx proj s' mod ctx S full := by
  obtain ⟨o, ho, hc⟩ := h.clsc
  obtain ⟨o', ho', hc', _, _⟩ := he.objs ctx o ho
  exact ⟨h.hmod, h.hS1, h.body, he.paths _ _ h.pathc, ⟨o', ho', by rw [hc']; exact hc⟩, h.ctxmod, (he.ps mod).1 h.ps⟩

theorem Ctx.static {proj : Project} {s : St} {mod ctx : Nat} {S : Site} {full : List Stmt}
    (hI : PdInv proj s) (h : Ctx proj s mod ctx S full) : StaticSite proj S :=
  static_of_body h.body

/-- what the scope being visited exports: the `__all__` recorded for its module; nothing in a class -/
theorem Ctx.exports {proj : Project} {s : St} {mod ctx : Nat} {S : Site} {full : List Stmt}
    (hc : Ctx proj s mod ctx S full) :
    currentExports s ctx = if S.2 = [] then (getAll s mod).getD [] else [] := by
  unfold currentExports
  obtain ⟨o, ho, hcl⟩ := hc.clsc
  have hmo : isModuleObj s.reg ctx = isModuleCls o.cls := by simp [isModuleObj, getObj, ho]
  rw [hmo]
  rcases hcl with ⟨hS2, hm⟩ | ⟨hS2, hm⟩
  · rw [hc.ctxmod hS2]; simp [hm, hS2]
  · simp [hm, isModuleCls, hS2]

/-- the contract of `pm` read backwards, from a clean result -/
def PmOk (proj : Project) (pm : St → Nat → St) : Prop :=
  Sticky pm ∧ ∀ s t, (pm s t).bad = false → PdInv proj s → t < proj.length →
    PdInv proj (pm s t) ∧ Ext s (pm s t) ∧ getPs (pm s t) t = .processed

/-- what the module lookups need of a state, however the objects below the modules are named: the C02 invariant
and the module objects -/
structure ModFacts (proj : Project) (s : St) : Prop where
  reg : Inv s.reg
  mods : ∀ m, m < proj.length → ∃ o, s.reg.objs[m]? = some o ∧ path s.reg m = some (pathOf proj m) ∧ o.cls = modCls proj m
  modobj : ∀ {t}, isModuleObj s.reg t = true → t < proj.length

theorem ModFacts.of {proj : Project} {s : St} {L : Site → Path} (hL : ∀ m, L (m, []) = pathOf proj m) (reg : Inv s.reg)
    (mods : ∀ m, m < proj.length → ∃ o, s.reg.objs[m]? = some o ∧ path s.reg m = some (pathOf proj m) ∧ o.cls = modCls proj m)
    (site : ∀ i o, s.reg.objs[i]? = some o → ∃ S, ObjKind proj S o.cls ∧ path s.reg i = some (L S)) : ModFacts proj s := by
  refine ⟨reg, mods, fun {t} h => ?_⟩
  unfold isModuleObj at h
  cases ho : getObj s.reg t with
  | none => simp [ho] at h
  | some o =>
    simp only [ho] at h
    obtain ⟨⟨m, cp⟩, hk, hp⟩ := site t o ho
    have hS2 : cp = [] := hk.isMod.1 h
    subst hS2
    obtain ⟨om, _, hpm, _⟩ := mods m hk.static.1
    rw [hL] at hp
    rw [path_inj reg hp hpm]; exact hk.static.1

/-- the converse of `ModFacts.modobj` -/
theorem ModFacts.isModule {proj : Project} {s : St} (hM : ModFacts proj s) {t : Nat} (ht : t < proj.length) :
    isModuleObj s.reg t = true := by
  obtain ⟨o, ho, _, hcl⟩ := hM.mods t ht
  unfold isModuleObj getObj; simp only [ho, hcl, isModuleCls_modCls]

theorem PdInv.modFacts {proj : Project} {s : St} (hI : PdInv proj s) : ModFacts proj s :=
  .of (L := sitePath proj) (fun m => by simp [sitePath]) hI.reg hI.mods hI.site

theorem lookupModule_some {s : St} {T : Path} {t : Nat} {crash : Bool} (h : lookupModule s T = (some t, crash)) :
    isModuleObj s.reg t = true ∧ (Names.objFor (envOf s) T = some t ∨
      (Names.objFor (envOf s) T = none ∧ Names.findObject (envOf s) T = .obj t)) := by
  unfold lookupModule at h
  simp only at h
  cases hof : Names.objFor (envOf s) T with
  | some i =>
    simp only [hof] at h
    split at h
    · rename_i hm; cases h; exact ⟨hm, Or.inl rfl⟩
    · cases h
  | none =>
    simp only [hof] at h
    cases hF : Names.findObject (envOf s) T with
    | obj i =>
      simp only [hF] at h
      split at h
      · rename_i hm; cases h; exact ⟨hm, Or.inr ⟨rfl, rfl⟩⟩
      · cases h
    | _ => simp [hF] at h

theorem lookupModule_spec {proj : Project} {s : St} (hI : ModFacts proj s) {T : Path} {t : Nat} {crash : Bool}
    (h : lookupModule s T = (some t, crash)) :
    t < proj.length ∧ ∀ t', modIdx proj T = some t' → t = t' := by
  obtain ⟨hm, hfound⟩ := lookupModule_some h
  refine ⟨hI.modobj hm, fun t' ht' => ?_⟩
  obtain ⟨hlt, hp⟩ := modIdx_spec ht'
  obtain ⟨om, _, hpm, _⟩ := hI.mods t' hlt
  have hreg : Names.objFor (envOf s) T = some t' := dget_of_path hI.reg (hp ▸ hpm)
  rcases hfound with h1 | ⟨h1, _⟩
  · exact Option.some.inj (h1.symm.trans hreg)
  · cases h1.symm.trans hreg

theorem modulesAbove_lt {proj : Project} {s : St} (hI : ModFacts proj s) :
    ∀ (f i : Nat), ∀ m ∈ modulesAbove s.reg f i, m < proj.length
  | 0, _, m, h => by simp [modulesAbove] at h
  | f+1, i, m, h => by
    unfold modulesAbove at h
    split at h
    · split at h
      · rename_i par _ hm
        rcases List.mem_cons.1 h with h | h
        · subst h; exact hI.modobj hm
        · exact modulesAbove_lt hI f par m h
      · cases h
    · cases h

theorem addObj_clean {s : St} (hI : Inv s.reg) {c : Cls} {name : Name} {parent : Nat} {pp : Path} (hb : s.bad = false)
    (hp : path s.reg parent = some pp) (hf : dget s.reg.all (pp ++ [name]) = none) :
    (addObj s c name parent).bad = false := by
  obtain ⟨r, ha, _⟩ := addObject_added hI (c := c) (par := some parent) hp hf
  unfold addObj
  rw [ha]
  simp [hp, dhas, hf, hb]

theorem _root_.Registry.NoOrphan.of {proj : Project} {s : St} {L : Site → Path}
    (hlen : ∀ S, StaticSite proj S → S.2 ≠ [] → 2 ≤ (L S).length)
    (site : ∀ i o, s.reg.objs[i]? = some o → ∃ S, ObjKind proj S o.cls ∧ path s.reg i = some (L S)) : NoOrphan s.reg := by
  intro i o ho hc
  obtain ⟨S, hk, hp⟩ := site i o ho
  cases hpar : o.parent with
  | some q => exact ⟨q, rfl⟩
  | none =>
    exfalso
    have := hlen S hk.static (fun h0 => by have := hk.isMod.2 h0; rw [hc] at this; cases this)
    rw [(path_sound hp).root_inv ho hpar] at this; simp at this

theorem nonmodule_parent {proj : Project} {rank : List Nat} (wf : WFacts proj rank) {s : St} (hI : PdInv proj s) :
    NoOrphan s.reg :=
  .of (L := sitePath proj) (fun S hS h2 => by
    have h1 := List.length_pos_iff.2 (wf.parentOk S.1 hS.1).1
    have h3 := List.length_pos_iff.2 h2
    simp only [sitePath, List.length_append]; omega) hI.site

theorem lookupModule_nocrash {s : St} (hI : Inv s.reg) (hpar : NoOrphan s.reg) (T : Path) : (lookupModule s T).2 = false := by
  unfold lookupModule
  simp only
  cases hof : Names.objFor (envOf s) T with
  | some i => simp only; split <;> (try split) <;> rfl
  | none =>
    simp only
    have hfo := Names.findObject_nocrash (e := envOf s) hI hpar T
    cases hf : Names.findObject (envOf s) T with
    | obj i => simp only; split <;> (try split) <;> rfl
    | external => rfl
    | lookupError => rfl
    | indexError => exact absurd hf hfo.1
    | crash => exact absurd hf hfo.2

/-! ## fuel: the number of modules that are still unprocessed -/

def cnt (s : St) : Nat := s.ps.count .unprocessed

theorem count_le_pointwise {α : Type} [DecidableEq α] (a : α) : ∀ (l l' : List α),
    (∀ i : Nat, l'[i]? = some a → l[i]? = some a) → l'.count a ≤ l.count a
  | _, [], _ => by simp
  | [], _ :: _, h => by
    rw [List.count_eq_zero.2 fun hm => by obtain ⟨i, hi⟩ := List.getElem?_of_mem hm; simpa using h i hi]
    exact Nat.zero_le _
  | x :: xs, y :: ys, h => by
    have ih := count_le_pointwise a xs ys fun i hi => by simpa using h (i+1) (by simpa using hi)
    have h0 : y = a → x = a := by simpa using h 0
    rw [List.count_cons, List.count_cons]
    refine Nat.add_le_add ih ?_
    by_cases hy : y = a
    · simp [hy, h0 hy]
    · simp [hy]

theorem getPs_lt {s : St} {m : Nat} (h : getPs s m = .unprocessed) : m < s.ps.length := by
  refine Nat.lt_of_not_le (fun hge => ?_)
  unfold getPs at h
  rw [List.getD_eq_getElem?_getD, List.getElem?_eq_none hge] at h
  cases h

theorem getPs_eq_getElem {s : St} {i : Nat} (h : i < s.ps.length) : getPs s i = s.ps[i] := by
  unfold getPs; rw [List.getD_eq_getElem?_getD, List.getElem?_eq_getElem h]; rfl

/-- whatever the lengths: beyond the end a module counts as processed -/
theorem cnt_le_of_psRel {s s' : St} (h : PsRel s s') : cnt s' ≤ cnt s := by
  refine count_le_pointwise _ _ _ fun i he => ?_
  have h1 := psRel_unproc h (x := i) (by simp [getPs, he])
  unfold getPs at h1
  rw [List.getD_eq_getElem?_getD] at h1
  cases hs : s.ps[i]? with
  | none => rw [hs] at h1; cases h1
  | some v => rw [hs] at h1; exact congrArg some h1

theorem cnt_pos {s : St} {m : Nat} (h : getPs s m = .unprocessed) : 0 < cnt s := by
  have hm := getPs_lt h
  exact List.count_pos_iff.2 (by rw [← h, getPs_eq_getElem hm]; exact List.getElem_mem hm)

theorem cnt_start {s : St} {m : Nat} {al : List (Option (List Name))} (h : getPs s m = .unprocessed) :
    cnt { s with ps := s.ps.set m .processing, alls := al } + 1 = cnt s := by
  have hm := getPs_lt h
  have hpos := cnt_pos h
  unfold cnt at hpos ⊢
  simp only
  rw [List.count_set hm, ← getPs_eq_getElem hm, h]
  simp
  omega

/-! ## frame: what a statement can change in the `contents` of existing objects -/

/-- module `i` has been started (objects that are not modules are never touched from outside) -/
def Prot (proj : Project) (s : St) (i : Nat) : Prop := i < proj.length → getPs s i ≠ .unprocessed

theorem Prot.ext {proj : Project} {s s' : St} {i : Nat} (h : Prot proj s i) (he : PsRel s s') : Prot proj s' i :=
  fun hi hu => h hi (psRel_unproc he hu)

/-- the scope being visited belongs to a started module -/
theorem Ctx.prot {proj : Project} {s : St} {mod ctx : Nat} {S : Site} {full : List Stmt} (hM : ModFacts proj s)
    (hc : Ctx proj s mod ctx S full) : Prot proj s ctx := by
  intro hlt
  obtain ⟨o, ho, hcl⟩ := hc.clsc
  obtain ⟨o', ho', _, hc'⟩ := hM.mods ctx hlt
  rw [ho] at ho'; injection ho' with ho'; subst ho'
  rcases hcl with ⟨hS2, _⟩ | ⟨_, hcls⟩
  · rw [hc.ctxmod hS2, hc.ps]; simp
  · rw [hc'] at hcls; unfold modCls at hcls; split at hcls <;> cases hcls

/-- every started object of `s` keeps its `contents`, except that `ctx` may gain the keys `names` -/
def FrameX (proj : Project) (ctx : Option Nat) (names : List Name) (s s' : St) : Prop :=
  ∀ (i : Nat) (o : Obj), s.reg.objs[i]? = some o → Prot proj s i → ∃ o' : Obj, s'.reg.objs[i]? = some o' ∧
    (some i ≠ ctx → o'.contents = o.contents) ∧
    (some i = ctx → ∀ k, k ∉ names → dget o'.contents k = dget o.contents k)

theorem FrameX.refl (proj : Project) (ctx : Option Nat) (names : List Name) (s : St) : FrameX proj ctx names s s :=
  fun _ o ho _ => ⟨o, ho, fun _ => rfl, fun _ _ _ => rfl⟩

theorem FrameX.trans {proj : Project} {ctx : Option Nat} {l1 l2 : List Name} {a b c : St}
    (h1 : FrameX proj ctx l1 a b) (hp : PsRel a b) (h2 : FrameX proj ctx l2 b c) : FrameX proj ctx (l1 ++ l2) a c := by
  intro i o ho hpr
  obtain ⟨o1, ho1, e1, k1⟩ := h1 i o ho hpr
  obtain ⟨o2, ho2, e2, k2⟩ := h2 i o1 ho1 (hpr.ext hp)
  refine ⟨o2, ho2, fun hne => (e2 hne).trans (e1 hne), fun he k hk => ?_⟩
  simp only [List.mem_append, not_or] at hk
  rw [k2 he k hk.2, k1 he k hk.1]

theorem FrameX.widen {proj : Project} {c c' : Option Nat} {l l' : List Name} {a b : St} (h : FrameX proj c l a b)
    (hc : c = none ∨ c = c') (hl : ∀ x ∈ l, x ∈ l') : FrameX proj c' l' a b := by
  intro i o ho hpr
  obtain ⟨o1, ho1, e1, k1⟩ := h i o ho hpr
  rcases hc with rfl | rfl
  · have := e1 (by simp)
    exact ⟨o1, ho1, fun _ => this, fun _ _ _ => by rw [this]⟩
  · exact ⟨o1, ho1, e1, fun he k hk => k1 he k (fun hx => hk (hl k hx))⟩

theorem FrameX.weaken {proj : Project} {ctx : Option Nat} {l : List Name} {a b : St}
    (h : FrameX proj none [] a b) : FrameX proj ctx l a b :=
  h.widen (Or.inl rfl) (by simp)

theorem FrameX.mono {proj : Project} {ctx : Option Nat} {l l' : List Name} {a b : St}
    (h : FrameX proj ctx l a b) (hs : ∀ x ∈ l, x ∈ l') : FrameX proj ctx l' a b :=
  h.widen (Or.inr rfl) hs

theorem setAlias_frame (proj : Project) (c : Option Nat) (l : List Name) (s : St) (ctx : Nat) (k : Name) (v : Path) :
    FrameX proj c l s (setAlias s ctx k v) :=
  fun i o ho _ => ⟨_, setAlias_get ho, fun _ => by split <;> rfl, fun _ _ _ => by split <;> rfl⟩

theorem addObj_frame (proj : Project) {s : St} (hI : Inv s.reg) {c : Cls} {name : Name} {ctx : Nat} {pp : Path}
    (hp : path s.reg ctx = some pp) (hb : (addObj s c name ctx).bad = false) :
    FrameX proj (some ctx) [name] s (addObj s c name ctx) := by
  obtain ⟨r, he, A⟩ := addObj_spec hI hp hb
  rw [he]
  intro i o ho _
  refine ⟨_, A.old i o ho, fun hne => by rw [if_neg hne], fun hi k hk => ?_⟩
  rw [if_pos hi, dset_get_other _ _ _ _ (by simpa using hk)]

/-- `PmClean`, `PmGood`, `StepOk`: the parts "clean" and "clean + frame" of `PmAll` / `Good` below -/
def PmClean (proj : Project) (pm : St → Nat → St) (k : Nat) : Prop :=
  ∀ s t, s.bad = false → PdInv proj s → t < proj.length → getPs s t = .unprocessed → cnt s ≤ k → (pm s t).bad = false

theorem markBad_false (s : St) : markBad s false = s := rfl

/-- `pm` (one nesting level of `processModule`) is clean and leaves started objects alone, on states with at
most `k` unprocessed modules -/
def PmGood (proj : Project) (pm : St → Nat → St) (k : Nat) : Prop :=
  ∀ s t, s.bad = false → PdInv proj s → t < proj.length → getPs s t = .unprocessed → cnt s ≤ k →
    (pm s t).bad = false ∧ FrameX proj none [] s (pm s t)

theorem PmGood.clean {proj : Project} {pm : St → Nat → St} {k : Nat} (h : PmGood proj pm k) : PmClean proj pm k :=
  fun s t hb hI ht hu hk => (h s t hb hI ht hu hk).1

structure StepOk (proj : Project) (ctx : Nat) (names : List Name) (s s' : St) : Prop where
  clean : s'.bad = false
  frame : FrameX proj (some ctx) names s s'

/-! ## the visitor induction: one statement, one body, one module -/

/-- a step of the analysis from a clean state that satisfies the invariant: of the started objects only `ctx` gains
`contents` entries, called `names` -/
structure Good (proj : Project) (ctx : Option Nat) (names : List Name) (s s' : St) : Prop where
  clean : s'.bad = false
  inv : PdInv proj s'
  ext : Ext s s'
  frame : FrameX proj ctx names s s'

theorem Good.refl {proj : Project} {ctx : Option Nat} {names : List Name} {s : St} (hb : s.bad = false)
    (hI : PdInv proj s) : Good proj ctx names s s :=
  ⟨hb, hI, Ext.refl s, FrameX.refl proj ctx names s⟩

theorem Good.trans {proj : Project} {ctx : Option Nat} {l1 l2 : List Name} {a b c : St} (h1 : Good proj ctx l1 a b)
    (h2 : Good proj ctx l2 b c) : Good proj ctx (l1 ++ l2) a c :=
  ⟨h2.clean, h2.inv, h1.ext.trans h2.ext, h1.frame.trans h1.ext.ps h2.frame⟩

theorem Good.lift {proj : Project} {ctx : Option Nat} {l : List Name} {a b : St} (h : Good proj none [] a b) :
    Good proj ctx l a b :=
  ⟨h.clean, h.inv, h.ext, h.frame.weaken⟩

theorem Good.after {proj : Project} {ctx : Option Nat} {l : List Name} {a b c : St} (h1 : Good proj none [] a b)
    (h2 : Good proj ctx l b c) : Good proj ctx l a c :=
  (h1.lift (l := [])).trans h2

theorem Good.cnt_le {proj : Project} {ctx : Option Nat} {l : List Name} {a b : St} {k : Nat} (h : Good proj ctx l a b)
    (hk : cnt a ≤ k) : cnt b ≤ k :=
  Nat.le_trans (cnt_le_of_psRel h.ext.ps) hk

theorem setAlias_good {proj : Project} {rank : List Nat} (wf : WFacts proj rank) {s : St} (hb : s.bad = false)
    (hI : PdInv proj s) {ctx : Nat} {k : Name} {v : Path} {S : Site} (hp : path s.reg ctx = some (sitePath proj S))
    (hj : Jpd proj S k v) (c : Option Nat) (l : List Name) :
    Good proj c l s (setAlias s ctx k v) :=
  ⟨hb, pdInv_setAlias wf hI hp hj, setAlias_ext s ctx k v, setAlias_frame proj c l s ctx k v⟩

/-- `pm` — one nesting level of `processModule` — on a clean state with at most `k` unprocessed modules -/
def PmAll (proj : Project) (pm : St → Nat → St) (k : Nat) : Prop :=
  ∀ s t, s.bad = false → PdInv proj s → t < proj.length → getPs s t = .unprocessed → cnt s ≤ k →
    Good proj none [] s (pm s t) ∧ getPs (pm s t) t = .processed

theorem PmAll.of {proj : Project} {pm : St → Nat → St} {k : Nat} (hpm : PmOk proj pm) (hg : PmGood proj pm k) :
    PmAll proj pm k := fun s t hb hI ht hu hk =>
  have h1 := hg s t hb hI ht hu hk
  have h2 := hpm.2 s t h1.1 hI ht
  ⟨⟨h1.1, h2.1, h2.2.1, h1.2⟩, h2.2.2⟩

/-- **the schedule of on-demand processing** (`pmMany`, `gpmAbove`, `gpmOne`, `getProcessedModule`), for any notion of
valid state `V`, of step `R` and of licence `Lic s t` ("`t` may be entered from `s`": a rank condition where objects
move, `True` where they do not).  Both machines instantiate it (`PmAll.enter`, `Rx.PmOk.enter`). -/
structure Enter (proj : Project) (pm : St → Nat → St) (V : St → Prop) (R : St → St → Prop) (Lic : St → Nat → Prop) :
    Prop where
  refl : ∀ {s}, V s → R s s
  trans : ∀ {a b c}, R a b → R b c → R a c
  valid : ∀ {s s'}, V s → R s s' → V s'
  ps : ∀ {s s'}, R s s' → PsRel s s'
  later : ∀ {s s' t}, R s s' → Lic s t → Lic s' t
  facts : ∀ {s}, V s → ModFacts proj s ∧ NoOrphan s.reg
  enter : ∀ {s t}, V s → t < proj.length → getPs s t = .unprocessed → Lic s t →
    R s (pm s t) ∧ getPs (pm s t) t = .processed

section
variable {proj : Project} {pm : St → Nat → St} {V : St → Prop} {R : St → St → Prop} {Lic : St → Nat → Prop}
  (E : Enter proj pm V R Lic)
include E

theorem Enter.pmMany : ∀ (l : List Nat) (s : St), V s → (∀ m ∈ l, m < proj.length ∧ Lic s m) → R s (pmMany pm l s)
  | [], _, hV, _ => E.refl hV
  | m :: r, s, hV, hl => by
    rw [show Imports.pmMany pm (m :: r) s = Imports.pmMany pm r (if getPs s m = .unprocessed then pm s m else s) from rfl]
    have hr := fun x hx => hl x (List.mem_cons_of_mem _ hx)
    by_cases hu : getPs s m = .unprocessed
    · simp only [hu, if_true]
      have h1 := (E.enter hV (hl m List.mem_cons_self).1 hu (hl m List.mem_cons_self).2).1
      exact E.trans h1 (Enter.pmMany r _ (E.valid hV h1) fun x hx => ⟨(hr x hx).1, E.later h1 (hr x hx).2⟩)
    · simp only [hu, if_false]
      exact Enter.pmMany r _ hV hr

theorem Enter.gpmAbove {s : St} {t : Nat} (hV : V s)
    (hA : getPs s t = .unprocessed → ∀ P ∈ modulesAbove s.reg (s.reg.objs.length + 1) t, Lic s P) :
    R s (gpmAbove pm s t) := by
  unfold Imports.gpmAbove
  split
  · rename_i hun
    exact E.pmMany _ _ hV fun m hm =>
      ⟨modulesAbove_lt (E.facts hV).1 _ _ m (List.mem_reverse.1 hm), hA hun m (List.mem_reverse.1 hm)⟩
  · exact E.refl hV

theorem Enter.gpmOne {s : St} {t : Nat} (hV : V s) (hlt : t < proj.length) (hL : Lic s t) :
    R s (gpmOne pm s t) ∧ getPs (gpmOne pm s t) t ≠ .unprocessed ∧
    (getPs s t ≠ .processing → getPs (gpmOne pm s t) t = .processed) := by
  unfold Imports.gpmOne
  simp only
  by_cases hun : getPs s t = .unprocessed
  · simp only [hun, if_true]
    obtain ⟨h1, hdone⟩ := E.enter hV hlt hun hL
    rw [hdone, show (PState.processed == PState.unprocessed) = false by decide, markBad_false]
    exact ⟨h1, by rw [hdone]; simp, fun _ => hdone⟩
  · simp only [hun, if_false]
    rw [show (getPs s t == PState.unprocessed) = false by simpa using hun, markBad_false]
    exact ⟨E.refl hV, hun, processed_of_ne hun⟩

/-- `getProcessedModule`, once the caller has shown that the module the lookup finds (`hL`) and, if that one is still
unprocessed, every package above it (`hA`) may be entered: the module found is the module of that name, and it is left
started — processed, unless it was being processed already -/
theorem Enter.gpm {s : St} {T : Path} (hV : V s) (hL : ∀ t c, lookupModule s T = (some t, c) → Lic s t)
    (hA : ∀ t c, lookupModule s T = (some t, c) → getPs s t = .unprocessed →
      ∀ P ∈ modulesAbove s.reg (s.reg.objs.length + 1) t, Lic s P) :
    R s (getProcessedModule pm s T).1 ∧
    ∀ t, (getProcessedModule pm s T).2 = some t → t < proj.length ∧ (∀ t', modIdx proj T = some t' → t = t') ∧
      getPs (getProcessedModule pm s T).1 t ≠ .unprocessed ∧
      (getPs s t ≠ .processing → getPs (getProcessedModule pm s T).1 t = .processed) := by
  obtain ⟨hM, hO⟩ := E.facts hV
  have hnc := lookupModule_nocrash hM.reg hO T
  unfold getProcessedModule
  cases hl : lookupModule s T with
  | mk r crash =>
    rw [hl] at hnc; simp only at hnc; subst hnc
    cases r with
    | none => exact ⟨E.refl hV, fun t ht => by cases ht⟩
    | some t =>
      simp only [markBad_false]
      obtain ⟨hlt, hu⟩ := lookupModule_spec hM hl
      have hA1 := E.gpmAbove (t := t) hV (hA t _ hl)
      obtain ⟨h1, hne1, hdone1⟩ := E.gpmOne (E.valid hV hA1) hlt (E.later hA1 (hL t _ hl))
      refine ⟨E.trans hA1 h1, fun t0 ht0 => ?_⟩
      injection ht0 with ht0; subst ht0
      exact ⟨hlt, hu, hne1, fun hnp => hdone1 fun hpA => hnp (psRel_processing (E.ps hA1) hpA)⟩

end

theorem PmAll.enter {proj : Project} {rank : List Nat} (wf : WFacts proj rank) {pm : St → Nat → St} {k : Nat}
    (hpm : PmAll proj pm k) :
    Enter proj pm (fun s => s.bad = false ∧ PdInv proj s ∧ cnt s ≤ k) (Good proj none []) (fun _ _ => True) where
  refl hV := Good.refl hV.1 hV.2.1
  trans h1 h2 := h1.trans h2
  valid hV h := ⟨h.clean, h.inv, h.cnt_le hV.2.2⟩
  ps h := h.ext.ps
  later _ _ := trivial
  facts hV := ⟨hV.2.1.modFacts, nonmodule_parent wf hV.2.1⟩
  enter hV ht hu _ := hpm _ _ hV.1 hV.2.1 ht hu hV.2.2

theorem gpm_good {proj : Project} {rank : List Nat} (wf : WFacts proj rank) {pm : St → Nat → St} {k : Nat}
    (hpm : PmAll proj pm k) {s : St} {T : Path} (hI : PdInv proj s) (hb : s.bad = false) (hk : cnt s ≤ k) :
    Good proj none [] s (getProcessedModule pm s T).1 ∧
    ∀ t, (getProcessedModule pm s T).2 = some t → t < proj.length ∧ ∀ t', modIdx proj T = some t' → t = t' :=
  have h := (hpm.enter wf).gpm (T := T) ⟨hb, hI, hk⟩ (fun _ _ _ => trivial) (fun _ _ _ _ _ _ => trivial)
  ⟨h.1, fun t ht => ⟨(h.2 t ht).1, (h.2 t ht).2.1⟩⟩

theorem importProcess_good {proj : Project} {rank : List Nat} (wf : WFacts proj rank) {pm : St → Nat → St} {k : Nat}
    (hpm : PmAll proj pm k) {T : Path} {s : St} (hI : PdInv proj s) (hb : s.bad = false) (hk : cnt s ≤ k) :
    Good proj none [] s (importProcess pm T s) := by
  unfold importProcess
  generalize prefixesOf T = l
  induction l generalizing s with
  | nil => exact Good.refl hb hI
  | cons p r ih =>
    have h1 := (gpm_good (T := p) wf hpm hI hb hk).1
    exact h1.trans (ih h1.inv h1.clean (h1.cnt_le hk))

theorem visitImport_good {proj : Project} {rank : List Nat} (wf : WFacts proj rank) {s : St} (hI : PdInv proj s)
    {mod ctx : Nat} {S : Site} {full : List Stmt} (hc : Ctx proj s mod ctx S full) {t : Path} {a : Option Name}
    (hst : Stmt.importMod t a ∈ full) (hb : s.bad = false) :
    Good proj (some ctx) [] s (visitImport ctx t a s) ∧ CompleteStmt (visitImport ctx t a s) ctx (.importMod t a) := by
  obtain ⟨o, ho, _⟩ := hc.clsc
  unfold visitImport
  cases a with
  | some x =>
    exact ⟨setAlias_good wf hb hI hc.pathc (Jpd.importAs hc.body hst) _ _, by
      simpa [CompleteStmt, explicitNames] using setAlias_entry ho⟩
  | none =>
    cases t with
    | nil => exact ⟨Good.refl hb hI, by simp [CompleteStmt, explicitNames]⟩
    | cons h r =>
      exact ⟨setAlias_good wf hb hI hc.pathc (Jpd.importTop hc.body hst) _ _, by
        simpa [CompleteStmt, explicitNames] using setAlias_entry ho⟩

theorem hre_noop {pm : St → Nat → St} {s : St} {ctx : Nat} {ex : List Name} {o a : Name} {t : Nat} (h : ex.contains a = false) :
    handleReExport pm s ctx ex o a t = (s, false) := by
  unfold handleReExport
  have : (!ex.contains a) = true := by rw [h]; rfl
  simp only [this, if_true]

theorem isPkgObj_eq {s : State} {p : Nat} {o : Obj} (ho : s.objs[p]? = some o) : isPkgObj s p = (o.cls == .package) := by
  simp [isPkgObj, getObj, ho]

theorem isClassObj_obj {st : State} {b : Nat} (h : isClassObj st b = true) : ∃ o : Obj, st.objs[b]? = some o ∧ o.cls = .cls := by
  unfold isClassObj at h
  cases hg : getObj st b with
  | none => simp [hg] at h
  | some o => exact ⟨o, hg, by simpa [hg] using h⟩

theorem isPkgObj_mod {proj : Project} {s : St} (hI : ModFacts proj s) {m : Nat} (hm : m < proj.length) :
    isPkgObj s.reg m = isPkg proj m := by
  obtain ⟨o, ho, _, hc⟩ := hI.mods m hm
  rw [isPkgObj_eq ho, hc, modCls]
  cases isPkg proj m <;> rfl

theorem absName_eq {proj : Project} {s : St} (hI : ModFacts proj s) {mod : Nat} (hm : mod < proj.length)
    (lvl : Nat) (M : Path) : absName s mod lvl M = pdAbsName proj mod lvl M := by
  obtain ⟨o, ho, hp, hc⟩ := hI.mods mod hm
  unfold absName pdAbsName
  by_cases hl : lvl = 0
  · simp [hl]
  · simp only [hl, if_false, hp, isPkgObj_mod hI hm]; rfl

theorem absName_static {proj : Project} {s : St} (hI : PdInv proj s) {mod : Nat} (hm : mod < proj.length)
    {lvl : Nat} {M T : Path} (h : absName s mod lvl M = some T) : pdAbsName proj mod lvl M = some T :=
  absName_eq hI.modFacts hm lvl M ▸ h

theorem exports_sub {proj : Project} {s s1 : St} (hI1 : PdInv proj s1) {mod ctx : Nat} {S : Site} {full : List Stmt}
    (hc : Ctx proj s mod ctx S full) (he : Ext s s1) :
    ∀ x ∈ currentExports s1 ctx, S = (mod, []) ∧ x ∈ allNames (bodyOf proj mod) := by
  intro x hx
  rw [(hc.ext he).exports] at hx
  split at hx
  · cases hg : getAll s1 mod with
    | none => simp [hg] at hx
    | some l => exact ⟨Prod.ext hc.hS1 ‹_›, hI1.alls mod l hg x (by simpa [hg] using hx)⟩
  · cases hx

theorem pdAbs_some {proj : Project} {rank : List Nat} (wf : WFacts proj rank) {S : Site} {full : List Stmt}
    {st : Stmt} {lvl : Nat} {M : Path} (hb : siteBody proj S = some full) (hst : st ∈ full)
    (ht : target proj S.1 lvl M ∈ stmtTargets proj S.1 st) : ∃ T, pdAbsName proj S.1 lvl M = some T := by
  obtain ⟨t', ht', _⟩ := wf.targets hb hst _ ht
  rw [target_eq] at ht'
  exact (Option.bind_eq_some_iff.1 ht').imp fun _ h => h.1

theorem visitImportFrom_good {proj : Project} {rank : List Nat} (wf : WFacts proj rank) (nr : NoReexpFacts proj)
    {pm : St → Nat → St} {k : Nat} (hpm : PmAll proj pm k) {s : St} (hI : PdInv proj s) {mod ctx : Nat} {S : Site}
    {full : List Stmt} (hc : Ctx proj s mod ctx S full) {lvl : Nat} {M : Path} {n : Name} {a : Option Name}
    (hst : Stmt.importFrom lvl M n a ∈ full) (hb : s.bad = false) (hk : cnt s ≤ k) :
    Good proj (some ctx) [] s (visitImportFrom pm mod ctx lvl M n a s) ∧
    CompleteStmt (visitImportFrom pm mod ctx lvl M n a s) ctx (.importFrom lvl M n a) := by
  obtain ⟨T, hT⟩ := pdAbs_some (lvl := lvl) (M := M) wf hc.body hst (by simp [stmtTargets])
  have hjust : Jpd proj S (a.getD n) (T ++ [n]) := Jpd.from hc.body hst hT
  unfold visitImportFrom
  simp only [absName_eq hI.modFacts hc.hmod, hc.hS1 ▸ hT]
  -- the alias is recorded in a state `s2` reached by processing modules only
  have fin : ∀ s2, Good proj none [] s s2 → Good proj (some ctx) [] s (setAlias s2 ctx (a.getD n) (T ++ [n])) ∧
      CompleteStmt (setAlias s2 ctx (a.getD n) (T ++ [n])) ctx (.importFrom lvl M n a) := by
    intro s2 h2
    have hc2 := hc.ext h2.ext
    obtain ⟨o, ho, _⟩ := hc2.clsc
    exact ⟨h2.after (setAlias_good wf h2.clean h2.inv hc2.pathc hjust _ _), setAlias_entry ho⟩
  have h1 := (gpm_good (T := T) wf hpm hI hb hk).1
  cases ht : (getProcessedModule pm s T).2 with
  | none => exact fin _ h1
  | some t =>
    simp only
    -- nothing is re-exported: the bound name is not listed in `__all__`
    have hnox : (currentExports (getProcessedModule pm s T).1 ctx).contains (a.getD n) = false :=
      Bool.eq_false_iff.2 fun hcx => by
        obtain ⟨rfl, hall⟩ := exports_sub h1.inv hc h1.ext _ (by simpa using hcx)
        exact nr.noreexpFrom hc.body hst hall
    rw [hre_noop hnox]
    simp only [Bool.false_eq_true, if_false]
    split
    · exact fin _ (h1.trans (gpm_good (T := T ++ [n]) wf hpm h1.inv h1.clean (h1.cnt_le hk)).1)
    · exact fin _ h1

theorem mem_starNames {s : St} {t : Nat} {x : Name} (hx : x ∈ starNames s t) :
    (∃ l, getAll s t = some l ∧ x ∈ l) ∨ (isPublic x = true ∧ HasEntry s t x) := by
  unfold starNames at hx
  cases hg : getAll s t with
  | some l => exact Or.inl ⟨l, rfl, by simpa only [hg] using hx⟩
  | none =>
    simp only [hg] at hx
    cases ho : getObj s.reg t with
    | none => simp [ho] at hx
    | some o =>
      simp only [ho, List.mem_filter, List.mem_append] at hx
      exact Or.inr ⟨by simpa [isPublic] using hx.2, o, ho,
        hx.1.imp (fun h hn => not_mem_keys.2 hn h) fun h hn => not_mem_keys.2 hn h⟩

theorem starOne_good {proj : Project} {rank : List Nat} (wf : WFacts proj rank) {pm : St → Nat → St} {s : St}
    (hI : PdInv proj s) {mod ctx : Nat} {S : Site} {full : List Stmt} (hc : Ctx proj s mod ctx S full) {lvl : Nat} {M T : Path}
    (hst : Stmt.importStar lvl M ∈ full) (hT : pdAbsName proj S.1 lvl M = some T) {t : Nat} (ht : t < proj.length)
    (hu : ∀ t', modIdx proj T = some t' → t = t') {x : Name}
    (hx : starOk proj t x ∧ (x ∈ allNames (bodyOf proj t) ∨ HasEntry s t x)) (hb : s.bad = false) :
    Good proj (some ctx) [] s (starOne pm ctx t [] s x) := by
  unfold starOne
  rw [hre_noop (by simp)]
  simp only [Bool.false_eq_true, if_false]
  obtain ⟨o, ho, hpt, hcl⟩ := hI.mods t ht
  have hmo : isModuleCls o.cls = true := hcl ▸ isModuleCls_modCls proj t
  rw [Names.expand_single_local, localName_module (e := envOf s) ho hmo x]
  cases hdc : dget o.contents x with
  | some c =>
    simp only
    rw [show path (envOf s).st c = some (pathOf proj t ++ [x]) from path_child hI.reg ho hdc hpt]
    exact setAlias_good wf hb hI hc.pathc (Jpd.starChild hc.body hst hT hu hx.1 (hI.cont t o ht ho x c hdc)) _ _
  | none =>
    simp only
    cases hda : dget o.aliases x with
    | some tg =>
      have hj : Jpd proj (t, []) x tg :=
        hI.alias t o (t, []) ho (by simpa [sitePath] using hpt) ⟨ht, Or.inl rfl⟩ x tg hda
      exact setAlias_good wf hb hI hc.pathc (Jpd.starAlias hc.body hst hT hu hx.1 hj) _ _
    | none =>
      have hxa : x ∈ allNames (bodyOf proj t) := by
        rcases hx.2 with h | ⟨o', ho', he⟩
        · exact h
        · rw [ho] at ho'; injection ho' with ho'; subst ho'
          exact he.elim (absurd hdc) (absurd hda)
      exact setAlias_good wf hb hI hc.pathc (Jpd.starNone hc.body hst hT hu hxa) _ _

theorem starFold_good {proj : Project} {rank : List Nat} (wf : WFacts proj rank) {pm : St → Nat → St}
    {mod ctx : Nat} {S : Site} {full : List Stmt} {lvl : Nat} {M T : Path}
    (hst : Stmt.importStar lvl M ∈ full) (hT : pdAbsName proj S.1 lvl M = some T) {t : Nat} (ht : t < proj.length)
    (hu : ∀ t', modIdx proj T = some t' → t = t') :
    ∀ (l : List Name) (s : St), PdInv proj s → Ctx proj s mod ctx S full →
      (∀ x ∈ l, starOk proj t x ∧ (x ∈ allNames (bodyOf proj t) ∨ HasEntry s t x)) → s.bad = false →
      Good proj (some ctx) [] s (l.foldl (starOne pm ctx t []) s)
  | [], s, hI, _, _, hb => Good.refl hb hI
  | x :: xs, s, hI, hc, hx, hb => by
    have h1 := starOne_good (pm := pm) wf hI hc hst hT ht hu (hx x (List.mem_cons_self ..)) hb
    exact h1.trans (starFold_good wf hst hT ht hu xs _ h1.inv (hc.ext h1.ext)
      (fun y hy => (hx y (List.mem_cons_of_mem _ hy)).imp id (Or.imp id (·.extObjs h1.ext.objs))) h1.clean)

theorem visitImportStar_good {proj : Project} {rank : List Nat} (wf : WFacts proj rank) (nr : NoReexpFacts proj)
    {pm : St → Nat → St} {k : Nat} (hpm : PmAll proj pm k) {s : St} (hI : PdInv proj s) {mod ctx : Nat} {S : Site}
    {full : List Stmt} (hc : Ctx proj s mod ctx S full) {lvl : Nat} {M : Path}
    (hst : Stmt.importStar lvl M ∈ full) (hb : s.bad = false) (hk : cnt s ≤ k) :
    Good proj (some ctx) [] s (visitImportStar pm mod ctx lvl M s) := by
  obtain ⟨T, hT⟩ := pdAbs_some (lvl := lvl) (M := M) wf hc.body hst (by simp [stmtTargets])
  unfold visitImportStar
  simp only [absName_eq hI.modFacts hc.hmod, hc.hS1 ▸ hT]
  obtain ⟨h1, hsp⟩ := gpm_good (T := T) wf hpm hI hb hk
  cases ht : (getProcessedModule pm s T).2 with
  | none => exact h1.lift
  | some t =>
    simp only
    obtain ⟨htl, hu⟩ := hsp t ht
    -- nothing is exported: a module with star imports has no `__all__`
    have hex : currentExports (getProcessedModule pm s T).1 ctx = [] :=
      List.eq_nil_iff_forall_not_mem.2 fun y hy => by
        obtain ⟨rfl, hall⟩ := exports_sub h1.inv hc h1.ext y hy
        rw [nr.noreexpStar hc.body hst] at hall; cases hall
    rw [hex]
    have hnames : ∀ x ∈ starNames (getProcessedModule pm s T).1 t,
        starOk proj t x ∧ (x ∈ allNames (bodyOf proj t) ∨ HasEntry (getProcessedModule pm s T).1 t x) := fun x hx =>
      (mem_starNames hx).elim (fun ⟨l, hg, hl⟩ => have := h1.inv.alls t l hg x hl; ⟨Or.inl this, Or.inl this⟩)
        fun ⟨hpub, he⟩ => ⟨Or.inr hpub, Or.inr he⟩
    exact h1.after (starFold_good wf hst hT htl hu _ _ h1.inv (hc.ext h1.ext) hnames h1.clean)

/-- names are globally unique: an entry called `n` of ANY object — what `Class.find` returns — is the entry
of the scope whose body defines `n` -/
theorem found_is_own {proj : Project} {rank : List Nat} (wf : WFacts proj rank) {s : St} (hI : PdInv proj s)
    {mod ctx : Nat} {S : Site} {full : List Stmt} (hc : Ctx proj s mod ctx S full) {st : Stmt} {n : Name}
    (hst : st ∈ full) (hd : st.defName = some n) {o : Obj} (ho : s.reg.objs[ctx]? = some o)
    {e : Names.Env} (he : e.st = s.reg) {c0 o' : Nat} (hcf : Names.classFind e c0 n = some o') :
    dget o.contents n = some o' := by
  unfold Names.classFind at hcf
  obtain ⟨b, _, hb⟩ := List.exists_of_findSome?_eq_some hcf
  cases hgb : getObj e.st b with
  | none => simp [hgb] at hb
  | some bo =>
    simp only [hgb] at hb
    have hbo : s.reg.objs[b]? = some bo := by rw [← he]; exact hgb
    obtain ⟨kb, hpb⟩ := path_of_lt hI.reg (List.getElem?_eq_some_iff.1 hbo).1
    have hpo' := path_child hI.reg hbo hb hpb
    obtain ⟨So, hko, hpso⟩ := hI.site o' _ (List.getElem?_eq_getElem (path_lt hpo'))
    -- names are unique: the entry is the definition `n` of this very scope, registered below it
    have hso := site_unique_last wf hko.static (def_static hc.body hst hd) (by
      rw [Option.some.inj (hpso.symm.trans hpo'), def_last]; simp)
    have hreg : dget s.reg.all (sitePath proj S ++ [n]) = some o' := by
      rw [hso] at hpso; simpa [sitePath] using dget_of_path hI.reg hpso
    cases hdc : dget o.contents n with
    | some c => rw [dget_of_path hI.reg (path_child hI.reg ho hdc hc.pathc)] at hreg; exact hreg
    | none => rw [fresh_of_not_content hI.reg ho hc.pathc (wf.namesOk hc.body hst hd) hdc] at hreg; cases hreg

theorem addObj_good {proj : Project} {rank : List Nat} (wf : WFacts proj rank) {s : St} (hI : PdInv proj s)
    {mod ctx : Nat} {S : Site} {full : List Stmt} (hc : Ctx proj s mod ctx S full) {st : Stmt} {n : Name} {c : Cls}
    (hst : st ∈ full) (hk : stKind st = some (n, c)) (hb : s.bad = false)
    (hno : ∀ o, s.reg.objs[ctx]? = some o → dget o.contents n = none) :
    Good proj (some ctx) [n] s (addObj s c n ctx) ∧
    (addObj s c n ctx).reg.objs[s.reg.objs.length]? = some (⟨n, some ctx, c, [], []⟩ : Obj) ∧
    path (addObj s c n ctx).reg s.reg.objs.length = some (sitePath proj (S.1, S.2 ++ [n])) ∧
    ∃ po, (addObj s c n ctx).reg.objs[ctx]? = some po ∧ dget po.contents n = some s.reg.objs.length := by
  obtain ⟨o, ho, _⟩ := hc.clsc
  have hb1 := addObj_clean (c := c) hI.reg hb hc.pathc
    (fresh_of_not_content hI.reg ho hc.pathc (wf.namesOk hc.body hst (stKind_defName hk)) (hno o ho))
  have R := addObj_reg hI.reg hc.pathc hb1
  exact ⟨⟨hb1, pdInv_addObj wf hI hb1 hc.pathc hc.body hst hk (by rw [hc.hS1, hc.ps]; simp),
      addObj_ext hI.reg hc.pathc hb1, addObj_frame proj hI.reg hc.pathc hb1⟩,
    R.new, by rw [R.pnew]; simp [sitePath], _, R.old ctx o ho, by simp [dset_get_same]⟩

theorem visitAssign_good {proj : Project} {rank : List Nat} (wf : WFacts proj rank) {s : St} (hI : PdInv proj s)
    {mod ctx : Nat} {S : Site} {full : List Stmt} (hc : Ctx proj s mod ctx S full) {n : Name} {v : Nat}
    (hst : Stmt.assign n v ∈ full) (hb : s.bad = false) :
    Good proj (some ctx) [n] s (visitAssign ctx n s) ∧ CompleteStmt (visitAssign ctx n s) ctx (.assign n v) := by
  obtain ⟨o, ho, _⟩ := hc.clsc
  rw [visitAssign_eq ho]
  cases hd : dget o.contents n with
  | some c => rw [if_pos (by simp [dhas, hd])]; exact ⟨Good.refl hb hI, o, c, ho, hd⟩
  | none =>
    rw [if_neg (by simp [dhas, hd])]
    obtain ⟨h, _, _, po, hpo, hd'⟩ := addObj_good wf hI hc hst (st := .assign n v) rfl hb
      (fun o' ho' => by rw [ho] at ho'; injection ho' with ho'; exact ho' ▸ hd)
    exact ⟨h, po, _, hpo, hd'⟩

/-- `enterClass` where the base expressions are names: `addObj` and one more record in `cinfo`, whose resolved bases
are class objects of the state the bases were looked up in; no exception (the expansions do not crash) -/
theorem enterClass_eq {s : St} (hI : Inv s.reg) (hpar : NoOrphan s.reg) {ctx : Nat} (hctx : ctx < s.reg.objs.length)
    (n : Name) {bs : List Path} (hbs : ∀ b ∈ bs, b ≠ []) :
    ∃ ci : ClsInfo, (∀ b, some b ∈ ci.objs → isClassObj s.reg b = true) ∧
      enterClass ctx n bs s =
        { addObj s .cls n ctx with cinfo := (addObj s .cls n ctx).cinfo ++ [(s.reg.objs.length, ci)] } := by
  have hexp : (bs.map (fun b => Names.expandName (envOf s) ctx b)).any Option.isNone = false := by
    rw [Bool.eq_false_iff]
    intro h
    simp only [List.any_eq_true, List.mem_map] at h
    obtain ⟨x, ⟨b, hbm, rfl⟩, hx⟩ := h
    obtain ⟨p, hp⟩ := Names.expandLoop_some (e := envOf s) hI hpar b ctx true (hbs b hbm) hctx
    rw [show Names.expandName (envOf s) ctx b = some p from hp] at hx; cases hx
  unfold enterClass
  simp only [hexp, markBad_false]
  refine ⟨_, fun b hbm => ?_, rfl⟩
  obtain ⟨x, _, hx⟩ := List.mem_map.1 hbm
  split at hx
  · split at hx
    · split at hx
      · rename_i hcl; injection hx with hx; exact hx ▸ hcl
      · cases hx
    · cases hx
  · cases hx

theorem cbase_snoc {s : St} (h : CBase s) {i : Nat} {ci : ClsInfo}
    (hci : ∀ b, some b ∈ ci.objs → ∃ o : Obj, s.reg.objs[b]? = some o ∧ o.cls = .cls) :
    CBase { s with cinfo := s.cinfo ++ [(i, ci)] } := by
  intro e hm b hbm
  rcases List.mem_append.1 hm with hm | hm
  · exact h e hm b hbm
  · rw [List.mem_singleton.1 hm] at hbm; exact hci b hbm

theorem enterClass_good {proj : Project} {rank : List Nat} (wf : WFacts proj rank) {s : St} (hI : PdInv proj s)
    {mod ctx : Nat} {S : Site} {full : List Stmt} (hc : Ctx proj s mod ctx S full) {n : Name} {bs : List Path}
    {body : List Stmt} (hst : Stmt.classDef n bs body ∈ full) (hb : s.bad = false)
    (hno : ∀ o, s.reg.objs[ctx]? = some o → dget o.contents n = none) :
    Good proj (some ctx) [n] s (enterClass ctx n bs s) ∧
    Ctx proj (enterClass ctx n bs s) mod s.reg.objs.length (S.1, S.2 ++ [n]) body ∧
    (enterClass ctx n bs s).reg.objs[s.reg.objs.length]? = some (⟨n, some ctx, .cls, [], []⟩ : Obj) ∧
    ∃ po, (enterClass ctx n bs s).reg.objs[ctx]? = some po ∧ dget po.contents n = some s.reg.objs.length := by
  obtain ⟨o, ho, _⟩ := hc.clsc
  obtain ⟨h1, hnew, hpn, hcont⟩ := addObj_good wf hI hc hst (st := .classDef n bs body) rfl hb hno
  obtain ⟨ci, hci, he⟩ := enterClass_eq hI.reg (nonmodule_parent wf hI) (List.getElem?_eq_some_iff.1 ho).1 n
    (wf.basesNe hc.body hst)
  rw [he]
  generalize addObj s .cls n ctx = s1 at *
  -- the bases recorded as resolved are still class objects
  have hcb : CBase { s1 with cinfo := s1.cinfo ++ [(s.reg.objs.length, ci)] } := cbase_snoc h1.inv.cbase fun b hbm => by
    obtain ⟨o, hg, hcl⟩ := isClassObj_obj (hci b hbm)
    obtain ⟨o', ho', hc', _⟩ := h1.ext.objs b o hg
    exact ⟨o', ho', hc'.trans hcl⟩
  -- `Ext` and `FrameX` read `reg` and `ps` only, which the new record in `cinfo` leaves
  exact ⟨⟨h1.clean, h1.inv.of_reg rfl hcb h1.inv.lens h1.inv.alls (fun _ h => h) (fun _ _ _ h => Or.inl h),
      ⟨h1.ext.objs, h1.ext.paths, h1.ext.ps⟩, h1.frame⟩,
    { hmod := hc.hmod, hS1 := hc.hS1
      body := siteBody_snoc hc.body (findClass_of_mem wf hc.body hst)
      pathc := hpn
      clsc := ⟨_, hnew, Or.inr ⟨by simp, rfl⟩⟩
      ctxmod := fun h => by simp at h
      ps := (hc.ext h1.ext).ps }, hnew, hcont⟩

theorem nodup_flatMap_later {α β : Type} {f : α → List β} {l pre rest : List α} {a b : α} {x : β}
    (hn : (l.flatMap f).Nodup) (hl : l = pre ++ a :: rest) (hx : x ∈ f a) (hb : b ∈ rest) (hx' : x ∈ f b) : False := by
  subst hl
  simp only [List.flatMap_append, List.flatMap_cons, List.nodup_append] at hn
  obtain ⟨_, ⟨_, _, h3⟩, _⟩ := hn
  exact h3 x hx x (List.mem_flatMap.2 ⟨b, hb, hx'⟩) rfl

/-- a later statement of a body does not bind a name an earlier one binds -/
theorem later_name_ne {proj : Project} {rank : List Nat} (wf : WFacts proj rank) {S : Site} {full pre rest : List Stmt}
    {st st' : Stmt} {x : Name} (hb : siteBody proj S = some full) (hfull : full = pre ++ st :: rest)
    (hx : x ∈ explicitNames st) (hst' : st' ∈ rest) (hx' : x ∈ explicitNames st') : False := by
  obtain ⟨m, cp⟩ := S
  by_cases hcp : cp = []
  · subst hcp
    have hbm := siteBody_mod hb
    have hn := wf.onceMod m (siteBody_lt hb)
    rw [modNames_succ, List.nodup_append] at hn
    rw [← hbm] at hn
    exact nodup_flatMap_later hn.2.1 hfull (stmtNames_of_explicit hx) hst' (stmtNames_of_explicit hx')
  · exact nodup_flatMap_later (wf.onceCls hb hcp) hfull hx hst' hx'

def defNames (sts : List Stmt) : List Name := sts.flatMap (fun st => st.defName.toList)

/-- the definitions still to come have left no entry in the scope's object yet -/
def Pending (s : St) (ctx : Nat) (sts : List Stmt) : Prop :=
  ∀ o, s.reg.objs[ctx]? = some o → ∀ st ∈ sts, ∀ n, st.defName = some n → dget o.contents n = none

mutual
theorem visitStmt_good {proj : Project} {rank : List Nat} (wf : WFacts proj rank) (nr : NoReexpFacts proj)
    {pm : St → Nat → St} {k : Nat} (hpm : PmAll proj pm k) {mod : Nat} :
    ∀ (st : Stmt) (ctx : Nat) (s : St) (S : Site) (full : List Stmt), PdInv proj s → Ctx proj s mod ctx S full →
      st ∈ full → s.bad = false → cnt s ≤ k →
      (∀ o, s.reg.objs[ctx]? = some o → ∀ n, st.defName = some n → dget o.contents n = none) →
      Good proj (some ctx) st.defName.toList s (visitStmt pm mod ctx st s) ∧
      CompleteStmt (visitStmt pm mod ctx st s) ctx st
  | .importMod t a, ctx, s, S, full, hI, hc, hst, hb, hk, _ => by
    have h0 := importProcess_good (T := t) wf hpm hI hb hk
    obtain ⟨h1, hcomp⟩ := visitImport_good wf h0.inv (hc.ext h0.ext) hst h0.clean
    exact ⟨h0.after h1, hcomp⟩
  | .importFrom lvl M n a, ctx, s, S, full, hI, hc, hst, hb, hk, _ => visitImportFrom_good wf nr hpm hI hc hst hb hk
  | .importStar lvl M, ctx, s, S, full, hI, hc, hst, hb, hk, _ =>
    ⟨visitImportStar_good wf nr hpm hI hc hst hb hk, trivial⟩
  | .classDef n bs body, ctx, s, S, full, hI, hc, hst, hb, hk, hp => by
    obtain ⟨h1, hc1, hnew, po, hpo, hd⟩ := enterClass_good wf hI hc hst hb (fun o ho => hp o ho n rfl)
    have hpend : Pending (enterClass ctx n bs s) s.reg.objs.length body := by
      intro o ho st' _ n' _
      rw [hnew] at ho; injection ho with ho; subst ho; rfl
    obtain ⟨h2, hcomp⟩ := visitStmts_good wf nr hpm body s.reg.objs.length _ _ body [] h1.inv hc1 (by simp) h1.clean
      (h1.cnt_le hk) hpend
    constructor
    · -- the body only touches the new class object
      refine ⟨h2.clean, h2.inv, h1.ext.trans h2.ext, fun i o ho hpr => ?_⟩
      obtain ⟨o1, ho1, e1, k1⟩ := h1.frame i o ho hpr
      obtain ⟨o2, ho2, e2, _⟩ := h2.frame i o1 ho1 (hpr.ext h1.ext.ps)
      have := e2 (fun h => by injection h with h; have := (List.getElem?_eq_some_iff.1 ho).1; omega)
      exact ⟨o2, ho2, fun h => this.trans (e1 h), fun h k' hk' => by rw [this]; exact k1 h k' hk'⟩
    · obtain ⟨po', hpo', _, hcc, _⟩ := h2.ext.objs ctx po hpo
      obtain ⟨o2, ho2, hcl2, _, _⟩ := h2.ext.objs _ _ hnew
      exact ⟨_, o2, po', hpo', hcc n _ hd, ho2, hcl2, hcomp⟩
  | .funcDef n, ctx, s, S, full, hI, hc, hst, hb, _, hp => by
    obtain ⟨h, _, _, po, hpo, hd⟩ := addObj_good wf hI hc hst (st := .funcDef n) rfl hb (fun o ho => hp o ho n rfl)
    exact ⟨h, po, _, hpo, hd⟩
  | .assign n v, ctx, s, S, full, hI, hc, hst, hb, _, _ => visitAssign_good wf hI hc hst hb
  | .allAssign l, ctx, s, S, full, hI, _, _, hb, _, _ =>
    ⟨Good.refl hb hI, trivial⟩
/-- `full = pre ++ sts`: only so that a definition later in the SAME body is known to differ from the current one
(`later_name_ne`, for `Pending`) -/
theorem visitStmts_good {proj : Project} {rank : List Nat} (wf : WFacts proj rank) (nr : NoReexpFacts proj)
    {pm : St → Nat → St} {k : Nat} (hpm : PmAll proj pm k) {mod : Nat} :
    ∀ (sts : List Stmt) (ctx : Nat) (s : St) (S : Site) (full pre : List Stmt), PdInv proj s →
      Ctx proj s mod ctx S full → full = pre ++ sts → s.bad = false → cnt s ≤ k → Pending s ctx sts →
      Good proj (some ctx) (defNames sts) s (visitStmts pm mod ctx sts s) ∧
      CompleteStmts (visitStmts pm mod ctx sts s) ctx sts
  | [], ctx, s, S, full, pre, hI, _, _, hb, _, _ =>
    ⟨Good.refl hb hI, trivial⟩
  | st :: rest, ctx, s, S, full, pre, hI, hc, hfull, hb, hk, hp => by
    simp only [visitStmts]
    have hmem : st ∈ full := by rw [hfull]; simp
    obtain ⟨h1, hc1⟩ := visitStmt_good wf nr hpm st ctx s S full hI hc hmem hb hk
      (fun o ho n hd => hp o ho st (List.mem_cons_self ..) n hd)
    -- the later definitions are still to come: this statement left no entry for them
    have hpend1 : Pending (visitStmt pm mod ctx st s) ctx rest := by
      intro o1 ho1 st' hst' n' hd'
      obtain ⟨o, ho, _⟩ := hc.clsc
      obtain ⟨o1', ho1', _, k1⟩ := h1.frame ctx o ho (hc.prot hI.modFacts)
      rw [ho1] at ho1'; injection ho1' with ho1'; subst ho1'
      rw [k1 rfl n' fun hin =>
        later_name_ne wf hc.body hfull (defName_explicit (Option.mem_toList.1 hin)) hst' (defName_explicit hd')]
      exact hp o ho st' (List.mem_cons_of_mem _ hst') n' hd'
    obtain ⟨h2, hc2⟩ := visitStmts_good wf nr hpm rest ctx _ S full (pre ++ [st]) h1.inv (hc.ext h1.ext)
      (by rw [hfull]; simp) h1.clean (h1.cnt_le hk) hpend1
    exact ⟨by simpa [defNames] using h1.trans h2, CompleteStmt.extObjs h2.ext.objs st hc1, hc2⟩
end

theorem visitStmt_step {proj : Project} {rank : List Nat} (wf : WFacts proj rank) (nr : NoReexpFacts proj) {pm : St → Nat → St} {k : Nat}
    (hpm : PmOk proj pm) (hg : PmGood proj pm k) {mod : Nat} :
    ∀ (st : Stmt) (ctx : Nat) (s : St) (S : Site) (full : List Stmt), PdInv proj s → Ctx proj s mod ctx S full →
      st ∈ full → s.bad = false → cnt s ≤ k →
      (∀ o, s.reg.objs[ctx]? = some o → ∀ n, st.defName = some n → dget o.contents n = none) →
      StepOk proj ctx st.defName.toList s (visitStmt pm mod ctx st s)
  | st, ctx, s, S, full, hI, hc, hst, hb, hk, hp =>
    have h := (visitStmt_good wf nr (PmAll.of hpm hg) st ctx s S full hI hc hst hb hk hp).1
    ⟨h.clean, h.frame⟩

theorem getPs_set {s : St} {m : Nat} {v : PState} (hm : m < s.ps.length) (t : Nat) :
    getPs { s with ps := s.ps.set m v } t = if t = m then v else getPs s t := by
  simp only [getPs, getD_set, hm, and_true]

theorem getAll_set {s : St} {m : Nat} {v : Option (List Name)} (hm : m < s.alls.length) (t : Nat) :
    getAll { s with alls := s.alls.set m v } t = if t = m then v else getAll s t := by
  simp only [getAll, getD_set, hm, and_true]

theorem lastAll_mem : ∀ {body : List Stmt} {l : List Name}, lastAll body = some l → Stmt.allAssign l ∈ body
  | [], _, h => by simp [lastAll] at h
  | st :: rest, l, h => by
    cases st with
    | allAssign l0 =>
      simp only [lastAll] at h
      cases hr : lastAll rest with
      | none => simp only [hr, Option.some.injEq] at h; exact h ▸ List.mem_cons_self ..
      | some l' => simp only [hr, Option.some.injEq] at h; exact h ▸ List.mem_cons_of_mem _ (lastAll_mem hr)
    | _ => exact List.mem_cons_of_mem _ (lastAll_mem (by simpa only [lastAll] using h))

theorem lastAll_sub (body : List Stmt) (l : List Name) (h : lastAll body = some l) (x : Name) (hx : x ∈ l) :
    x ∈ allNames body :=
  mem_allNames.2 ⟨l, lastAll_mem h, hx⟩

theorem processModule_start {proj : Project} {s : St} (hI : PdInv proj s) {m : Nat} (hm : m < proj.length) :
    PdInv proj { s with ps := s.ps.set m .processing, alls := s.alls.set m (lastAll proj[m].body) } ∧
    Ctx proj { s with ps := s.ps.set m .processing, alls := s.alls.set m (lastAll proj[m].body) } m m (m, []) proj[m].body ∧
    (∀ t, getPs { s with ps := s.ps.set m .processing, alls := s.alls.set m (lastAll proj[m].body) } t =
      if t = m then .processing else getPs s t) := by
  have hmd : proj[m]? = some proj[m] := by simp [hm]
  have hbody : bodyOf proj m = proj[m].body := bodyOf_eq hmd
  have hps2 := getPs_set (s := { s with alls := s.alls.set m (lastAll proj[m].body) }) (v := .processing)
    (show m < s.ps.length by rw [hI.lens.1]; exact hm)
  have hal2 := getAll_set (s := { s with ps := s.ps.set m .processing }) (v := lastAll proj[m].body)
    (show m < s.alls.length by rw [hI.lens.2]; exact hm)
  obtain ⟨o, ho, hpm, hcl⟩ := hI.mods m hm
  refine ⟨hI.of_reg rfl hI.cbase (by simp [hI.lens]) ?_ ?_ ?_, ?_, hps2⟩
  · intro t l hl x hx
    rw [hal2] at hl
    split at hl
    · rename_i htm; rw [htm, hbody]; exact lastAll_sub _ l hl x hx
    · exact hI.alls t l hl x hx
  · intro t ht; rw [hps2]; split
    · simp
    · exact ht
  · intro t md _ hp
    rw [hps2] at hp
    split at hp
    · cases hp
    · exact Or.inl hp
  · exact
      { hmod := hm, hS1 := rfl, body := by rw [siteBody_zero hm, hbody]
        pathc := by simpa [sitePath] using hpm
        clsc := ⟨o, ho, Or.inl ⟨rfl, hcl ▸ isModuleCls_modCls proj m⟩⟩
        ctxmod := fun _ => rfl
        ps := by rw [hps2]; simp }

/-- `started`, read at the name the definition would be registered under -/
theorem unstarted_pending {proj : Project} {s : St} (hI : PdInv proj s)
    {m : Nat} (hm : m < proj.length) (hu : getPs s m = .unprocessed) {o : Obj} (ho : s.reg.objs[m]? = some o)
    {st : Stmt} {n : Name} (hst : st ∈ bodyOf proj m) (hd : st.defName = some n) : dget o.contents n = none := by
  cases hdc : dget o.contents n with
  | none => rfl
  | some c =>
    obtain ⟨_, _, hpm, _⟩ := hI.mods m hm
    exact absurd hu (hI.started c (m, [n]) (path_child hI.reg ho hdc hpm) (def_static (siteBody_zero hm) hst hd) (by simp))

theorem processModule_good {proj : Project} {rank : List Nat} (wf : WFacts proj rank) (nr : NoReexpFacts proj) :
    ∀ f, PmAll proj (processModule proj f) f := by
  intro f
  induction f with
  | zero => intro s t _ _ _ hu hk; have := cnt_pos hu; omega
  | succ f ih =>
    intro s m hb hI hm hu hk
    have hmd : proj[m]? = some proj[m] := by simp [hm]
    obtain ⟨hI2, hc2, hps2⟩ := processModule_start hI hm
    have hcnt := cnt_start (al := s.alls.set m (lastAll proj[m].body)) hu
    obtain ⟨h3, hcomp⟩ := visitStmts_good wf nr ih proj[m].body m _ (m, []) proj[m].body []
      hI2 hc2 (by simp) hb (by omega)
      (fun o ho st hst n hd => unstarted_pending hI hm hu ho (by rw [bodyOf_eq hmd]; exact hst) hd)
    simp only [processModule, hu, ne_eq, not_true_eq_false, if_false, hmd]
    generalize visitStmts (processModule proj f) m m proj[m].body _ = s3 at h3 hcomp ⊢
    have hps4 := getPs_set (s := s3) (v := .processed) (show m < s3.ps.length by rw [h3.inv.lens.1]; exact hm)
    refine ⟨⟨h3.clean, h3.inv.of_reg rfl h3.inv.cbase (by simp [h3.inv.lens]) h3.inv.alls ?_ ?_, ?_, ?_⟩, by rw [hps4]; simp⟩
    · intro t ht; rw [hps4]; split
      · simp
      · exact ht
    · intro t md ht hp
      rw [hps4] at hp
      split at hp
      · rename_i htm; subst htm
        rw [hmd] at ht; injection ht with ht
        exact Or.inr (ht ▸ hcomp)
      · exact Or.inl hp
    · refine ⟨h3.ext.objs, h3.ext.paths, fun t => ?_⟩
      have h4 := h3.ext.ps t
      rw [hps2] at h4
      rw [hps4]
      split
      · rename_i htm; rw [htm, hu]; exact ⟨nofun, nofun, fun _ => by simp⟩
      · rename_i htm; simpa only [htm, if_false] using h4
    · -- the modules started before are left alone; `m` itself was not started
      intro i o ho hpr
      have him : i ≠ m := fun h => hpr (h ▸ hm) (h ▸ hu)
      obtain ⟨o3, ho3, e3, _⟩ := h3.frame i o ho (fun hi => by rw [hps2]; simp only [him, if_false]; exact hpr hi)
      exact ⟨o3, ho3, fun _ => e3 (by intro h; injection h with h; exact him h), fun h => by cases h⟩

/-! ## the initial state -/

/-- the state after the first `k` modules have been created -/
structure InitInv (proj : Project) (k : Nat) (s : St) : Prop where
  reg : Inv s.reg
  len : s.reg.objs.length = k
  mods : ∀ m, m < k → ∃ o, s.reg.objs[m]? = some o ∧ path s.reg m = some (pathOf proj m) ∧ o.cls = modCls proj m ∧
    o.aliases = [] ∧ ∀ x c, dget o.contents x = some c → x ∈ childNames proj m
  ps : s.ps = List.replicate proj.length .unprocessed
  alls : s.alls = List.replicate proj.length none
  cinfo : s.cinfo = []

/-- the next module, created under the parent `par` (none for a root, an earlier package otherwise) -/
theorem InitInv.add {proj : Project} {rank : List Nat} (wf : WFacts proj rank) {k : Nat} {s : St} {md : Module}
    (hI : InitInv proj k s) (hk : k < proj.length) (hmd : proj[k]? = some md) {nm : Name}
    (hsplit : md.path.dropLast ++ [nm] = md.path) {par : Option Nat}
    (hpar : ParentAt s.reg (modCls proj k) par md.path.dropLast) :
    ∃ r, addObject s.reg (modCls proj k) nm par = .ok r ∧ dhas s.reg.all md.path = false ∧
      InitInv proj (k+1) { s with reg := r } := by
  have hpath := pathOf_eq hmd
  -- the qualified name of the new module is not taken: the registered names are those of earlier modules
  have hfree : dget s.reg.all md.path = none := by
    cases hx : dget s.reg.all md.path with
    | none => rfl
    | some i =>
      exfalso
      have hpi := hI.reg.reg.keys _ _ (mem_of_dget hx)
      have hik : i < k := by rw [← hI.len]; exact path_lt hpi
      obtain ⟨_, _, hpi', _⟩ := hI.mods i hik
      rw [hpi] at hpi'; injection hpi' with hpi'
      have h1 := modIdx_of_path wf.modNodup (Nat.lt_trans hik hk)
      rw [← hpi', ← hpath, modIdx_of_path wf.modNodup hk] at h1
      injection h1 with h1; omega
  obtain ⟨r, ha, A⟩ := addObject_added hI.reg hpar (hsplit.symm ▸ hfree)
  refine ⟨r, ha, by simp [dhas, hfree], A.inv, by rw [A.len, hI.len], fun m hm => ?_, hI.ps, hI.alls, hI.cinfo⟩
  by_cases hmk : m < k
  · obtain ⟨o, ho, hp, hc, ha', hcc⟩ := hI.mods m hmk
    refine ⟨_, A.old m o ho, A.pold m _ hp, by split <;> exact hc, by split <;> exact ha', fun x c hx => ?_⟩
    split at hx
    · rename_i hmq
      by_cases hxn : x = nm
      · -- the new module is a child of `m`
        subst hxn hmq
        unfold childNames
        rw [List.mem_filterMap]
        refine ⟨md, List.mem_of_getElem? hmd, ?_⟩
        rw [Option.some.inj (hp.symm.trans (hpar : path s.reg m = _)), ← hsplit]; simp
      · rw [dset_get_other _ _ _ _ hxn] at hx; exact hcc x c hx
    · exact hcc x c hx
  · obtain rfl : m = k := by omega
    exact ⟨_, hI.len ▸ A.new, by rw [hpath, ← hsplit]; exact hI.len ▸ A.pnew, rfl, rfl, fun x c h => by simp [dget] at h⟩

/-- `pre` are the modules created so far -/
theorem addModules_ok {proj : Project} {rank : List Nat} (wf : WFacts proj rank) :
    ∀ (rest pre : List Module) (s : St), pre ++ rest = proj → InitInv proj pre.length s →
      s.bad = false → InitInv proj proj.length (addModules rest s) ∧ (addModules rest s).bad = false := by
  intro rest
  induction rest with
  | nil =>
    intro pre s h hI hb
    rw [List.append_nil] at h; subst h
    exact ⟨hI, hb⟩
  | cons md rest ih =>
    intro pre s h hI hb
    have hk : pre.length < proj.length := by simp [← h]
    have hmd : proj[pre.length]? = some md := by simp [← h]
    have next := fun s' (hI' : InitInv proj (pre.length + 1) s') =>
      ih (pre ++ [md]) s' (by simpa using h) (by simpa using hI')
    obtain ⟨hne, hpar⟩ := wf.parentOk _ hk
    rw [pathOf_eq hmd] at hne hpar
    simp only [addModules]
    have hlast : md.path.getLast? = some (md.path.getLast hne) := List.getLast?_eq_some_getLast hne
    have hsplit : md.path.dropLast ++ [md.path.getLast hne] = md.path := List.dropLast_concat_getLast hne
    generalize md.path.getLast hne = nm at hlast hsplit ⊢
    have hcm : (if md.isPkg = true then Cls.package else Cls.module) = modCls proj pre.length := by
      simp [modCls, isPkg, hmd]
    by_cases hl : md.path.length ≤ 1
    · -- a root module
      obtain ⟨r, ha, hdup, hI'⟩ := hI.add wf hk hmd hsplit (par := none)
        ⟨isModuleCls_modCls proj _, List.eq_nil_of_length_eq_zero (by simp; omega)⟩
      simp only [hlast, hl, if_true, hcm, ha, hdup, Bool.or_false]
      exact next _ hI' hb
    · -- a nested module: its parent is an earlier package
      obtain ⟨q, hq, hqk, hqp⟩ := hpar (by omega)
      obtain ⟨_, hqpath⟩ := modIdx_spec hq
      obtain ⟨qo, hqo, hqpp, hqc, _, _⟩ := hI.mods q hqk
      rw [hqpath] at hqpp
      have hqpk : isPkgObj s.reg q = true := by rw [isPkgObj_eq hqo, hqc, modCls, hqp]; rfl
      obtain ⟨r, ha, hdup, hI'⟩ := hI.add wf hk hmd hsplit (par := some q) hqpp
      simp only [hlast, hl, if_false, dget_of_path hI.reg hqpp, hqpk, if_true, hcm, ha, hdup, Bool.or_false]
      exact next _ hI' hb

theorem getPs_replicate {s : St} {n : Nat} (h : s.ps = List.replicate n .unprocessed) (t : Nat) :
    getPs s t = if t < n then .unprocessed else .processed := by
  unfold getPs
  rw [h, List.getD_eq_getElem?_getD, List.getElem?_replicate]
  split <;> rfl

theorem InitInv.obj {proj : Project} {s : St} (hI : InitInv proj proj.length s) {i : Nat} {o : Obj}
    (ho : s.reg.objs[i]? = some o) : i < proj.length ∧ path s.reg i = some (pathOf proj i) ∧ o.cls = modCls proj i ∧
      o.aliases = [] ∧ ∀ x c, dget o.contents x = some c → x ∈ childNames proj i := by
  have hi : i < proj.length := by rw [← hI.len]; exact (List.getElem?_eq_some_iff.1 ho).1
  obtain ⟨o', ho', h⟩ := hI.mods i hi
  rw [ho] at ho'; injection ho' with ho'; subst ho'
  exact ⟨hi, h⟩

theorem InitInv.getAll {proj : Project} {k : Nat} {s : St} (hI : InitInv proj k s) (t : Nat) : getAll s t = none := by
  unfold Imports.getAll; rw [hI.alls, List.getD_eq_getElem?_getD, List.getElem?_replicate]; split <;> rfl

theorem InitInv.started {proj : Project} {rank : List Nat} (wf : WFacts proj rank) {s : St}
    (hI : InitInv proj proj.length s) {i : Nat} {S : Site} (hp : path s.reg i = some (sitePath proj S))
    (hS : StaticSite proj S) : S.2 = [] := by
  have hi : i < proj.length := by rw [← hI.len]; exact path_lt hp
  obtain ⟨o', _, hp', _⟩ := hI.mods i hi
  rw [hp] at hp'; injection hp' with hp'
  rw [site_unique wf hS (⟨hi, Or.inl rfl⟩ : StaticSite proj (i, [])) (by simpa [sitePath] using hp')]

theorem initSt_init {proj : Project} {rank : List Nat} (wf : WFacts proj rank) :
    (initSt proj).bad = false ∧ InitInv proj proj.length (initSt proj) :=
  (addModules_ok wf proj [] _ rfl ⟨inv_holds_init, rfl, fun _ h => by simp at h, rfl, rfl, rfl⟩ rfl).symm

theorem initSt_ok {proj : Project} {rank : List Nat} (wf : WFacts proj rank) :
    (initSt proj).bad = false ∧ PdInv proj (initSt proj) ∧ ∀ t, getPs (initSt proj) t ≠ .processing := by
  obtain ⟨hb, hI⟩ := initSt_init wf
  generalize initSt proj = s at hb hI
  have hps := getPs_replicate hI.ps
  refine ⟨hb, ?_, fun t => by rw [hps]; split <;> simp⟩
  exact
    { reg := hI.reg
      cbase := by intro e hm; rw [hI.cinfo] at hm; cases hm
      lens := by rw [hI.ps, hI.alls]; simp
      mods := fun m hm => by obtain ⟨o, ho, hp, hc, _⟩ := hI.mods m hm; exact ⟨o, ho, hp, hc⟩
      site := fun i o ho => by
        obtain ⟨hi, hp, hc, _⟩ := hI.obj ho
        exact ⟨(i, []), by rw [hc]; exact ObjKind.mod hi, by simpa [sitePath] using hp⟩
      alias := fun i o S ho _ _ x tgt hx => by rw [(hI.obj ho).2.2.2.1] at hx; cases hx
      cont := fun m o hm ho x c hx => Or.inl ((hI.obj ho).2.2.2.2 x c hx)
      alls := fun m l hl => by rw [hI.getAll] at hl; cases hl
      started := fun i S hp hS hne => absurd (hI.started wf hp hS) hne
      complete := by
        intro m md hm hp
        have hlt : m < proj.length := (List.getElem?_eq_some_iff.1 hm).1
        rw [hps] at hp; simp [hlt] at hp }

/-! ## the scheduler and the run -/

def NoProcessing (s : St) : Prop := ∀ t, getPs s t ≠ .processing

theorem NoProcessing.rel {s s' : St} (h : NoProcessing s) (hr : PsRel s s') : NoProcessing s' :=
  fun t hc => h t (psRel_processing hr hc)

theorem NoProcessing.processed {s : St} (h : NoProcessing s) {t : Nat} (hu : getPs s t ≠ .unprocessed) :
    getPs s t = .processed :=
  processed_of_ne hu (h t)

/-- the scheduler: what one `processModule` keeps (`I`, no exception) holds after the whole order -/
theorem process_all {proj : Project} {I : St → Prop} (hlen : ∀ s, I s → s.ps.length = proj.length)
    (hpm : ∀ s m, s.bad = false → I s → m < proj.length → getPs s m = .unprocessed → cnt s ≤ proj.length + 1 →
      NoProcessing s → (processModule proj (proj.length + 1) s m).bad = false ∧ I (processModule proj (proj.length + 1) s m) ∧
        PsRel s (processModule proj (proj.length + 1) s m) ∧ getPs (processModule proj (proj.length + 1) s m) m = .processed) :
    ∀ (order : List Nat) (s : St), I s → NoProcessing s → s.bad = false →
      (process proj order s).bad = false ∧ I (process proj order s) ∧ NoProcessing (process proj order s) ∧
      (∀ m, getPs s m = .processed → getPs (process proj order s) m = .processed) ∧
      (∀ m ∈ order, getPs (process proj order s) m = .processed)
  | [], s, hI, hn, hb => ⟨hb, hI, hn, fun _ h => h, fun _ h => by cases h⟩
  | m :: rest, s, hI, hn, hb => by
    simp only [process, List.foldl_cons]
    by_cases hu : getPs s m = .unprocessed
    · simp only [hu, if_true]
      have hk : cnt s ≤ proj.length + 1 := by
        have := List.count_le_length (a := PState.unprocessed) (l := s.ps)
        rw [hlen s hI] at this; exact Nat.le_succ_of_le this
      obtain ⟨hb1, hI1, hr1, hdone⟩ := hpm s m hb hI (hlen s hI ▸ getPs_lt hu) hu hk hn
      obtain ⟨hb2, hI2, hn2, hkeep, hord⟩ := process_all hlen hpm rest _ hI1 (hn.rel hr1) hb1
      refine ⟨hb2, hI2, hn2, fun t ht => hkeep t ((hr1 t).2.1 ht), fun t ht => ?_⟩
      rcases List.mem_cons.1 ht with rfl | ht'
      · exact hkeep t hdone
      · exact hord t ht'
    · simp only [hu, if_false]
      obtain ⟨hb2, hI2, hn2, hkeep, hord⟩ := process_all hlen hpm rest _ hI hn hb
      refine ⟨hb2, hI2, hn2, hkeep, fun t ht => ?_⟩
      rcases List.mem_cons.1 ht with rfl | ht'
      · exact hkeep t (hn.processed hu)
      · exact hord t ht'

/-- **the analysis of a well-formed project**, in whatever order the modules are taken: no registry exception,
duplicate definition, failed assertion or fuel exhaustion; the final state satisfies the invariant, no module is
left in `processing`, and the modules of the order are processed -/
theorem run_good {proj : Project} {rank : List Nat} (wf : WFacts proj rank) (nr : NoReexpFacts proj) (order : List Nat) :
    (run proj order).bad = false ∧ PdInv proj (run proj order) ∧ NoProcessing (run proj order) ∧
    ∀ m ∈ order, getPs (run proj order) m = .processed := by
  obtain ⟨hb0, hI0, hn0⟩ := initSt_ok wf
  obtain ⟨h0, h1, h2, _, h4⟩ := process_all (I := PdInv proj) (fun _ h => h.lens.1)
    (fun s m hb hI hm hu hk _ =>
      have ⟨h1, hd⟩ := processModule_good wf nr _ s m hb hI hm hu hk
      ⟨h1.clean, h1.inv, h1.ext.ps, hd⟩) order _ (hI0.setPending order) (fun t => hn0 t) hb0
  exact ⟨h0, h1, h2, h4⟩

theorem run_ok {proj : Project} {rank : List Nat} (wf : WFacts proj rank) (nr : NoReexpFacts proj) (order : List Nat)
    (hb : (run proj order).bad = false) :
    PdInv proj (run proj order) ∧ NoProcessing (run proj order) ∧
    ∀ m ∈ order, getPs (run proj order) m = .processed :=
  (run_good wf nr order).2

/-- **a well-formed project is analysed cleanly**, in whatever order the modules are taken -/
theorem run_clean {proj : Project} {rank : List Nat} (hwf : WF proj rank = true) (order : List Nat) :
    (run proj order).bad = false :=
  (run_good (WF.facts hwf) (WF.noReexp hwf) order).1

/-! ## finished states: every name a body binds has an entry -/

theorem CompleteStmts.mem {s : St} {ctx : Nat} : ∀ {body : List Stmt} {st : Stmt}, CompleteStmts s ctx body → st ∈ body →
    CompleteStmt s ctx st
  | [], _, _, h => by cases h
  | x :: xs, st, hc, h => by
    rcases List.mem_cons.1 h with rfl | h'
    · exact hc.1
    · exact CompleteStmts.mem hc.2 h'

theorem complete_entry {s : St} {ctx : Nat} {st : Stmt} {x : Name} (hc : CompleteStmt s ctx st)
    (hx : x ∈ explicitNames st) : HasEntry s ctx x := by
  cases st with
  | importMod t a => exact hc x hx
  | importStar l M => cases hx
  | allAssign l => cases hx
  | classDef n bs body =>
    obtain rfl := List.mem_singleton.1 hx
    obtain ⟨c, o, po, hpo, hd, _⟩ := hc
    exact ⟨po, hpo, Or.inl (by rw [hd]; simp)⟩
  | importFrom l M n a => obtain rfl := List.mem_singleton.1 hx; exact hc
  | funcDef n => obtain rfl := List.mem_singleton.1 hx; exact HasContent.entry hc
  | assign n v => obtain rfl := List.mem_singleton.1 hx; exact HasContent.entry hc

theorem complete_walk {proj : Project} {s : St} (hI : PdInv proj s) :
    ∀ (cs : List Name) (ctx : Nat) (pp : Path) (body b : List Stmt), CompleteStmts s ctx body →
      path s.reg ctx = some pp → bodyAt body cs = some b →
      ∃ j, path s.reg j = some (pp ++ cs) ∧ CompleteStmts s j b
  | [], ctx, pp, body, b, hc, hp, hb => by
    simp only [bodyAt, Option.some.injEq] at hb; subst hb
    exact ⟨ctx, by simpa using hp, hc⟩
  | c :: cs, ctx, pp, body, b, hc, hp, hb => by
    obtain ⟨bs, b1, hm, _, hb⟩ := bodyAt_cons hb
    obtain ⟨cid, o, po, hpo, hd, _, _, hcb⟩ := hc.mem hm
    obtain ⟨j, hj, hcj⟩ := complete_walk hI cs cid (pp ++ [c]) b1 b hcb (path_child hI.reg hpo hd hp) hb
    exact ⟨j, by simpa using hj, hcj⟩

theorem PdInv.complete_body {proj : Project} {s : St} (hI : PdInv proj s) {m : Nat} (hm : m < proj.length)
    (hp : getPs s m = .processed) : CompleteStmts s m (bodyOf proj m) := by
  have hmd := List.getElem?_eq_getElem (l := proj) hm
  exact bodyOf_eq hmd ▸ hI.complete m _ hmd hp

theorem class_complete {proj : Project} {s : St} (hI : PdInv proj s) (hn : NoProcessing s) {i : Nat} {S : Site}
    {b : List Stmt} (hp : path s.reg i = some (sitePath proj S)) (hS : StaticSite proj S) (hne : S.2 ≠ [])
    (hb : siteBody proj S = some b) : CompleteStmts s i b := by
  have hc := hI.complete_body hS.1 (hn.processed (hI.started i S hp hS hne))
  obtain ⟨o, ho, hpm, _⟩ := hI.mods S.1 hS.1
  obtain ⟨j, hj, hcj⟩ := complete_walk hI S.2 S.1 _ _ b hc hpm (siteBody_bodyAt hb)
  cases path_inj hI.reg hj hp
  exact hcj

end Imports
