/-
C04 — a name resolves to what Python would bind it to, or not at all.

Part 1 (namespace `Names`): theorems over `PdModel.Names` on a DUMPED state: totality, the two
completeness clauses of the property, the relative-import rule.

Part 2 (namespace `Imports`): the code that BUILDS the alias maps (`PdModel/Imports.lean`) against
CPython's import machinery (`PdModel/PyImp.lean`) on an abstract syntax of projects: soundness without
re-export moves (`resolve_sound_partial`, with inherited members `resolve_sound_inherited`), with them
(`resolve_sound_reexport`, answers relocated by `finalLoc`), order independence, clean runs, the completeness
clauses for projects, the counterexamples that show which hypotheses are needed, and a bounded check
(`reexport_sound_bounded`, evaluated in `PdProps/C04Bounded.lean`).  The three soundness theorems share `walked_scope`; the invariants and the
resolution on a finished state are in `PdProps/C04Static.lean`, `C04Pd.lean`, `C04Py.lean`, `C04Resolve.lean` and `C04Inh.lean`, the relocated invariant in
`PdProps/C04ReexpA … C04ReexpF`.
Inside `namespace Imports` the unqualified `PdInv`, `run_ok`, `complete_entry`, … are those of the machine without
moves (C04Pd); their namesakes for `WFr` projects are written `Rx.…` and occur only in the re-export section.
-/
import PdProps.C04ReexpE
import PdProps.C04ReexpF
import PdProps.C04Bounded

namespace Names
open Registry

/-- `expandName` is a total function of the state: every call returns (a value or the explicit
crash outcome).  The statement itself holds of any Lean function; what carries "no unbounded recursion in the
resolution loop" is that Lean accepts `Names.expandLoop` (structural in the dotted name) and `Names.localName`
(fuel-bounded in the parent walk) as definitions. -/
theorem expand_total (e : Env) (obj : Nat) (name : Path) :
    ∃ r, expandName e obj name = r := ⟨_, rfl⟩

/-- whatever `resolveName` returns is a registered object (it can only answer with objects that
are documented) -/
theorem resolve_registered (e : Env) (obj : Nat) (name : Path) (i : Nat)
    (h : resolveName e obj name = some i) : ∃ p, dget e.st.all p = some i := by
  revert h
  fun_cases resolveName e obj name <;> intro h
  case case1 p _ _ h2 => cases h; exact ⟨p, h2⟩
  case case2 p _ _ _ h3 => cases h; exact findObject_registered e p _ h3
  all_goals cases h

theorem canContain_of_mod {c : Cls} (h : c = .module ∨ c = .package) : canContainImports c = true := by
  rcases h with rfl | rfl <;> rfl

/-- **completeness, clause 1**: a name bound in a module by `from m import x [as y]` — i.e. the
alias table maps `y` to the qualified name of a registered object and nothing in the module's
own contents shadows it — resolves to that object. -/
theorem resolve_direct_import (e : Env) (scope : Nat) (so : Obj) (y : Name) (target : Path) (o : Nat)
    (hs : getObj e.st scope = some so)
    (hm : so.cls = .module ∨ so.cls = .package)
    (hc : dget so.contents y = none)
    (ha : dget so.aliases y = some target)
    (ho : objFor e target = some o) :
    resolveName e scope [y] = some o := by
  have hl : localName e (fuelOf e) scope y = some target := localName_alias _ hs (canContain_of_mod hm) hc ha
  unfold resolveName
  rw [expand_single_local, hl]
  simp [ho]

/-- **completeness, clause 2**: `alias.x`, where `alias` was bound by `import m as alias`
(alias table maps it to the registered module `m`) and `x` is an entry of `m`'s contents that is
registered under its own qualified name, resolves to that entry. -/
theorem resolve_module_alias (e : Env) (scope mid c : Nat) (so mo : Obj) (al x : Name) (mp cp : Path)
    (hs : getObj e.st scope = some so)
    (hm : so.cls = .module ∨ so.cls = .package)
    (hc : dget so.contents al = none)
    (ha : dget so.aliases al = some mp)
    (hmid : objFor e mp = some mid)
    (hmo : getObj e.st mid = some mo)
    (hmm : mo.cls = .module ∨ mo.cls = .package)
    (hx : dget mo.contents x = some c)
    (hcp : path e.st c = some cp)
    (hne : cp ≠ [x])
    (hreg : objFor e cp = some c) :
    resolveName e scope [al, x] = some c := by
  have h1 : componentName e scope true al = some mp :=
    (componentName_alias true hs ha).trans (localName_alias _ hs (canContain_of_mod hm) hc ha)
  have h2 : componentName e mid false x = some cp :=
    (componentName_contents false hmo hx).trans ((localName_contents _ hmo (canContain_of_mod hmm) hx).trans hcp)
  unfold resolveName expandName
  rw [expandLoop_found h1 (by simp), hmid]
  simp only
  rw [expandLoop_found_last h2 (by simp [hne])]
  simp [hreg]

/-- the relative-import rule (`Names.relative_level`, PdProps/C07.lean) under the name this property's check asks for -/
theorem relative_level_c04 (mp : Path) (isPkg : Bool) (level : Nat) (h : 1 ≤ level) :
    relativeBase mp isPkg level = pythonRelativeBase mp isPkg level :=
  relative_level mp isPkg level h

/-! non-vacuity: a two-module state in which both clauses apply -/
def exState : State :=
  { objs := [ ⟨['m'], none, .module, [(['K'], 2)], []⟩,
              ⟨['n'], none, .module, [], [(['a'], [['m']]), (['K', '2'], [['m'], ['K']])]⟩,
              ⟨['K'], some 0, .cls, [], []⟩ ],
    all := [([['m']], 0), ([['n']], 1), ([['m'], ['K']], 2)],
    roots := [0, 1] }
def exEnv : Env := ⟨exState, []⟩

example : resolveName exEnv 1 [['a'], ['K']] = some 2 := by decide +kernel
example : resolveName exEnv 1 [['K', '2']] = some 2 := by decide +kernel

end Names

/-! # The code that BUILDS the alias maps, and soundness against Python as a theorem

`PdModel/Imports.lean` transcribes the visitor (`visit_Import`, `visit_ImportFrom`, `_importNames`,
`_importAll`, `_handleReExport`, `getProcessedModule`, `processModule`, …) over an abstract syntax of
projects; `PdModel/PyImp.lean` transcribes what CPython's import machinery binds for the same
project. -/

namespace Imports
open Registry

theorem walk_path {st : State} (hI : Inv st) : ∀ (cp : List Name) (i j : Nat) (pp : Path),
    path st i = some pp → walk st i cp = some j → path st j = some (pp ++ cp) := by
  intro cp i j pp hp
  fun_induction walk st i cp generalizing pp <;> intro hw
  case case1 => cases hw; simpa using hp
  case case4 o ho k hd ih => simpa using ih _ (path_child hI ho hd hp) hw
  all_goals cases hw

theorem resolveIn_some {s : St} {m : Nat} {cp : List Name} {name : Path} {a : Ident}
    (h : resolveIn s m cp name = some a) :
    ∃ i j, walk s.reg m cp = some i ∧ Names.resolveName (finalEnv s) i name = some j ∧ identOf s.reg j = some a := by
  revert h
  fun_cases resolveIn s m cp name <;> intro h
  case case3 i hw j hr => exact ⟨i, j, hw, hr, h⟩
  all_goals cases h

/-- **the scope pydoctor walked to is the scope Python walked to**: the object reached from module `m` along the
class chain `cp` is the object of the site `S` that Python reaches.  `L` names the sites (`sitePath`, or the
relocated names `Rx.loc`); all that is used of it (`Naming`) is that the name of a site denotes the site, so the name
`pathOf m ++ cp` of the object reached denotes both its own site and, by `hcase`, `S`. -/
theorem walked_scope {proj : Project} {rank : List Nat} (wf : WFacts proj rank) {s : St} {L : Site → Path}
    (hN : Naming proj s L) {m : Nat} (hm : m < proj.length) (hpm : path s.reg m = some (pathOf proj m))
    {cp : List Name} {i : Nat} (hw : walk s.reg m cp = some i) {S : Site}
    (hcase : (cp = [] ∧ S = (m, [])) ∨ (cp ≠ [] ∧ Jpy proj (m, []) cp (.dfn S.1 S.2))) : ObjAt proj L s i S := by
  have hpi := walk_path hN.reg cp m i _ hpm hw
  have hoi := List.getElem?_eq_getElem (path_lt hpi)
  obtain ⟨Si, hki, hpi'⟩ := hN.site i _ hoi
  have hL : L Si = pathOf proj m ++ cp := Option.some.inj (hpi'.symm.trans hpi)
  have key : ∀ v, AbsDenW proj (pathOf proj m ++ cp) v → Si = scopeOf v := fun v hv =>
    hN.scope wf hki.static (hL ▸ hv)
  have hS : Si = S := by
    rcases hcase with ⟨rfl, rfl⟩ | ⟨hcp, hjc⟩
    · exact key (.mod m) (by simpa using (canon_mod wf m hm).weak)
    · obtain ⟨y, ys, rfl⟩ := List.exists_cons_of_ne_nil hcp
      exact key _ (AbsDen.inMod wf hm hjc).weak
  subst hS
  exact ⟨_, hoi, hpi', hki⟩

/-- The restriction beyond the property's quantifier under which `resolve_sound_partial` and `resolve_sound_inherited`
are proved: no `__all__` re-export moves (the clause `noReexport` of `WF`; `resolve_sound_reexport` below lifts it for
`WFr` projects).  Base classes are allowed; `resolve_sound_partial` then speaks of the names whose class steps stay in
the classes' own namespaces, `PyImp.pyOwn`. -/
def Restricted (proj : Project) : Bool := noReexport proj

/-- `a.py`: `class K`; `b.py`: `from a import K` -/
def exProjW : Project :=
  [⟨[['a']], false, [.classDef ['K'] [] []]⟩, ⟨[['b']], false, [.importFrom 0 [['a']] ['K'] none]⟩]

/-
THE PROPERTY, at the level of the abstract project: for every project that is acyclic, has unique names and binds
each name once per scope (`WF` without `noReexport`),

  pdResolve proj ordPd m cp name = some i₁ → pyDenotes proj ordPy m cp name = some i₂ → i₁ = i₂.

It is proved for three sub-classes of these projects, not for all of them (inherited names outside
`classImportsUnique`, and re-exports outside `reexportShape` / `pkgFromOk` / `aboveOk`, stay with the differential
oracle); with re-export moves the conclusion is `i₁ = finalLoc proj i₂`:
* `resolve_sound_partial`: `WF` projects (no `__all__` re-export moves, `Restricted`), names that do not involve an
  INHERITED member (`pyOwn`: every attribute step through a class finds the attribute in that class's own
  namespace — exactly the names `vars()` reports);
* `resolve_sound_inherited`: inherited members included, for the sub-class `classImportsUnique` of `WF`.  For such
  names the statement was false until d230b6e (`resolve_sound_bases_counterexample` below; an earlier defect of the
  same family was fixed as b8619e6);
* `resolve_sound_reexport`: with re-export moves, for `WFr` projects, Python's answer relocated by `finalLoc`.
Nothing is assumed about the run: that the analysis of a `WF` project raises no registry exception, handles no
duplicate definition, fails no assertion and does not run out of fuel is `run_clean` (PdProps/C04Pd.lean), for every
processing order.
-/

/-- **a well-formed project is analysed cleanly**: no registry exception, no duplicate definition, no
failed assertion, no fuel exhaustion, whatever the order in which the modules are processed -/
theorem wf_run_clean (proj : Project) (rank : List Nat) (hwf : WF proj rank = true) (ord : List Nat) :
    (run proj ord).bad = false := run_clean hwf ord

example : (run exProjW [1, 0]).bad = false := wf_run_clean exProjW [0, 1] (by decide +kernel) [1, 0]

/-- **soundness**: for every well-formed project, every processing order of pydoctor and every import
order of Python, every scope (module `m`, class chain `cp`) and every dotted name none of whose attribute steps goes
through an inherited member (`hown`): if pydoctor
resolves the name in that scope to a documented object and Python binds the name there (first
component in the scope's own namespace, the rest by attribute access), then they are the same
object.  Equivalently: `pdResolve … = some obj → pyDenotes … ≠ none → pyDenotes … = some obj`. -/
theorem resolve_sound_partial (proj : Project) (rank : List Nat) (hwf : WF proj rank = true)
    (ordPd ordPy : List Nat)
    (m : Nat) (hm : m < proj.length) (cp : List Name) (name : Path) (i₁ i₂ : Ident)
    (h1 : pdResolve proj ordPd m cp name = some i₁) (h2 : PyImp.pyDenotes proj ordPy m cp name = some i₂)
    (hown : PyImp.pyOwn proj ordPy m cp name = true) :
    i₁ = i₂ := by
  have wf := WF.facts hwf
  obtain ⟨hI, hn, _⟩ := run_ok wf (WF.noReexp hwf) ordPd (run_clean hwf ordPd)
  obtain ⟨S, sv, hcase, hj, hid⟩ := pyDenotes_j wf h2 hown
  obtain ⟨i, j, hw, hr, hi⟩ := resolveIn_some h1
  obtain ⟨_, _, hpm, _⟩ := hI.mods m hm
  obtain ⟨oi, hoi, hpi, hki⟩ := walked_scope wf (hI.naming wf) hm hpm hw hcase
  rw [resolve_sound_state wf hI hn hoi hpi hki hj hr] at hi
  exact (Option.some.inj hi).symm.trans hid

/-- soundness without the `pyOwn` hypothesis, for projects that have no base classes (every attribute
of a class is its own there) -/
theorem resolve_sound_nobases (proj : Project) (rank : List Nat) (hwf : WF proj rank = true)
    (hnb : noBases proj = true) (ordPd ordPy : List Nat)
    (m : Nat) (hm : m < proj.length) (cp : List Name) (name : Path) (i₁ i₂ : Ident)
    (h1 : pdResolve proj ordPd m cp name = some i₁) (h2 : PyImp.pyDenotes proj ordPy m cp name = some i₂) :
    i₁ = i₂ :=
  resolve_sound_partial proj rank hwf ordPd ordPy m hm cp name i₁ i₂ h1 h2 (pyOwn_of_noBases (WF.facts hwf) hnb h2)

/-- what pydoctor resolves a Python-bound name (no inherited attribute step: `hown`) to does not depend on the order
in which the modules are processed (C06 for name resolution, on well-formed projects) -/
theorem resolve_order_independent (proj : Project) (rank : List Nat) (hwf : WF proj rank = true)
    (ord₁ ord₂ ordPy : List Nat)
    (m : Nat) (hm : m < proj.length) (cp : List Name) (name : Path) (a b c : Ident)
    (h1 : pdResolve proj ord₁ m cp name = some a) (h2 : pdResolve proj ord₂ m cp name = some b)
    (hpy : PyImp.pyDenotes proj ordPy m cp name = some c) (hown : PyImp.pyOwn proj ordPy m cp name = true) : a = b :=
  (resolve_sound_partial proj rank hwf ord₁ ordPy m hm cp name a c h1 hpy hown).trans
    (resolve_sound_partial proj rank hwf ord₂ ordPy m hm cp name b c h2 hpy hown).symm

/-! ## names that go through an INHERITED member

`resolve_sound_partial` without the `pyOwn` hypothesis, for the decidable sub-class `classImportsUnique` of `WF`: a
name bound by an import inside a class body (i) is not the name of a definition made inside a class body and (ii)
the imports that bind the same name inside other class bodies bind it to the same thing (`ImpKey`: the same root
module / the same module / the same name of the same module).  Base classes written in any way, multiple inheritance
and imports in class bodies are all allowed.  The proof does NOT go through "pydoctor's MRO = Python's MRO": with
globally unique definition names and `classImportsUnique` the BINDING of an attribute name is the same in every class
body of the project that binds it, so whichever class of whichever linearisation either side finds the name in, it
finds the same object (`class_bind_same`, `content_den`, `alias_den` in PdProps/C04Inh.lean; `Step` over-approximates
`type.__getattribute__`).  Of pydoctor's linearisation only this is needed: its members are class objects
(`mro_member_class`, from the invariant `CBase`) and it starts with the class (`mroOf_final_head`).
Outside `classImportsUnique` (`exBases` below: one base imports `y`, another defines `y`) the ORDER of the two
linearisations decides; that needs soundness of base-class resolution and C05's `pd_eq_cpython` on top, and is left to
the differential oracle. -/

/-- **soundness, inherited members included** -/
theorem resolve_sound_inherited (proj : Project) (rank : List Nat) (hwf : WF proj rank = true)
    (hci : classImportsUnique proj = true) (ordPd ordPy : List Nat)
    (m : Nat) (hm : m < proj.length) (cp : List Name) (name : Path) (i₁ i₂ : Ident)
    (h1 : pdResolve proj ordPd m cp name = some i₁) (h2 : PyImp.pyDenotes proj ordPy m cp name = some i₂) :
    i₁ = i₂ := by
  have wf := WF.facts hwf
  obtain ⟨hI, hn, _⟩ := run_ok wf (WF.noReexp hwf) ordPd (run_clean hwf ordPd)
  obtain ⟨S, sv, hcase, hj, hid⟩ := pyDenotes_jI wf h2
  obtain ⟨i, j, hw, hr, hi⟩ := resolveIn_some h1
  obtain ⟨_, _, hpm, _⟩ := hI.mods m hm
  have hF := hI.settled wf (CIU.of hci) hn
  obtain ⟨Sj, hSj, oj, hoj, hpj, hkj⟩ :=
    resolve_sound_stateI wf (CIU.of hci) hF (walked_scope wf hF.naming hm hpm hw hcase) hj hr
  rw [hkj.ident hoj hpj, hSj] at hi
  exact (Option.some.inj hi).symm.trans hid

/-- order independence of the resolution of every Python-bound name, inherited members included -/
theorem resolve_order_independent_inherited (proj : Project) (rank : List Nat) (hwf : WF proj rank = true)
    (hci : classImportsUnique proj = true) (ord₁ ord₂ ordPy : List Nat)
    (m : Nat) (hm : m < proj.length) (cp : List Name) (name : Path) (a b c : Ident)
    (h1 : pdResolve proj ord₁ m cp name = some a) (h2 : pdResolve proj ord₂ m cp name = some b)
    (hpy : PyImp.pyDenotes proj ordPy m cp name = some c) : a = b :=
  (resolve_sound_inherited proj rank hwf hci ord₁ ordPy m hm cp name a c h1 hpy).trans
    (resolve_sound_inherited proj rank hwf hci ord₂ ordPy m hm cp name b c h2 hpy).symm

/-! ## completeness at the level of the project -/

theorem moduleCls_cases {c : Cls} (h : isModuleCls c = true) : c = .module ∨ c = .package := by
  cases c <;> simp [isModuleCls] at h ⊢

/-- on a finished clean state, an import statement of a processed module left exactly its alias entry -/
theorem alias_of_stmt {proj : Project} {rank : List Nat} (wf : WFacts proj rank) {s : St} (hI : PdInv proj s)
    {m : Nat} (hm : m < proj.length) (hproc : getPs s m = .processed) {st : Stmt} {x : Name}
    (hst : st ∈ bodyOf proj m) (hx : x ∈ explicitNames st) (himp : st.defName = none) :
    ∃ o tgt, s.reg.objs[m]? = some o ∧ isModuleCls o.cls = true ∧ dget o.contents x = none ∧
      dget o.aliases x = some tgt ∧ StmtD proj (m, []) st x tgt := by
  have hb : siteBody proj (m, []) = some (bodyOf proj m) := siteBody_zero hm
  obtain ⟨o, ho, hent⟩ := complete_entry ((hI.complete_body hm hproc).mem hst) hx
  obtain ⟨o', ho', hpm, hcl⟩ := hI.mods m hm
  rw [ho] at ho'; injection ho' with ho'; subst ho'
  have hmo : isModuleCls o.cls = true := hcl ▸ isModuleCls_modCls proj _
  have hxs : x ∈ stmtNamesR proj rank (m, []) st := stmtNames_of_explicit hx
  have hcn : dget o.contents x = none := by
    cases hd : dget o.contents x with
    | none => rfl
    | some c =>
      exfalso
      rcases hI.cont m o hm ho x c hd with hch | ⟨st', hst', hd'⟩
      · exact child_not_stmt wf hb hch hst hxs
      · have := same_stmt wf hb hst hst' hxs (stmtNames_of_explicit (defName_explicit hd'))
        subst this; rw [himp] at hd'; cases hd'
  have ha : dget o.aliases x ≠ none := by
    rcases hent with h | h
    · exact absurd hcn h
    · exact h
  cases hda : dget o.aliases x with
  | none => exact absurd hda ha
  | some tgt =>
    have hj := hI.alias m o (m, []) ho (by simpa [sitePath] using hpm) ⟨hm, Or.inl rfl⟩ x tgt hda
    obtain ⟨b, st2, hb2, hst2, hx2, hD⟩ := jpd_inv wf hj
    rw [hb] at hb2; injection hb2 with hb2; subst hb2
    have := same_stmt wf hb hst hst2 hxs hx2
    subst this
    exact ⟨o, tgt, ho, hmo, hcn, hda, hD⟩

/-- a visited definition left an entry of `contents` -/
theorem complete_content {s : St} {ctx : Nat} {st : Stmt} {n : Name} (hc : CompleteStmt s ctx st)
    (hd : st.defName = some n) : HasContent s ctx n := by
  cases st with
  | classDef n' bs body =>
    simp only [Stmt.defName, Option.some.injEq] at hd; subst hd
    obtain ⟨c, _, po, hpo, hdc, _⟩ := hc
    exact ⟨po, c, hpo, hdc⟩
  | funcDef n' => simp only [Stmt.defName, Option.some.injEq] at hd; subst hd; exact hc
  | assign n' v => simp only [Stmt.defName, Option.some.injEq] at hd; subst hd; exact hc
  | _ => simp [Stmt.defName] at hd

/-- a top-level definition of a processed module is registered under the module's name + its own -/
theorem def_registered {proj : Project} {rank : List Nat} (wf : WFacts proj rank) {s : St} (hI : PdInv proj s)
    {t : Nat} (ht : t < proj.length) (hproc : getPs s t = .processed) {st : Stmt} {n : Name}
    (hst : st ∈ bodyOf proj t) (hd : st.defName = some n) :
    ∃ o c, s.reg.objs[t]? = some o ∧ isModuleCls o.cls = true ∧ dget o.contents n = some c ∧
      path s.reg c = some (pathOf proj t ++ [n]) ∧ dget s.reg.all (pathOf proj t ++ [n]) = some c ∧
      identOf s.reg c = some (.dfn (pathOf proj t ++ [n])) := by
  have hcs := (hI.complete_body ht hproc).mem hst
  obtain ⟨o, ho, hpm, hcl⟩ := hI.mods t ht
  have hmo : isModuleCls o.cls = true := hcl ▸ isModuleCls_modCls proj _
  obtain ⟨o', c, ho', hdc⟩ := complete_content hcs hd
  rw [ho] at ho'; injection ho' with ho'; subst ho'
  have hpc := path_child hI.reg ho hdc hpm
  have hreg := dget_of_path hI.reg hpc
  refine ⟨o, c, ho, hmo, hdc, hpc, hreg, ?_⟩
  have hw : walk s.reg t [n] = some c := by simp [walk, getObj, ho, hdc]
  obtain ⟨oc, hoc, hpc', hkc⟩ := walked_scope wf (hI.naming wf) ht hpm hw (S := (t, [n]))
    (.inr ⟨List.cons_ne_nil n [], .dfn (siteBody_zero ht) hst hd⟩)
  simpa [svalOf, identSV] using hkc.ident hoc hpc'

/-- **completeness, clause 1, for projects**: in a well-formed project analysed in an order that contains every
module (`hcov`: the importer and the definer must both have been processed), a name bound at module level
by `from M import n [as x]`, where `M` names the module that DEFINES `n`, resolves to that
definition. -/
theorem resolve_from_definer (proj : Project) (rank : List Nat) (hwf : WF proj rank = true)
    (ord : List Nat) (hcov : ∀ i, i < proj.length → i ∈ ord) (m t : Nat) (hm : m < proj.length)
    {lvl : Nat} {M : Path} {n : Name} {a : Option Name}
    (hst : Stmt.importFrom lvl M n a ∈ bodyOf proj m) (htgt : target proj m lvl M = some t)
    {st : Stmt} (hdef : st ∈ bodyOf proj t) (hdn : st.defName = some n) :
    pdResolve proj ord m [] [a.getD n] = some (.dfn (pathOf proj t ++ [n])) := by
  have wf := WF.facts hwf
  have nr := WF.noReexp hwf
  obtain ⟨hI, hn, hproc⟩ := run_ok wf nr ord (run_clean hwf ord)
  have hmo := hcov m hm
  unfold pdResolve resolveIn
  generalize run proj ord = s at hI hn hproc
  obtain ⟨o, tgt, ho, hmcl, hcn, hda, hD⟩ :=
    alias_of_stmt wf hI hm (hproc m hmo) hst (x := a.getD n) (by simp [explicitNames]) rfl
  obtain ⟨_, T, hT, htgt'⟩ := hD
  have hmT : modIdx proj T = some t := by rw [target_eq, hT] at htgt; exact htgt
  obtain ⟨htl, hpT⟩ := modIdx_spec hmT
  have hto := hcov t htl
  obtain ⟨ot, c, _, _, _, _, hreg, hid⟩ := def_registered wf hI htl (hproc t hto) hdef hdn
  rw [hpT] at hreg hid
  have hcls := moduleCls_cases hmcl
  have hres := Names.resolve_direct_import (finalEnv s) m o (a.getD n) tgt c ho hcls hcn hda (by rw [htgt']; exact hreg)
  simp only [walk, hres, hid, hpT]

/-- **completeness, clause 2, for projects**: `alias.n`, where `import M as alias` names the module
that defines `n`, resolves to that definition (the order contains every module, `hcov`, as in clause 1). -/
theorem resolve_via_module_alias (proj : Project) (rank : List Nat) (hwf : WF proj rank = true)
    (ord : List Nat) (hcov : ∀ i, i < proj.length → i ∈ ord) (m t : Nat) (hm : m < proj.length)
    {M : Path} {al n : Name}
    (hst : Stmt.importMod M (some al) ∈ bodyOf proj m) (htgt : modIdx proj M = some t)
    {st : Stmt} (hdef : st ∈ bodyOf proj t) (hdn : st.defName = some n) :
    pdResolve proj ord m [] [al, n] = some (.dfn (pathOf proj t ++ [n])) := by
  have wf := WF.facts hwf
  have nr := WF.noReexp hwf
  obtain ⟨hI, hn, hproc⟩ := run_ok wf nr ord (run_clean hwf ord)
  obtain ⟨htl, hpT⟩ := modIdx_spec htgt
  have hmo := hcov m hm
  have hto := hcov t htl
  unfold pdResolve resolveIn
  generalize run proj ord = s at hI hn hproc
  obtain ⟨o, tgt, ho, hmcl, hcn, hda, hD⟩ :=
    alias_of_stmt wf hI hm (hproc m hmo) hst (x := al) (by simp [explicitNames]) rfl
  obtain ⟨_, htgt'⟩ := hD
  rw [htgt'] at hda
  obtain ⟨ot, c, hot, hmot, hdc, hpc, hreg, hid⟩ := def_registered wf hI htl (hproc t hto) hdef hdn
  obtain ⟨ot', _, hpt, _⟩ := hI.mods t htl
  have hregt : dget s.reg.all M = some t := by rw [← hpT]; exact dget_of_path hI.reg hpt
  have hcls := moduleCls_cases hmcl
  have hclst := moduleCls_cases hmot
  have hne : pathOf proj t ++ [n] ≠ [n] := by
    intro h
    have := congrArg List.length h
    simp at this
    exact (wf.parentOk t htl).1 this
  have hres := Names.resolve_module_alias (finalEnv s) m t c o ot al n M (pathOf proj t ++ [n]) ho hcls hcn hda
    hregt hot hclst hdc hpc hne hreg
  simp only [walk, hres, hid]

/-! ## non-vacuity: a multi-package project with star, relative and aliased imports, imports in a
class body and a package re-import satisfies every hypothesis, and the theorems apply to it -/

/-- ```
pa/__init__.py   from pa.m1 import K as KK
pa/m1.py         class K: (def g; W = 7)      def f      V = 1
pb/__init__.py
pb/sub.py        from pa.m1 import *          from .oth import G as gg
pb/oth.py        def G
top.py           import pa.m1 as mm           import pb.sub          class C: from pa.m1 import K as kk
``` -/
def exProj : Project := [
  ⟨[['p','a']], true, [.importFrom 0 [['p','a'],['m','1']] ['K'] (some ['K','K'])]⟩,
  ⟨[['p','a'],['m','1']], false, [.classDef ['K'] [] [.funcDef ['g'], .assign ['W'] 7], .funcDef ['f'], .assign ['V'] 1]⟩,
  ⟨[['p','b']], true, []⟩,
  ⟨[['p','b'],['s','u','b']], false, [.importStar 0 [['p','a'],['m','1']], .importFrom 1 [['o','t','h']] ['G'] (some ['g','g'])]⟩,
  ⟨[['p','b'],['o','t','h']], false, [.funcDef ['G']]⟩,
  ⟨[['t','o','p']], false, [.importMod [['p','a'],['m','1']] (some ['m','m']), .importMod [['p','b'],['s','u','b']] none,
      .classDef ['C'] [] [.importFrom 0 [['p','a'],['m','1']] ['K'] (some ['k','k'])]]⟩ ]
/-- a topological index of `exProj` (module `pa.m1` first, `top` last) -/
def exRank : List Nat := [1, 0, 2, 4, 3, 5]
def exOrd : List Nat := [0, 1, 2, 3, 4, 5]

theorem exProj_wf : WF exProj exRank = true := by decide +kernel
example : WF exProj exRank = true := exProj_wf
example : (run exProj exOrd).bad = false := by decide +kernel
example : (PyImp.run exProj exOrd).err = false := by decide +kernel
-- star import; relative import; module alias + attribute chain; import inside a class body; plain import
example : pdResolve exProj exOrd 3 [] [['K']] = some (.dfn [['p','a'],['m','1'],['K']]) := by decide +kernel
example : PyImp.pyDenotes exProj exOrd 3 [] [['K']] = some (.dfn [['p','a'],['m','1'],['K']]) := by decide +kernel
example : pdResolve exProj exOrd 3 [] [['g','g']] = some (.dfn [['p','b'],['o','t','h'],['G']]) := by decide +kernel
example : PyImp.pyDenotes exProj exOrd 3 [] [['g','g']] = some (.dfn [['p','b'],['o','t','h'],['G']]) := by decide +kernel
example : pdResolve exProj exOrd 5 [] [['m','m'],['K'],['g']] = some (.dfn [['p','a'],['m','1'],['K'],['g']]) := by
  decide +kernel
example : PyImp.pyDenotes exProj exOrd 5 [] [['m','m'],['K'],['g']] = some (.dfn [['p','a'],['m','1'],['K'],['g']]) := by
  decide +kernel
example : pdResolve exProj exOrd 5 [['C']] [['k','k'],['W']] = some (.dfn [['p','a'],['m','1'],['K'],['W']]) := by
  decide +kernel
example : PyImp.pyDenotes exProj exOrd 5 [['C']] [['k','k'],['W']] = some (.dfn [['p','a'],['m','1'],['K'],['W']]) := by
  decide +kernel
example : pdResolve exProj exOrd 5 [] [['p','b'],['s','u','b'],['f']] = some (.dfn [['p','a'],['m','1'],['f']]) := by
  decide +kernel
-- the same answers when the modules are processed / imported in the reverse order
example : pdResolve exProj exOrd.reverse 3 [] [['K']] = PyImp.pyDenotes exProj exOrd.reverse 3 [] [['K']] := by
  decide +kernel
-- the hypotheses of the completeness theorems hold for `from pa.m1 import K as KK` and `import pa.m1 as mm`
example : pdResolve exProj exOrd 0 [] [['K','K']] = some (.dfn (pathOf exProj 1 ++ [['K']])) :=
  resolve_from_definer exProj exRank exProj_wf exOrd (by decide +kernel) 0 1 (by decide +kernel)
    (lvl := 0) (M := [['p','a'],['m','1']]) (n := ['K']) (a := some ['K','K']) (by simp [bodyOf, exProj]) (by decide +kernel)
    (st := .classDef ['K'] [] [.funcDef ['g'], .assign ['W'] 7]) (by simp [bodyOf, exProj]) rfl
example : pdResolve exProj exOrd 5 [] [['m','m'], ['f']] = some (.dfn (pathOf exProj 1 ++ [['f']])) :=
  resolve_via_module_alias exProj exRank exProj_wf exOrd (by decide +kernel) 5 1 (by decide +kernel)
    (M := [['p','a'],['m','1']]) (al := ['m','m']) (n := ['f']) (by simp [bodyOf, exProj]) (by decide +kernel)
    (st := .funcDef ['f']) (by simp [bodyOf, exProj]) rfl

/-! ### … and a project WITH base classes: `resolve_sound_partial` applies to every own attribute -/

/-- ```
D.py   class K: (def g)
M.py   from D import K
       class B(K): W = 1
       class C(B): V = 2 ; class In(B): U = 3
``` -/
def exInherit : Project := [
  ⟨[['D']], false, [.classDef ['K'] [] [.funcDef ['g']]]⟩,
  ⟨[['M']], false, [.importFrom 0 [['D']] ['K'] none,
                    .classDef ['B'] [[['K']]] [.assign ['W'] 1],
                    .classDef ['C'] [[['B']]] [.assign ['V'] 2, .classDef ['I','n'] [[['B']]] [.assign ['U'] 3]]]⟩ ]

theorem exInherit_wf : WF exInherit [0, 1] = true := by decide +kernel
example : WF exInherit [0, 1] = true := exInherit_wf
example : noBases exInherit = false := by decide +kernel
example : pdResolve exInherit [0, 1] 1 [] [['C'], ['I','n'], ['U']] = some (.dfn [['M'], ['C'], ['I','n'], ['U']]) := by
  decide +kernel
example : PyImp.pyDenotes exInherit [1, 0] 1 [] [['C'], ['I','n'], ['U']] = some (.dfn [['M'], ['C'], ['I','n'], ['U']]) := by
  decide +kernel
example : PyImp.pyOwn exInherit [1, 0] 1 [] [['C'], ['I','n'], ['U']] = true := by decide +kernel
-- the inherited `C.g` is outside `pyOwn`; it is covered by `resolve_sound_inherited`
example : PyImp.pyOwn exInherit [0, 1] 1 [] [['C'], ['g']] = false := by decide +kernel
example : classImportsUnique exInherit = true := by decide +kernel
example : pdResolve exInherit [0, 1] 1 [] [['C'], ['g']] = some (.dfn [['D'], ['K'], ['g']]) := by decide +kernel
example : PyImp.pyDenotes exInherit [1, 0] 1 [] [['C'], ['g']] = some (.dfn [['D'], ['K'], ['g']]) := by decide +kernel
example : pdResolve exInherit [0, 1] 1 [['C']] [['I','n'], ['W']] = some (.dfn [['M'], ['B'], ['W']]) := by decide +kernel
example (a b : Ident) (h1 : pdResolve exInherit [1, 0] 1 [] [['C'], ['g']] = some a)
    (h2 : PyImp.pyDenotes exInherit [0, 1] 1 [] [['C'], ['g']] = some b) : a = b :=
  resolve_sound_inherited exInherit [0, 1] exInherit_wf (by decide +kernel) [1, 0] [0, 1] 1 (by decide +kernel) []
    [['C'], ['g']] a b h1 h2

/-- a class body that imports, inherited by a class of another module, through a module alias:
```
D.py   class K: (def g)
M.py   import D
       class B: from D import K as kk ; import D as dd
N.py   import M as mm
       class C(mm.B): pass
``` -/
def exInhImp : Project := [
  ⟨[['D']], false, [.classDef ['K'] [] [.funcDef ['g']]]⟩,
  ⟨[['M']], false, [.importMod [['D']] none,
                    .classDef ['B'] [] [.importFrom 0 [['D']] ['K'] (some ['k','k']), .importMod [['D']] (some ['d','d'])]]⟩,
  ⟨[['N']], false, [.importMod [['M']] (some ['m','m']), .classDef ['C'] [[['m','m'], ['B']]] []]⟩ ]

example : WF exInhImp [0, 1, 2] = true := by decide +kernel
example : classImportsUnique exInhImp = true := by decide +kernel
example : pdResolve exInhImp [2, 1, 0] 2 [] [['C'], ['k','k'], ['g']] = some (.dfn [['D'], ['K'], ['g']]) := by decide +kernel
example : PyImp.pyDenotes exInhImp [0, 1, 2] 2 [] [['C'], ['k','k'], ['g']] = some (.dfn [['D'], ['K'], ['g']]) := by
  decide +kernel
example : pdResolve exInhImp [0, 1, 2] 2 [] [['C'], ['d','d'], ['K']] = some (.dfn [['D'], ['K']]) := by decide +kernel
example : PyImp.pyDenotes exInhImp [2, 0, 1] 2 [] [['C'], ['d','d'], ['K']] = some (.dfn [['D'], ['K']]) := by decide +kernel

/-! ## why the statement speaks of BOUND names

`pdResolve … = some obj → pyDenotes … = some obj` without "Python binds the name" is false, also
after every fix: pydoctor's star import takes the names of a package's submodules whether or not
they have been imported yet, Python takes only attributes that exist at that moment.  The name is
then not bound under Python (outside the property's quantifier: an observation, not a violation). -/

/-- `pa/__init__.py` (empty), `pa/m1.py` (empty), `top.py`: `from pa import *` -/
def exUnbound : Project := [
  ⟨[['p','a']], true, []⟩, ⟨[['p','a'],['m','1']], false, []⟩,
  ⟨[['t','o','p']], false, [.importStar 0 [['p','a']]]⟩ ]

theorem resolve_sound_unbound_counterexample :
    WF exUnbound [0, 1, 2] = true ∧ (run exUnbound [0, 1, 2]).bad = false ∧
    pdResolve exUnbound [0, 1, 2] 2 [] [['m','1']] = some (.mod [['p','a'],['m','1']]) ∧
    PyImp.pyDenotes exUnbound [2, 0, 1] 2 [] [['m','1']] = none ∧
    (PyImp.run exUnbound [2, 0, 1]).err = false := by
  decide +kernel

/-! ## base classes: the defect that d230b6e fixed

Until commit d230b6e soundness FAILED for names that go through an inherited member: `Class.find`, which `expandName`
used for inherited members, only looked at the `contents` of the classes of the MRO, never at the names their bodies
import.  An earlier base that binds the name by an import was skipped, a later base that defines it won; Python takes
the first class of `__mro__` whose namespace has the name.  (Finding `unsound:inherited-attribute:base-import-skipped`,
found with this model, replayed on the real pydoctor and CPython by harness/props/c04.py; fixed by
fixes/C04-inherited-lookup-sees-base-imports.diff = /repo d230b6e.) -/

/-- `Names.expandLoop` before d230b6e: the inherited step is `Class.find` (`Names.classFind`) -/
def expandLoopOld (e : Names.Env) : Nat → Bool → List Name → Option Path
  | _, _, [] => none
  | obj, first, p :: rest =>
    match Names.componentName e obj first p with
    | none => none
    | some fn =>
      let fn' : Option (Path × Bool) :=
        if fn = [p] && !first then
          let inh : Path :=
            match getObj e.st obj with
            | some o =>
              if o.cls = .cls then
                match Names.classFind e obj p with
                | some i => (path e.st i).getD [p]
                | none => [p]
              else [p]
            | none => [p]
          if inh = [p] then
            match path e.st obj with
            | some op => some (op ++ [p], true)
            | none => none
          else some (inh, false)
        else some (fn, false)
      match fn' with
      | none => none
      | some (full, true) => some (full ++ rest)
      | some (full, false) =>
        match Names.objFor e full with
        | none => some (full ++ rest)
        | some nxt =>
          match rest with
          | [] => some full
          | _ :: _ => expandLoopOld e nxt false rest

/-- `pdResolve` with the old inherited-member step (the `find_object` fall-back plays no role here) -/
def pdResolveOld (proj : Project) (order : List Nat) (m : Nat) (cp : List Name) (name : Path) : Option Ident :=
  let s := run proj order
  match walk s.reg m cp with
  | none => none
  | some i =>
    match expandLoopOld (finalEnv s) i true name with
    | none => none
    | some p => match Names.objFor (finalEnv s) p with | some j => identOf s.reg j | none => none

/-- ```
D.py   class K
M.py   class B: from D import K as y
       class B2: def y
       class C(B, B2)
``` -/
def exBases : Project := [
  ⟨[['D']], false, [.classDef ['K'] [] []]⟩,
  ⟨[['M']], false, [.classDef ['B'] [] [.importFrom 0 [['D']] ['K'] (some ['y'])],
                    .classDef ['B','2'] [] [.funcDef ['y']],
                    .classDef ['C'] [[['B']], [['B','2']]] []]⟩ ]

/-- `exBases` is `WF` but outside the sub-class of `resolve_sound_inherited`: `y` is imported in `B` and defined in `B2` -/
example : classImportsUnique exBases = false := by decide +kernel

/-- before d230b6e: `C.y` resolved to `M.B2.y`, Python binds `D.K` (inherited through the import in `B`);
since d230b6e pydoctor agrees with Python on this name -/
theorem resolve_sound_bases_counterexample :
    WF exBases [0, 1] = true ∧ (PyImp.run exBases [0, 1]).err = false ∧
    PyImp.pyOwn exBases [0, 1] 1 [] [['C'], ['y']] = false ∧
    pdResolveOld exBases [0, 1] 1 [] [['C'], ['y']] = some (.dfn [['M'], ['B','2'], ['y']]) ∧
    PyImp.pyDenotes exBases [0, 1] 1 [] [['C'], ['y']] = some (.dfn [['D'], ['K']]) ∧
    pdResolve exBases [0, 1] 1 [] [['C'], ['y']] = some (.dfn [['D'], ['K']]) := by
  decide +kernel

/-! ## re-exports: the statement with relocated identities, its proof for `WFr` projects, a bounded check

With `__all__` re-exports pydoctor MOVES the documentation of an object below its re-exporter; Python's
identity of the object is its definition site.  The statement therefore relocates Python's answer:
`finalLoc proj` (PdModel/Imports.lean) maps `D.K.…` to `X.a.…` when module `X` re-exports `D.K` as `a`.
`WFr` = `WF` with `noReexport` replaced by `reexportShape` (plus `pkgFromOk`, `modNamesOk`, `aboveOk`: the module lookups
that imports trigger respect the rank), the shape C07's property names: one
`__all__` per module and no star import next to it; the re-exporter imports the object directly from
the plain module that defines it (a top-level class / function that the definer does not list itself);
at most one re-exporter per object; no import in a class body. -/

/-- THE STATEMENT (soundness with moved objects, every processing order that processes every module —
what `System.process` does —, every import order) -/
def ResolveSoundReexport (proj : Project) (rank : List Nat) : Prop :=
  WFr proj rank = true → ∀ (ordPd ordPy : List Nat), (∀ i, i < proj.length → i ∈ ordPd) → ∀ (m : Nat), m < proj.length →
    ∀ (cp : List Name) (name : Path) (a b : Ident),
      pdResolve proj ordPd m cp name = some a → PyImp.pyDenotes proj ordPy m cp name = some b → a = finalLoc proj b

/-- … and its corollary: the resolution of a Python-bound name does not depend on the processing order -/
def ResolveOrderIndependentReexport (proj : Project) (rank : List Nat) : Prop :=
  WFr proj rank = true → ∀ (ord₁ ord₂ ordPy : List Nat), (∀ i, i < proj.length → i ∈ ord₁) →
    (∀ i, i < proj.length → i ∈ ord₂) → ∀ (m : Nat), m < proj.length →
    ∀ (cp : List Name) (name : Path) (a b c : Ident),
      pdResolve proj ord₁ m cp name = some a → pdResolve proj ord₂ m cp name = some b →
      PyImp.pyDenotes proj ordPy m cp name = some c → a = b

theorem ResolveSoundReexport.order_independent {proj : Project} {rank : List Nat}
    (h : ResolveSoundReexport proj rank) : ResolveOrderIndependentReexport proj rank :=
  fun hw o1 o2 op hc1 hc2 m hm cp name a b c h1 h2 h3 =>
    (h hw o1 op hc1 m hm cp name a c h1 h3).trans (h hw o2 op hc2 m hm cp name b c h2 h3).symm


/-- `finalLoc` is the identity where nothing is re-exported -/
example : finalLoc exProj (.dfn [['p','a'],['m','1'],['K']]) = .dfn [['p','a'],['m','1'],['K']] := by decide +kernel

/-- **soundness with re-export moves** (the statement `ResolveSoundReexport`), under the two obligations that
layer C04ReexpD carries as hypotheses (both proved in C04ReexpF): `Rx.ReparentOk` (registry level: `reparent` onto a free name of an
object that is not below the moved one raises nothing) and `Rx.SubLookup` (the implicit submodule lookup of
`from <package> import n` enters no module of too high a rank).  Proof: the relocated invariant `Rx.PdInv`
(PdProps/C04ReexpB…D: `path i = loc s S`, kept by every statement kind and by `doMove`), resolution on the
finished state up to the relocation (C04ReexpE), and `loc = finalLoc` once every module is processed. -/
theorem resolve_sound_reexport_of (proj : Project) (rank : List Nat) (hro : Rx.ReparentOk) (hsl : Rx.SubLookup proj rank) :
    ResolveSoundReexport proj rank := by
  intro hwf ordPd ordPy hcov m hm cp name a b h1 h2
  obtain ⟨wf, rx⟩ := WFr.facts hwf
  obtain ⟨_, hI, hn, hord⟩ := Rx.run_ok wf rx hro hsl ordPd
  have hproc : ∀ t, t < proj.length → getPs (run proj ordPd) t = .processed := fun t ht => hord t (hcov t ht)
  obtain ⟨S, sv, hcase, hj, hid⟩ := pyDenotes_jI wf h2
  obtain ⟨i, j, hw, hr, hi⟩ := resolveIn_some h1
  obtain ⟨_, _, hpm, _⟩ := hI.mods m hm
  have hF := hI.settled wf rx hn
  obtain ⟨Sj, hSj, oj, hoj, hpj, hkj⟩ :=
    resolve_sound_stateI wf (Rx.ciu_of_shape wf rx) hF (walked_scope wf hF.naming hm hpm hw hcase) hj hr
  rw [Rx.objKind_ident hkj hoj hpj] at hi
  rw [← Option.some.inj hi, ← hid, ← hSj]
  exact Rx.locIdent_final wf (Rx.all_moved hI hproc) hkj.static

/-- **soundness with re-export moves**, the registry obligation discharged (`Rx.reparent_ok`, PdProps/C04ReexpF.lean)
and `Rx.SubLookup` (the implicit submodule lookup of `from <package> import n` enters no module of too high a rank)
still a hypothesis; `resolve_sound_reexport` below discharges that one too (`Rx.subLookup_of`) -/
theorem resolve_sound_reexport_partial (proj : Project) (rank : List Nat) (hsl : Rx.SubLookup proj rank) :
    ResolveSoundReexport proj rank :=
  resolve_sound_reexport_of proj rank Rx.reparent_ok hsl

/-- **soundness with re-export moves**: for every `WFr` project (`WF` with `noReexport` replaced by the
decidable `reexportShape`, plus `pkgFromOk`, `modNamesOk` and `aboveOk`), every processing order that covers every module, every
import order of Python, every scope and every dotted name (inherited attribute steps included): if pydoctor
resolves the name to `a` and Python binds it to `b`, then `a` is `b` relocated to where the re-export documents it.
No hypothesis on the run: it raises nothing (`wfr_run_clean`), `reparent` included (`Rx.reparent_ok`). -/
theorem resolve_sound_reexport (proj : Project) (rank : List Nat) : ResolveSoundReexport proj rank :=
  fun hwf => resolve_sound_reexport_of proj rank Rx.reparent_ok (Rx.subLookup_of hwf) hwf

/-- **order independence with re-export moves**: what a Python-bound name resolves to does not depend on the
order in which the modules are processed -/
theorem resolve_order_independent_reexport (proj : Project) (rank : List Nat) :
    ResolveOrderIndependentReexport proj rank :=
  (resolve_sound_reexport proj rank).order_independent

/-- **a `WFr` project is analysed cleanly**, re-export moves included: no registry exception (none from
`reparent` either), no duplicate, no failed assertion, no fuel exhaustion, whatever the processing order -/
theorem wfr_run_clean (proj : Project) (rank : List Nat) (hwf : WFr proj rank = true) (ord : List Nat) :
    (run proj ord).bad = false := by
  obtain ⟨wf, rx⟩ := WFr.facts hwf
  exact (Rx.run_ok wf rx Rx.reparent_ok (Rx.subLookup_of hwf) ord).1

/-- `p/__init__.py` (empty); `dd.py`: `from p import qq as z` ; `class K`; `qq.py`: `from dd import K` ; `__all__ = ['K']` -/
def exHidden : Project := [
  ⟨[['p']], true, []⟩,
  ⟨[['d','d']], false, [.importFrom 0 [['p']] ['q','q'] (some ['z']), .classDef ['K'] [] []]⟩,
  ⟨[['q','q']], false, [.importFrom 0 [['d','d']] ['K'] none, .allAssign [['K']]]⟩ ]

/-- HISTORICAL (before fix 996ac8b) — the bare-name fallback of `find_object`: `from p import qq` makes pydoctor look
up `p.qq`; the package `p` binds nothing called `qq`, `expandName` handed `qq` back as a free name and the unrelated
root module `qq` (object 2) was found — `getProcessedModule` then processed it while `dd` was still being processed, a
cycle the import statements do not show, and where `K` was documented depended on the processing order (replayed on
real pydoctor by the harness: `order-dependent:find-object-bare-name`).  With the guard the lookup is a `LookupError`. -/
theorem find_object_bare_name_counterexample :
    Names.findObjectOld (envOf (run exHidden [0])) [['p'], ['q','q']] = .obj 2 ∧
    Names.findObject (envOf (run exHidden [0])) [['p'], ['q','q']] = .lookupError := by decide +kernel

/-- the same project with the guard: inside `WFr` (`pkgFromOk` does not have to keep root-module names out of
`from <package> import n`), both runs clean, and `K` is documented in `qq` whatever the order.  (Python cannot import
`dd` at all — `p` has no attribute `qq`.) -/
theorem hidden_cycle_order_independent :
    WFr exHidden [0, 1, 2] = true ∧
    (run exHidden [1, 2, 0]).bad = false ∧ (run exHidden [2, 1, 0]).bad = false ∧
    pdResolve exHidden [1, 2, 0] 1 [] [['K']] = some (.dfn [['q','q'], ['K']]) ∧
    pdResolve exHidden [2, 1, 0] 1 [] [['K']] = some (.dfn [['q','q'], ['K']]) ∧
    (PyImp.run exHidden [0, 1, 2]).err = true := by decide +kernel

/-- `p/__init__.py` (empty); `p/x.py`: `class PX`; `p/sub.py`: `from .x import PX`; `q/__init__.py`: `from p import *` ;
`__all__ = ['sub']`; `q/x.py`: `class PX` -/
def exStarMod : Project := [
  ⟨[['p']], true, []⟩,
  ⟨[['p'], ['x']], false, [.classDef ['P','X'] [] []]⟩,
  ⟨[['p'], ['s','u','b']], false, [.importFrom 1 [['x']] ['P','X'] none]⟩,
  ⟨[['q']], true, [.importStar 0 [['p']], .allAssign [['s','u','b']]]⟩,
  ⟨[['q'], ['x']], false, [.classDef ['P','X'] [] []]⟩ ]

/-- HISTORICAL (before fix ec6815d) — a submodule re-exported through a star import was moved UNPROCESSED: with `p` and
`p.x` processed, the old `_handleReExport` step (`handleReExportOld`) for `sub` in `q` moves module 2 to `q.sub` while its
state is still `unprocessed`, so it was analysed afterwards as `q.sub` and `from .x import PX` was resolved against `q`
(replayed on real pydoctor by the harness: `order-dependent:star-reexport-unprocessed-module`).  `handleReExport`
processes the module first. -/
theorem star_module_reexport_counterexample :
    (handleReExportOld (run exStarMod [0, 1]) 3 [['s','u','b']] ['s','u','b'] ['s','u','b'] 0).2 = true ∧
    getPs (handleReExportOld (run exStarMod [0, 1]) 3 [['s','u','b']] ['s','u','b'] ['s','u','b'] 0).1 2 = .unprocessed ∧
    path (handleReExportOld (run exStarMod [0, 1]) 3 [['s','u','b']] ['s','u','b'] ['s','u','b'] 0).1.reg 2
      = some [['q'], ['s','u','b']] ∧
    (handleReExport (processModule exStarMod 5) (run exStarMod [0, 1]) 3 [['s','u','b']] ['s','u','b'] ['s','u','b'] 0).2 = true ∧
    getPs (handleReExport (processModule exStarMod 5) (run exStarMod [0, 1]) 3 [['s','u','b']] ['s','u','b'] ['s','u','b'] 0).1 2
      = .processed := by decide +kernel

/-- the same project since the fix: `PX` in the moved module is `p.x.PX` whether `p.sub` or `q` is processed first -/
theorem star_module_order_independent :
    (run exStarMod [0, 1, 3, 4, 2]).bad = false ∧ (run exStarMod [0, 1, 2, 3, 4]).bad = false ∧
    path (run exStarMod [0, 1, 3, 4, 2]).reg 2 = some [['q'], ['s','u','b']] ∧
    pdResolve exStarMod [0, 1, 3, 4, 2] 2 [] [['P','X']] = some (.dfn [['p'], ['x'], ['P','X']]) ∧
    pdResolve exStarMod [0, 1, 2, 3, 4] 2 [] [['P','X']] = some (.dfn [['p'], ['x'], ['P','X']]) := by decide +kernel

/-- why the processing order must cover every module ("partial order" = an order that leaves modules out): a
re-exporter that is never processed moves nothing (`dd` alone is processed: `K` stays `dd.K`, while the finished system documents it as `xx.K`) -/
theorem resolve_sound_reexport_partial_order_counterexample :
    WFr (rxProj false false 0).1 [0, 1, 2] = true ∧
    pdResolve (rxProj false false 0).1 [0] 0 [] [['K']] = some (.dfn [['d','d'], ['K']]) ∧
    PyImp.pyDenotes (rxProj false false 0).1 [0, 1, 2] 0 [] [['K']] = some (.dfn [['d','d'], ['K']]) ∧
    finalLoc (rxProj false false 0).1 (.dfn [['d','d'], ['K']]) = .dfn [['x','x'], ['K']] ∧
    pdResolve (rxProj false false 0).1 [0, 1, 2] 0 [] [['K']] = some (.dfn [['x','x'], ['K']]) := by decide +kernel

/-- the theorem applied: a consumer that subclasses the moved class under its old name, the re-exporter being a
package `__init__` that renames the class; `S.g` is inherited from the moved class -/
example (a b : Ident) (h1 : pdResolve (rxProj true true 0).1 [2, 0, 1] 2 [] [['S'], ['g']] = some a)
    (h2 : PyImp.pyDenotes (rxProj true true 0).1 [0, 1, 2] 2 [] [['S'], ['g']] = some b) :
    a = finalLoc (rxProj true true 0).1 b :=
  resolve_sound_reexport (rxProj true true 0).1 (rxProj true true 0).2 (by decide +kernel) [2, 0, 1] [0, 1, 2]
    (by decide +kernel) 2 (by decide +kernel) [] [['S'], ['g']] a b h1 h2
example : pdResolve (rxProj true true 0).1 [2, 0, 1] 2 [] [['S'], ['g']] = some (.dfn [['p'], ['R'], ['g']]) := by decide +kernel
example : PyImp.pyDenotes (rxProj true true 0).1 [0, 1, 2] 2 [] [['S'], ['g']] = some (.dfn [['p'], ['_','m'], ['K'], ['g']]) := by
  decide +kernel
example : finalLoc (rxProj true true 0).1 (.dfn [['p'], ['_','m'], ['K'], ['g']]) = .dfn [['p'], ['R'], ['g']] := by decide +kernel

/-- **bounded check of the statement**: on the 28 projects of `rxFamily`, under EVERY processing order
and two import orders, for every scope and every dotted name of ≤ 3 components: whenever pydoctor
resolves the name and Python binds it, pydoctor's object is the relocated definition site (7 704 cases) -/
theorem reexport_sound_bounded : rxFamilyCheck = (true, 7704) := rxFamilyCheck_eq

end Imports
