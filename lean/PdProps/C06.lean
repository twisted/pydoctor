/-
C06 / C01 — what does not depend on the order in which pydoctor takes things up.

The module scheduler (`PdModel.Schedule`): every schedule drains, every module is entered exactly once, no `assert`
of `processModule` can fail and the fuel of the model is never used up (`noAssert`: these are the `assertFail` events; the
`assert` of `getProcessedModule` — the module it returns is not UNPROCESSED — logs no event and is the second conjunct
of `request_step`), and the state a module ends in depends on its own file alone; in a
project without import cycles every body obtains each module it imports in that final state, so what a body observes
is the same in every order (with a cycle it is not: `cyclic_sees_unfinished`); `driver.main`'s exit status.
The post-processing pass `_inherits_instance_variable_kind` (`PdModel.PostProcess`): the kinds it leaves are the
specified ones in every visiting order.
-/
import PdModel.Schedule
import PdModel.PostProcess
import PdProps.Dict

namespace Schedule

def noAssert (l : List Event) : Prop := ∀ m, Event.assertFail m ∉ l

/-- the state a module ends in; an unparsable file is reported and the module stays PROCESSING -/
def final (mods : List Mod) (k : Nat) : PState :=
  match mods[k]? with
  | some md => if md.parses then .processed else .processing
  | none => .processing

def starts (l : List Event) (m : Nat) : Nat := l.count (Event.start m)

structure Inv (n : Nat) (s : State) : Prop where
  len : s.st.length = n
  nodup : s.unprocessed.Nodup
  iff : ∀ m, (m ∈ s.unprocessed ↔ getSt s m = .unprocessed)
  noassert : noAssert s.log
  /-- ids beyond the table (`n ≤ m`) are in no order and are never started -/
  once : ∀ m, starts s.log m = if m ∈ s.unprocessed then 0 else (if m < n then 1 else 0)

/-! ## the scheduler as recursion on the fuel alone

`pmStep` is one level of `processModule`, with an arbitrary `pm` for the nested calls (in the model: `processModule`
with one unit of fuel less); everything below is proved about `pmStep`, and about the model through
`processModule_succ`. -/

def enter (s : State) (m : Nat) : State :=
  { st := setSt s.st m .processing, unprocessed := s.unprocessed.erase m, log := s.log ++ [.start m] }

def addLog (s : State) (e : Event) : State := { s with log := s.log ++ [e] }

def leave (s : State) (m : Nat) : State :=
  { s with st := setSt s.st m .processed, log := s.log ++ [.finish m] }

/-- `if mod.state is UNPROCESSED: self.processModule(mod)` -/
def ensure (pm : State → Nat → State) (s : State) (p : Nat) : State :=
  if getSt s p = .unprocessed then pm s p else s

/-- the first half of `getProcessedModule(t)`: the packages above `t` -/
def above1 (mods : List Mod) (pm : State → Nat → State) (s : State) (t : Nat) : State :=
  if getSt s t = .unprocessed then (aboveOf mods t).foldl (ensure pm) s else s

/-- `getProcessedModule(t)` -/
def request (mods : List Mod) (pm : State → Nat → State) (s : State) (t : Nat) : State :=
  ensure pm (above1 mods pm s t) t

/-- the import statements of the body of `m`, in order: `getProcessedModule(t)` each -/
def body (mods : List Mod) (pm : State → Nat → State) (m : Nat) (s : State) (ts : List Nat) : State :=
  ts.foldl (fun s t => addLog (request mods pm s t) (.sees m t (getSt (request mods pm s t) t))) s

/-- `processModule(m)`, the nested calls going to `pm` -/
def pmStep (mods : List Mod) (pm : State → Nat → State) (s : State) (m : Nat) : State :=
  if getSt s m ≠ .unprocessed ∨ ¬ s.unprocessed.contains m then addLog s (.assertFail m)
  else
    match mods[m]? with
    | none => enter s m
    | some md =>
      if !md.parses then addLog (enter s m) (.parseError m)
      else leave (body mods pm m (addLog (enter s m) (.visit m)) md.imports) m

section calls
variable {mods : List Mod} {n f : Nat} {s s' s1 s2 : State} {m t : Nat} {pm : State → Nat → State}

theorem body_cons (s : State) (m t : Nat) (ts : List Nat) :
    body mods pm m s (t :: ts) =
      body mods pm m (addLog (request mods pm s t) (.sees m t (getSt (request mods pm s t) t))) ts :=
  List.foldl_cons ..

theorem request_pos (h : getSt s t = .unprocessed) :
    request mods pm s t = ensure pm ((aboveOf mods t).foldl (ensure pm) s) t := by
  rw [request, above1, if_pos h]

theorem request_neg (h : getSt s t ≠ .unprocessed) : request mods pm s t = s := by
  rw [request, above1, if_neg h, ensure, if_neg h]

theorem processAbove_eq (s : State) (ps : List Nat) :
    processAbove mods f s ps = ps.foldl (ensure (processModule mods f)) s := by
  induction ps generalizing s with
  | nil => rw [processAbove]; rfl
  | cons p ps ih => rw [processAbove, ih]; rfl

theorem visitBody_eq (s : State) (m : Nat) (ts : List Nat) :
    visitBody mods f s m ts = body mods (processModule mods f) m s ts := by
  induction ts generalizing s with
  | nil => rw [visitBody]; rfl
  | cons t ts ih => rw [visitBody, ih, processAbove_eq, body_cons]; rfl

theorem processModule_succ (mods : List Mod) (f : Nat) :
    processModule mods (f+1) = pmStep mods (processModule mods f) := by
  funext s m
  rw [processModule]
  simp only [visitBody_eq]
  rfl

theorem getSt_lt (h : Inv n s) (hm : getSt s m = .unprocessed) : m < n := by
  refine Nat.lt_of_not_le fun hle => ?_
  simp [getSt, List.getD_eq_getElem?_getD, List.getElem?_eq_none (h.len ▸ hle)] at hm

theorem getSt_set (s : State) (m k : Nat) (v : PState) (l : List Nat) (lg : List Event) :
    getSt ⟨setSt s.st m v, l, lg⟩ k = if k = m ∧ m < s.st.length then v else getSt s k :=
  Registry.getD_set s.st m k v .processed

theorem getSt_enter (h : Inv n s) (hm : m ∈ s.unprocessed) (k : Nat) :
    getSt (enter s m) k = if k = m then .processing else getSt s k := by
  simp [enter, getSt_set, h.len, getSt_lt h ((h.iff m).mp hm)]

theorem getSt_leave (h : Inv n s) (hmn : m < n) (k : Nat) :
    getSt (leave s m) k = if k = m then .processed else getSt s k := by
  simp [leave, getSt_set, h.len, hmn]

theorem starts_snoc (l : List Event) (e : Event) (k : Nat) :
    starts (l ++ [e]) k = starts l k + if e = .start k then 1 else 0 := by
  simp [starts, List.count_singleton]

theorem noAssert_snoc {l : List Event} {e : Event} (h : noAssert l) (he : ∀ k, e ≠ .assertFail k) :
    noAssert (l ++ [e]) := by
  intro k hk
  rcases List.mem_append.mp hk with hk | hk
  · exact h k hk
  · exact he k (List.mem_singleton.mp hk).symm

theorem inv_enter (h : Inv n s) (hm : m ∈ s.unprocessed) : Inv n (enter s m) := by
  refine ⟨by simp [enter, setSt, h.len], h.nodup.erase m, fun k => ?_, noAssert_snoc h.noassert (by simp), fun k => ?_⟩
  · rw [getSt_enter h hm, enter, h.nodup.mem_erase_iff, h.iff k]
    by_cases hk : k = m <;> simp [hk]
  · refine (starts_snoc s.log _ k).trans ?_
    simp only [h.once k, enter, h.nodup.mem_erase_iff]
    by_cases hk : k = m
    · simp [hk, hm, getSt_lt h ((h.iff m).mp hm)]
    · simp [hk, Ne.symm hk]

theorem inv_addLog (h : Inv n s) {e : Event} (hs : ∀ k, e ≠ .start k) (ha : ∀ k, e ≠ .assertFail k) :
    Inv n (addLog s e) :=
  ⟨h.len, h.nodup, h.iff, noAssert_snoc h.noassert ha,
    fun k => (starts_snoc s.log e k).trans (by rw [if_neg (hs k)]; exact h.once k)⟩

theorem inv_leave (h : Inv n s) (hm : m ∉ s.unprocessed) : Inv n (leave s m) := by
  refine inv_addLog (s := { s with st := setSt s.st m .processed }) (e := .finish m)
    ⟨by simp [setSt, h.len], h.nodup, fun k => ?_, h.noassert, h.once⟩ (by simp) (by simp)
  rw [getSt_set]
  split
  · next hk => simp [hk.1, hm]
  · exact h.iff k

theorem not_mem_enter (h : Inv n s) : m ∉ (enter s m).unprocessed :=
  fun hh => (h.nodup.mem_erase_iff.mp hh).1 rfl

theorem enter_fuel (hm : m ∈ s.unprocessed) (hf : s.unprocessed.length ≤ f + 1) :
    (enter s m).unprocessed.length ≤ f :=
  Nat.le_trans (Nat.le_of_eq (List.length_erase_of_mem hm)) (Nat.sub_le_of_le_add hf)

/-- what every call (of `processModule`, or of one of the loops) guarantees about the state it returns -/
structure Step (mods : List Mod) (n : Nat) (s s' : State) : Prop where
  inv : Inv n s'
  sub : s'.unprocessed.Sublist s.unprocessed
  frame : ∀ k, k ∉ s.unprocessed → getSt s' k = getSt s k
  done : ∀ k, k ∈ s.unprocessed → k ∉ s'.unprocessed → getSt s' k = final mods k

theorem Step.refl (h : Inv n s) : Step mods n s s :=
  ⟨h, List.Sublist.refl _, fun _ _ => rfl, fun _ h1 h2 => absurd h1 h2⟩

theorem Step.not_mem (h : Step mods n s s') {k : Nat} (hk : k ∉ s.unprocessed) : k ∉ s'.unprocessed :=
  fun hh => hk (h.sub.subset hh)

theorem Step.trans (h1 : Step mods n s s1) (h2 : Step mods n s1 s2) : Step mods n s s2 := by
  refine ⟨h2.inv, h2.sub.trans h1.sub, fun k hk => ?_, fun k hk hk2 => ?_⟩
  · rw [h2.frame k (h1.not_mem hk), h1.frame k hk]
  · by_cases hk1 : k ∈ s1.unprocessed
    · exact h2.done k hk1 hk2
    · rw [h2.frame k hk1]; exact h1.done k hk hk1

theorem Step.final_or_frame (h : Step mods n s s') {k : Nat} (hk : k ∉ s'.unprocessed) :
    getSt s' k = final mods k ∨ (k ∉ s.unprocessed ∧ getSt s' k = getSt s k) :=
  if hku : k ∈ s.unprocessed then .inl (h.done k hku hk) else .inr ⟨hku, h.frame k hku⟩

theorem Step.fuel (h : Step mods n s s') (hf : s.unprocessed.length ≤ f) : s'.unprocessed.length ≤ f :=
  Nat.le_trans h.sub.length_le hf

theorem Step.log (h : Step mods n s s') {e : Event} (hs : ∀ k, e ≠ .start k) (ha : ∀ k, e ≠ .assertFail k) :
    Step mods n s (addLog s' e) :=
  ⟨inv_addLog h.inv hs ha, h.sub, h.frame, h.done⟩

theorem Step.of_log {e : Event} (h : Step mods n (addLog s e) s') : Step mods n s s' :=
  ⟨h.inv, h.sub, h.frame, h.done⟩

theorem step_enter (h : Inv n s) (hm : m ∈ s.unprocessed) (hfin : final mods m = .processing) :
    Step mods n s (enter s m) := by
  refine ⟨inv_enter h hm, List.erase_sublist .., fun k hk => ?_, fun k hk hk1 => ?_⟩
  · rw [getSt_enter h hm, if_neg fun e : k = m => hk (e ▸ hm)]
  · by_cases hkm : k = m
    · rw [getSt_enter h hm, if_pos hkm, hkm, hfin]
    · exact absurd (h.nodup.mem_erase_iff.mpr ⟨hkm, hk⟩) hk1

theorem step_leave (h : Inv n s) (hm : m ∈ s.unprocessed) (hfin : final mods m = .processed)
    (hvs : Step mods n (enter s m) s2) : Step mods n s (leave s2 m) ∧ m ∉ s2.unprocessed := by
  have hmn := getSt_lt h ((h.iff m).mp hm)
  have hm2 := hvs.not_mem (not_mem_enter h)
  have hsub : (enter s m).unprocessed.Sublist s.unprocessed := List.erase_sublist ..
  refine ⟨⟨inv_leave hvs.inv hm2, hvs.sub.trans hsub, fun k hk => ?_, fun k hk hk2 => ?_⟩, hm2⟩
  · have hkm : k ≠ m := fun e => hk (e ▸ hm)
    rw [getSt_leave hvs.inv hmn, if_neg hkm, hvs.frame k fun hh => hk (hsub.subset hh), getSt_enter h hm, if_neg hkm]
  · rw [getSt_leave hvs.inv hmn]
    split
    · next e => rw [e, hfin]
    · next hkm => exact hvs.done k (h.nodup.mem_erase_iff.mpr ⟨hkm, hk⟩) hk2

/-- the contract of `processModule` while at most `f` modules are UNPROCESSED -/
def PMspec (mods : List Mod) (n : Nat) (pm : State → Nat → State) (f : Nat) : Prop :=
  ∀ s m, Inv n s → m ∈ s.unprocessed → s.unprocessed.length ≤ f → Step mods n s (pm s m) ∧ m ∉ (pm s m).unprocessed

section loops
variable (hpm : PMspec mods n pm f)
include hpm

theorem ensure_step (h : Inv n s) (hf : s.unprocessed.length ≤ f) (p : Nat) :
    Step mods n s (ensure pm s p) ∧ p ∉ (ensure pm s p).unprocessed := by
  unfold ensure
  split
  · next hp => exact hpm s p h ((h.iff p).mpr hp) hf
  · next hp => exact ⟨Step.refl h, fun hh => hp ((h.iff p).mp hh)⟩

theorem above_step (ps : List Nat) (h : Inv n s) (hf : s.unprocessed.length ≤ f) :
    Step mods n s (ps.foldl (ensure pm) s) ∧ ∀ p ∈ ps, p ∉ (ps.foldl (ensure pm) s).unprocessed := by
  induction ps generalizing s with
  | nil => exact ⟨Step.refl h, nofun⟩
  | cons p ps ih =>
    obtain ⟨h1, hp⟩ := ensure_step hpm h hf p
    obtain ⟨h2, hn⟩ := ih h1.inv (h1.fuel hf)
    exact ⟨h1.trans h2, List.forall_mem_cons.mpr ⟨h2.not_mem hp, hn⟩⟩

/-- the second conjunct: the `assert mod.state in (PROCESSING, PROCESSED)` of `getProcessedModule` -/
theorem request_step (h : Inv n s) (hf : s.unprocessed.length ≤ f) (t : Nat) :
    Step mods n s (request mods pm s t) ∧ t ∉ (request mods pm s t).unprocessed := by
  by_cases hu : getSt s t = .unprocessed
  · have h0 := (above_step hpm (aboveOf mods t) h hf).1
    have h1 := ensure_step hpm h0.inv (h0.fuel hf) t
    rw [request_pos hu]
    exact ⟨h0.trans h1.1, h1.2⟩
  · rw [request_neg hu]
    exact ⟨Step.refl h, fun hh => hu ((h.iff t).mp hh)⟩

theorem body_step (m : Nat) (ts : List Nat) (h : Inv n s) (hf : s.unprocessed.length ≤ f) :
    Step mods n s (body mods pm m s ts) := by
  induction ts generalizing s with
  | nil => exact Step.refl h
  | cons t ts ih =>
    have h1 := (request_step hpm h hf t).1.log (e := .sees m t (getSt (request mods pm s t) t)) (by simp) (by simp)
    rw [body_cons]
    exact h1.trans (ih h1.inv (h1.fuel hf))

theorem pm_succ : PMspec mods n (pmStep mods pm) (f+1) := by
  intro s m h hm hf
  fun_cases pmStep mods pm s m
  case case1 hg => exact absurd hg (by simp [(h.iff m).mp hm, hm])
  case case2 hmd => exact ⟨step_enter h hm (by simp [final, hmd]), not_mem_enter h⟩
  case case3 md hmd hp =>
    exact ⟨(step_enter h hm (by simpa [final, hmd] using hp)).log (by simp) (by simp), not_mem_enter h⟩
  case case4 md hmd hp =>
    have h1 := inv_addLog (inv_enter h hm) (e := .visit m) (by simp) (by simp)
    exact step_leave h hm (by simpa [final, hmd] using hp) (body_step hpm m md.imports h1 (enter_fuel hm hf)).of_log

end loops

theorem pm_all (mods : List Mod) (n f : Nat) : PMspec mods n (processModule mods f) f := by
  induction f with
  | zero => exact fun s m _ hm hf => absurd (List.length_pos_of_mem hm) (by omega)
  | succ f ih => exact processModule_succ mods f ▸ pm_succ ih

/-- `hf`: the fuel of the loop itself; `hb`: the fuel the loop hands to every `processModule` -/
theorem process_spec (mods : List Mod) (f : Nat) (h : Inv n s) (hf : s.unprocessed.length ≤ f)
    (hb : s.unprocessed.length ≤ mods.length + 1) :
    Step mods n s (process mods f s) ∧ (process mods f s).unprocessed = [] := by
  fun_induction process mods f s
  case case1 => exact ⟨Step.refl h, List.eq_nil_of_length_eq_zero (Nat.le_zero.mp hf)⟩
  case case2 hu => exact ⟨Step.refl h, hu⟩
  case case3 f s m rest hu ih =>
    have hm : m ∈ s.unprocessed := hu ▸ List.mem_cons_self
    obtain ⟨h1, hm1⟩ := pm_all mods n _ s m h hm hb
    have hlt := Nat.lt_of_le_of_ne h1.sub.length_le fun e => hm1 (h1.sub.eq_of_length e ▸ hm)
    obtain ⟨h2, hd⟩ := ih h1.inv (Nat.le_of_lt_succ (Nat.lt_of_lt_of_le hlt hf)) (h1.fuel hb)
    exact ⟨h1.trans h2, hd⟩

end calls

theorem getSt_init (n : Nat) (order : List Nat) (m : Nat) :
    getSt (initState n order) m = if m < n then .unprocessed else .processed := by
  simp only [getSt, initState, List.getD_eq_getElem?_getD, List.getElem?_replicate]
  split <;> rfl

theorem inv_init (n : Nat) (order : List Nat) (hperm : order.Perm (List.range n)) :
    Inv n (initState n order) := by
  have hmem : ∀ m, m ∈ order ↔ m < n := fun m => by rw [hperm.mem_iff, List.mem_range]
  refine ⟨List.length_replicate .., hperm.nodup_iff.mpr List.nodup_range, fun m => ?_, nofun, fun m => ?_⟩
  · show m ∈ order ↔ _
    by_cases hm : m < n <;> simp [getSt_init, hmem, hm]
  · show starts [] m = if m ∈ order then 0 else _
    by_cases hm : m < n <;> simp [starts, hmem, hm]

/-- C01, C06: for every project (any import graph, cycles included, any set of unparsable files) and every initial
order of `unprocessed_modules`, `process` ends with nothing left to process, no failed `assert` of `processModule` and
fuel to spare (`noAssert`), every module entered exactly once, every parsable module PROCESSED and every unparsable one left PROCESSING. -/
theorem process_terminates_drains (mods : List Mod) (order : List Nat)
    (hperm : order.Perm (List.range mods.length)) :
    (run mods order).unprocessed = [] ∧ noAssert (run mods order).log ∧
    (∀ m, m < mods.length → starts (run mods order).log m = 1) ∧
    (∀ m, m < mods.length → getSt (run mods order) m = final mods m) := by
  have hle : order.length ≤ mods.length + 1 := by rw [hperm.length_eq, List.length_range]; omega
  obtain ⟨hs, hd⟩ := process_spec mods (mods.length + 1) (inv_init _ order hperm) hle hle
  refine ⟨hd, hs.inv.noassert, fun m hm => ?_, fun m hm => hs.done m ?_ (hd ▸ List.not_mem_nil)⟩
  · simpa [run, hd, hm] using hs.inv.once m
  · exact hperm.mem_iff.mpr (List.mem_range.mpr hm)

/-- C06: the processing state every module ends in is the same for every two schedules. -/
theorem state_order_independent (mods : List Mod) (o1 o2 : List Nat)
    (h1 : o1.Perm (List.range mods.length)) (h2 : o2.Perm (List.range mods.length)) (m : Nat)
    (hm : m < mods.length) : getSt (run mods o1) m = getSt (run mods o2) m := by
  rw [(process_terminates_drains mods o1 h1).2.2.2 m hm, (process_terminates_drains mods o2 h2).2.2.2 m hm]

/-- C01: whether a module ends PROCESSED depends only on whether its own file parses, never on the other files. -/
theorem one_bad_file (mods : List Mod) (order : List Nat) (hperm : order.Perm (List.range mods.length))
    (m : Nat) (md : Mod) (hm : mods[m]? = some md) :
    getSt (run mods order) m = if md.parses then .processed else .processing := by
  rw [(process_terminates_drains mods order hperm).2.2.2 m (List.getElem?_eq_some_iff.mp hm).1]
  simp [final, hm]

/-- the exit status of `driver.main` is one of the documented values -/
theorem exit_status_range (w : Bool) (v p : Nat) :
    exitStatus w v p = 0 ∨ exitStatus w v p = 2 ∨ exitStatus w v p = 3 := by
  unfold exitStatus
  split
  · simp
  · split <;> simp

theorem exit_status_three_iff (w : Bool) (v p : Nat) :
    exitStatus w v p = 3 ↔ (w = true ∧ 0 < v) := by
  unfold exitStatus
  simp only [Bool.and_eq_true, decide_eq_true_eq, gt_iff_lt]
  split
  · next h => exact iff_of_true rfl h
  · next h => exact iff_of_false (by split <;> decide) h

theorem exit_status_two_iff (v p : Nat) : exitStatus false v p = 2 ↔ 0 < p := by
  simp [exitStatus, Nat.pos_iff_ne_zero]

/-! non-vacuity: a three-module project with a cycle and an unparsable file -/
def exMods : List Mod := [⟨true, [1], []⟩, ⟨true, [2, 0], []⟩, ⟨false, [], []⟩]
example : [2, 0, 1].Perm (List.range exMods.length) := by decide
example : (run exMods [2, 0, 1]).unprocessed = [] :=
  (process_terminates_drains exMods [2, 0, 1] (by decide)).1

/-! ## running the model

The mutual recursion of the model is compiled by well-founded recursion, which the kernel cannot run; `runF` is the
same scheduler by recursion on the fuel alone, which it can. -/

def processModuleF (mods : List Mod) : Nat → State → Nat → State
  | 0, s, m => addLog s (.assertFail m)
  | f+1, s, m => pmStep mods (processModuleF mods f) s m

def processF (mods : List Mod) : Nat → State → State
  | 0, s => s
  | f+1, s =>
    match s.unprocessed with
    | [] => s
    | m :: _ => processF mods f (processModuleF mods (mods.length + 1) s m)

def runF (mods : List Mod) (order : List Nat) : State :=
  processF mods (mods.length + 1) (initState mods.length order)

theorem processModule_eq_F (mods : List Mod) (f : Nat) : processModule mods f = processModuleF mods f := by
  induction f with
  | zero => funext s m; rw [processModule]; rfl
  | succ f ih => rw [processModule_succ, ih]; rfl

theorem process_eq_F (mods : List Mod) (f : Nat) (s : State) : process mods f s = processF mods f s := by
  induction f generalizing s with
  | zero => rfl
  | succ f ih =>
    rw [process, processF, processModule_eq_F]
    cases s.unprocessed with
    | nil => rfl
    | cons m _ => exact ih _

theorem run_eq_F (mods : List Mod) (order : List Nat) : run mods order = runF mods order :=
  process_eq_F ..

/-! ## acyclic projects: every import observes its target in its final state, in every order

Since 0ba6723 a request for module `t` first processes the UNPROCESSED packages above `t`, so the import graph has,
besides the edges `m → t` for the modules a body asks for, the IMPLICIT edges `m → p` for every package `p` above such
a `t`.  Requests for the importer's OWN packages (`from . import util` in `pkg/core.py` asks for `pkg`; every sibling
it asks for has `pkg` above it) are no edge of the graph: when the body of `m` runs, the packages above `m` have been
entered already and are returned as they are — PROCESSING when `m` was asked for from inside the package's own
`__init__`. -/

def own (mods : List Mod) (m t : Nat) : Prop := t = m ∨ t ∈ aboveOf mods m

instance (mods : List Mod) (m t : Nat) : Decidable (own mods m t) := by unfold own; exact inferInstance

/-- the `above` lists are the parent chains of a tree -/
def TreeOK (mods : List Mod) : Prop :=
  ∀ t l1 p l2, aboveOf mods t = l1 ++ p :: l2 → aboveOf mods p = l1

/-- "packages first", the reachable orders: no module occurs before a package above it (the builder adds a package before everything
below it) -/
def PF (mods : List Mod) : List Nat → Prop
  | [] => True
  | m :: l => (∀ p ∈ aboveOf mods m, p ∉ m :: l) ∧ PF mods l

/-- the import graph (implicit edges included, requests for own packages apart) is acyclic — `r` ranks every module
above the modules it makes pydoctor enter — and only names known modules -/
structure Ranked (mods : List Mod) (r : Nat → Nat) : Prop where
  lt : ∀ (m : Nat) (md : Mod) (t : Nat), mods[m]? = some md → t ∈ md.imports → ¬ own mods m t → r t < r m
  ltAbove : ∀ (m : Nat) (md : Mod) (t p : Nat), mods[m]? = some md → t ∈ md.imports → ¬ own mods m t →
    p ∈ aboveOf mods t → ¬ own mods m p → r p < r m
  known : ∀ (m : Nat) (md : Mod) (t : Nat), mods[m]? = some md → t ∈ md.imports → t < mods.length

def SeesFinal (mods : List Mod) (l : List Event) : Prop :=
  ∀ m t st, Event.sees m t st ∈ l → ¬ own mods m t → st = final mods t

/-- requests for `m`'s own packages are left out: what those return (the package PROCESSING or PROCESSED) is not
claimed to be the same in every order -/
def seesOf (mods : List Mod) (m : Nat) (l : List Event) : List Event :=
  l.filter fun e => match e with | .sees a t _ => a == m && !decide (own mods m t) | _ => false

/-- the specification of what the body of `m` observes -/
def view (mods : List Mod) (m : Nat) : List Event :=
  match mods[m]? with
  | some md =>
    if md.parses then (md.imports.filter fun t => !decide (own mods m t)).map (fun t => Event.sees m t (final mods t))
    else []
  | none => []

section acyclic
variable {mods : List Mod} {r : Nat → Nat} {n f : Nat} {s s' s1 s2 : State} {m k t : Nat} {pm : State → Nat → State}

theorem PF_sublist {l' l : List Nat} (hs : l'.Sublist l) (h : PF mods l) : PF mods l' := by
  induction hs with
  | slnil => exact h
  | cons a _ ih => exact ih h.2
  | cons_cons a hs' ih =>
    exact ⟨fun p hp hmem => h.1 p hp ((List.Sublist.cons_cons a hs').subset hmem), ih h.2⟩

def Below (mods : List Mod) (r : Nat → Nat) (m t : Nat) : Prop :=
  t < mods.length ∧ (¬ own mods m t → r t < r m ∧ ∀ p ∈ aboveOf mods t, ¬ own mods m p → r p < r m)

instance : Decidable (Below mods r m t) := by unfold Below; exact inferInstance

theorem ranked_iff_below : Ranked mods r ↔ ∀ m (h : m < mods.length), ∀ t ∈ mods[m].imports, Below mods r m t := by
  constructor
  · intro hr m h t ht
    have hm := List.getElem?_eq_getElem h
    exact ⟨hr.known m _ t hm ht, fun ho => ⟨hr.lt m _ t hm ht ho, fun p hp => hr.ltAbove m _ t p hm ht ho hp⟩⟩
  · intro h
    have h' : ∀ m md t, mods[m]? = some md → t ∈ md.imports → Below mods r m t := fun m md t hm => by
      obtain ⟨hlt, rfl⟩ := List.getElem?_eq_some_iff.mp hm
      exact h m hlt t
    exact ⟨fun m md t hm ht ho => ((h' m md t hm ht).2 ho).1,
      fun m md t p hm ht ho => ((h' m md t hm ht).2 ho).2 p, fun m md t hm ht => (h' m md t hm ht).1⟩

/-- the invariant under which an acyclic project calls `processModule(m)` or walks the body of `m`: the packages above
`m` have been entered, and every module that has been entered is in its final state unless it is on the call stack:
then it is `m` itself or ranks above `m` -/
structure Ctx (mods : List Mod) (r : Nat → Nat) (s : State) (m : Nat) : Prop where
  inv : Inv mods.length s
  above : ∀ q ∈ aboveOf mods m, q ∉ s.unprocessed
  rest : ∀ k, k < mods.length → k ∉ s.unprocessed → getSt s k = final mods k ∨ k = m ∨ r m < r k

theorem Ctx.step (c : Ctx mods r s m) (h : Step mods mods.length s s') : Ctx mods r s' m :=
  ⟨h.inv, fun q hq => h.not_mem (c.above q hq), fun k hkn hk =>
    (h.final_or_frame hk).elim .inl fun ⟨hku, e⟩ => e ▸ c.rest k hkn hku⟩

theorem Ctx.not_own (c : Ctx mods r s m) (hm : m ∉ s.unprocessed) {p : Nat} (hp : p ∈ s.unprocessed) :
    ¬ own mods m p :=
  fun ho => ho.elim (fun e => hm (e ▸ hp)) (fun e => c.above p e hp)

theorem Ctx.call (c : Ctx mods r s m) {p : Nat} (hr : r p < r m) (hab : ∀ q ∈ aboveOf mods p, q ∉ s.unprocessed) :
    Ctx mods r s p :=
  ⟨c.inv, hab, fun k hkn hk => (c.rest k hkn hk).imp_right fun h => .inr (h.elim (· ▸ hr) (Nat.lt_trans hr))⟩

theorem Ctx.final_of_lt (c : Ctx mods r s m) (htn : t < mods.length) (ht : t ∉ s.unprocessed) (hr : r t < r m) :
    getSt s t = final mods t :=
  (c.rest t htn ht).resolve_right fun h =>
    h.elim (fun e => Nat.lt_irrefl _ (e ▸ hr)) fun e => Nat.lt_irrefl _ (Nat.lt_trans hr e)

theorem Ctx.body (c : Ctx mods r s k) (hk : k ∈ s.unprocessed) : Ctx mods r (addLog (enter s k) (.visit k)) k := by
  refine ⟨inv_addLog (inv_enter c.inv hk) (by simp) (by simp),
    fun q hq hh => c.above q hq ((List.erase_sublist ..).subset hh), fun j hjn hj => ?_⟩
  by_cases hjk : j = k
  · exact .inr (.inl hjk)
  · have hj' : j ∉ s.unprocessed := fun hh => hj (c.inv.nodup.mem_erase_iff.mpr ⟨hjk, hh⟩)
    exact (getSt_enter c.inv hk j).trans (if_neg hjk) ▸ c.rest j hjn hj'

theorem seesOf_snoc (m : Nat) (l : List Event) {e : Event} (he : ∀ a t st, e ≠ .sees a t st) :
    seesOf mods m (l ++ [e]) = seesOf mods m l := by
  rw [seesOf, List.filter_append]
  cases e with
  | sees a t st => exact absurd rfl (he a t st)
  | _ => exact List.append_nil _

theorem seesOf_enter (m : Nat) (s : State) (k : Nat) : seesOf mods m (enter s k).log = seesOf mods m s.log :=
  seesOf_snoc m _ (by simp)

theorem seesOf_leave (m : Nat) (s : State) (k : Nat) : seesOf mods m (leave s k).log = seesOf mods m s.log :=
  seesOf_snoc m _ (by simp)

theorem seesOf_quiet (m : Nat) (s : State) {e : Event} (he : ∀ a t st, e ≠ .sees a t st) :
    seesOf mods m (addLog s e).log = seesOf mods m s.log :=
  seesOf_snoc m _ he

theorem seesOf_addLog (m : Nat) (s : State) (e : Event) :
    seesOf mods m (addLog s e).log = seesOf mods m s.log ++ seesOf mods m [e] :=
  List.filter_append ..

theorem seesOf_sees (m a t : Nat) (st : PState) :
    seesOf mods m [Event.sees a t st] = if a = m ∧ ¬ own mods m t then [Event.sees a t st] else [] := by
  rw [seesOf, List.filter_cons]
  simp

/-- what one call adds to the `sees` events of `m`: the whole view of `m` if the call analysed `m`, else nothing -/
def contrib (mods : List Mod) (m : Nat) (s s' : State) : List Event :=
  if m ∈ s.unprocessed ∧ m ∉ s'.unprocessed then view mods m else []

theorem contrib_trans (m : Nat) (h1 : s1.unprocessed.Sublist s.unprocessed) (h2 : s2.unprocessed.Sublist s1.unprocessed) :
    contrib mods m s s1 ++ contrib mods m s1 s2 = contrib mods m s s2 := by
  simp only [contrib]
  by_cases a : m ∈ s.unprocessed
  · by_cases b : m ∈ s1.unprocessed
    · by_cases c : m ∈ s2.unprocessed <;> simp [a, b, c]
    · have c : m ∉ s2.unprocessed := fun hh => b (h2.subset hh)
      simp [a, b, c]
  · have b : m ∉ s1.unprocessed := fun hh => a (h1.subset hh)
    simp [a, b]

/-- for `rw`: left to the unifier, `addLog s e` against `s` is first compared as states, which is slow to fail -/
theorem contrib_addLog (m : Nat) (s s' : State) (e : Event) : contrib mods m (addLog s e) s' = contrib mods m s s' :=
  rfl

/-- from the body of `k` to the call that entered `k`: what `k` observed is its contribution -/
theorem contrib_enter (h : Inv n s) (hk : k ∈ s.unprocessed) (hk1 : k ∉ s'.unprocessed) (m : Nat) :
    (if m = k then view mods k else contrib mods m (enter s k) s') = contrib mods m s s' := by
  by_cases hm : m = k
  · simp [contrib, hm, hk, hk1]
  · simp [contrib, hm, enter, h.nodup.mem_erase_iff]

structure VStep (mods : List Mod) (s s' : State) : Prop extends Step mods mods.length s s' where
  sees : ∀ m, seesOf mods m s'.log = seesOf mods m s.log ++ contrib mods m s s'

theorem VStep.refl (h : Inv mods.length s) : VStep mods s s :=
  ⟨Step.refl h, fun m => by simp [contrib]⟩

theorem VStep.trans (h1 : VStep mods s s1) (h2 : VStep mods s1 s2) : VStep mods s s2 :=
  ⟨h1.toStep.trans h2.toStep, fun m => by
    rw [h2.sees, h1.sees, List.append_assoc, contrib_trans m h1.sub h2.sub]⟩

def bodyView (mods : List Mod) (m : Nat) (ts : List Nat) : List Event :=
  (ts.filter fun t => !decide (own mods m t)).map fun t => Event.sees m t (final mods t)

def PMview (mods : List Mod) (r : Nat → Nat) (pm : State → Nat → State) (f : Nat) : Prop :=
  ∀ s k, Ctx mods r s k → k ∈ s.unprocessed → s.unprocessed.length ≤ f → VStep mods s (pm s k)

section loops
variable (htree : TreeOK mods) (hpm : PMspec mods mods.length pm f) (hv : PMview mods r pm f)
include hv

theorem ensure_view (h : Inv mods.length s) (hf : s.unprocessed.length ≤ f) {p : Nat}
    (c : p ∈ s.unprocessed → Ctx mods r s p) : VStep mods s (ensure pm s p) := by
  unfold ensure
  split
  · next hp => exact hv s p (c ((h.iff p).mpr hp)) ((h.iff p).mpr hp) hf
  · exact VStep.refl h

include htree hpm

/-- `done`: the packages above `t` that the loop has passed already -/
theorem above_view (ps done : List Nat) (hab : aboveOf mods t = done ++ ps) (c : Ctx mods r s m)
    (hm : m ∉ s.unprocessed) (hf : s.unprocessed.length ≤ f) (hdone : ∀ q ∈ done, q ∉ s.unprocessed)
    (hps : ∀ p ∈ ps, ¬ own mods m p → r p < r m) : VStep mods s (ps.foldl (ensure pm) s) := by
  induction ps generalizing done s with
  | nil => exact VStep.refl c.inv
  | cons p ps ih =>
    have v : VStep mods s (ensure pm s p) := ensure_view hv c.inv hf fun hp =>
      c.call (hps p List.mem_cons_self (c.not_own hm hp)) (htree t done p ps hab ▸ hdone)
    refine v.trans (ih (done ++ [p]) (by simp [hab]) (c.step v.toStep) (v.not_mem hm) (v.fuel hf)
      (fun q hq => ?_) fun q hq => hps q (List.mem_cons_of_mem _ hq))
    rcases List.mem_append.mp hq with e | e
    · exact v.not_mem (hdone q e)
    · rw [List.mem_singleton.mp e]
      exact (ensure_step hpm c.inv hf p).2

theorem request_view (c : Ctx mods r s m) (hm : m ∉ s.unprocessed) (hf : s.unprocessed.length ≤ f)
    (ht : Below mods r m t) : VStep mods s (request mods pm s t) := by
  by_cases hu : getSt s t = .unprocessed
  · obtain ⟨hrt, hrab⟩ := ht.2 (c.not_own hm ((c.inv.iff t).mpr hu))
    have v := above_view htree hpm hv (aboveOf mods t) [] rfl c hm hf nofun hrab
    rw [request_pos hu]
    exact v.trans (ensure_view hv v.inv (v.fuel hf) fun _ =>
      (c.step v.toStep).call hrt (above_step hpm _ c.inv hf).2)
  · rw [request_neg hu]
    exact VStep.refl c.inv

omit htree hv in
theorem request_final (c : Ctx mods r s m) (hf : s.unprocessed.length ≤ f) (ht : Below mods r m t)
    (ho : ¬ own mods m t) : getSt (request mods pm s t) t = final mods t := by
  obtain ⟨hs, ht'⟩ := request_step hpm c.inv hf t
  by_cases hu : t ∈ s.unprocessed
  · exact hs.done t hu ht'
  · rw [hs.frame t hu]; exact c.final_of_lt ht.1 hu (ht.2 ho).1

theorem body_view (ts : List Nat) (c : Ctx mods r s k) (hk : k ∉ s.unprocessed) (hf : s.unprocessed.length ≤ f)
    (hts : ∀ t ∈ ts, Below mods r k t) (m : Nat) :
    seesOf mods m (body mods pm k s ts).log = seesOf mods m s.log ++
      if m = k then bodyView mods k ts else contrib mods m s (body mods pm k s ts) := by
  induction ts generalizing s with
  | nil =>
    show seesOf mods m s.log = _ ++ if m = k then bodyView mods k [] else contrib mods m s s
    split <;> simp [bodyView, contrib]
  | cons t ts ih =>
    have ht := hts t List.mem_cons_self
    have v := request_view htree hpm hv c hk hf ht
    have h1 := v.toStep.log (e := .sees k t (getSt (request mods pm s t) t)) (by simp) (by simp)
    have h2 := body_step hpm k ts h1.inv (h1.fuel hf)
    rw [body_cons, ih (c.step h1) (h1.not_mem hk) (h1.fuel hf)
      fun u hu => hts u (List.mem_cons_of_mem _ hu), seesOf_addLog, v.sees m, seesOf_sees, contrib_addLog]
    by_cases hm : m = k
    · subst hm
      by_cases ho : own mods m t
      · simp [contrib, hk, bodyView, ho]
      · simp [contrib, hk, bodyView, ho, request_final hpm c hf ht ho]
    · simp only [hm, Ne.symm hm, false_and, if_false, List.append_nil, List.append_assoc]
      exact congrArg (seesOf mods m s.log ++ ·) (contrib_trans m v.sub h2.of_log.sub)

/-- around the body the log only grows by events that are no `sees`; what the body of `k` observed is the view of `k` -/
theorem pm_view_succ (hr : Ranked mods r) : PMview mods r (pmStep mods pm) (f+1) := by
  intro s k c hk hf
  obtain ⟨hs, hk1⟩ := pm_succ hpm s k c.inv hk hf
  refine ⟨hs, fun m => ?_⟩
  rw [← contrib_enter c.inv hk hk1]
  fun_cases pmStep mods pm s k
  case case1 hg => exact absurd hg (by simp [(c.inv.iff k).mp hk, hk])
  case case2 hmd =>
    rw [seesOf_enter]
    simp [view, hmd, contrib]
  case case3 md hmd hp =>
    have hp : md.parses = false := by simpa using hp
    rw [seesOf_quiet m _ (by simp), seesOf_enter]
    simp [view, hmd, hp, contrib, addLog]
  case case4 md hmd hp =>
    have hb := body_view htree hpm hv md.imports (c.body hk) (not_mem_enter c.inv) (enter_fuel hk hf)
      ((List.getElem?_eq_some_iff.mp hmd).2 ▸ ranked_iff_below.mp hr k _) m
    generalize body mods pm k _ md.imports = s2 at hb
    have hp : md.parses = true := by simpa using hp
    rw [seesOf_leave, hb, seesOf_quiet m _ (by simp), seesOf_enter, view, hmd]
    simp only [hp, if_true]
    rfl

end loops
end acyclic

section
variable {mods : List Mod} {r : Nat → Nat} (htree : TreeOK mods) (hr : Ranked mods r)
include htree hr

theorem pm_view_all (f : Nat) : PMview mods r (processModule mods f) f := by
  induction f with
  | zero => exact fun s k _ hk hf => absurd (List.length_pos_of_mem hk) (by omega)
  | succ f ih => exact processModule_succ mods f ▸ pm_view_succ htree (pm_all mods _ f) ih hr

/-- the top-level loop: no module is being analysed, so every module that has been entered is in its final state -/
theorem process_view (f : Nat) {s : State} (h : Inv mods.length s) (hb : s.unprocessed.length ≤ mods.length + 1)
    (hpf : PF mods s.unprocessed) (hfin : ∀ k, k < mods.length → k ∉ s.unprocessed → getSt s k = final mods k) :
    VStep mods s (process mods f s) := by
  fun_induction process mods f s
  case case1 | case2 => exact VStep.refl h
  case case3 f s m rest hu ih =>
    rw [hu] at hpf
    have v := pm_view_all htree hr _ s m
      ⟨h, fun q hq hh => hpf.1 q hq (hu ▸ hh), fun k hkn hk => .inl (hfin k hkn hk)⟩ (hu ▸ List.mem_cons_self) hb
    exact v.trans (ih v.inv (v.fuel hb) (PF_sublist (hu ▸ v.sub) hpf) fun k hkn hk =>
      (v.final_or_frame hk).elim id fun ⟨hku, e⟩ => e.trans (hfin k hkn hku))

theorem seesOf_run {order : List Nat} (hperm : order.Perm (List.range mods.length)) (hpf : PF mods order) (m : Nat) :
    seesOf mods m (run mods order).log = view mods m := by
  have hd := (process_terminates_drains mods order hperm).1
  have v := process_view htree hr (mods.length + 1) (inv_init _ order hperm)
    (by show order.length ≤ _; rw [hperm.length_eq, List.length_range]; omega)
    hpf (fun k hk hu => absurd (hperm.mem_iff.mpr (List.mem_range.mpr hk)) hu)
  rw [run] at hd ⊢
  rw [v.sees m, contrib, hd]
  show [] ++ (if m ∈ order ∧ m ∉ [] then view mods m else []) = view mods m
  split
  · rfl
  · next hm =>
    have hge : mods.length ≤ m := Nat.le_of_not_lt fun h =>
      hm ⟨hperm.mem_iff.mpr (List.mem_range.mpr h), List.not_mem_nil⟩
    rw [view, List.getElem?_eq_none hge]
    rfl

end

/-- C06: in a project whose import graph is acyclic (`Ranked`), whatever the reachable order (`PF`) in which the
modules are taken up, every import statement obtains its target module in the state that module ENDS in — fully
analysed (PROCESSED), or reported as unparsable. No module body ever looks into a half-analysed module other than its
own packages, which is why what it computes from its imports cannot depend on the order. (With an import cycle this
is false: `cyclic_sees_unfinished`.) -/
theorem acyclic_sees_final (mods : List Mod) (htree : TreeOK mods) (r : Nat → Nat) (hr : Ranked mods r)
    (order : List Nat) (hperm : order.Perm (List.range mods.length)) (hpf : PF mods order) :
    SeesFinal mods (run mods order).log := by
  intro m t st hmem hno
  have : Event.sees m t st ∈ seesOf mods m (run mods order).log := List.mem_filter.mpr ⟨hmem, by simp [hno]⟩
  rw [seesOf_run htree hr hperm hpf, view] at this
  split at this
  · split at this
    · obtain ⟨t', _, e⟩ := List.mem_map.mp this
      cases e; rfl
    · cases this
  · cases this

/-- projects without packages (`above = []` everywhere, the scheduler before 0ba6723): the tree and reachability
hypotheses hold trivially, and `own m t` is `t = m` -/
theorem treeOK_of_flat {mods : List Mod} (h : ∀ t, aboveOf mods t = []) : TreeOK mods := by
  intro t l1 p l2 hh
  rw [h t] at hh
  simp at hh

theorem pf_of_flat {mods : List Mod} (h : ∀ t, aboveOf mods t = []) : ∀ l, PF mods l
  | [] => trivial
  | m :: l => ⟨(by intro p hp; rw [h m] at hp; cases hp), pf_of_flat h l⟩

/-- non-vacuity (no packages): an acyclic three-module project with an unparsable file -/
def exAcyclic : List Mod := [⟨true, [1, 2], []⟩, ⟨true, [2], []⟩, ⟨false, [], []⟩]
def exRank : Nat → Nat := fun m => 3 - m
theorem exAcyclic_flat : ∀ t, aboveOf exAcyclic t = []
  | 0 => rfl | 1 => rfl | 2 => rfl | _+3 => rfl
theorem exAcyclic_ranked : Ranked exAcyclic exRank := ranked_iff_below.mpr (by decide +kernel)
example : SeesFinal exAcyclic (run exAcyclic [1, 0, 2]).log :=
  acyclic_sees_final exAcyclic (treeOK_of_flat exAcyclic_flat) exRank exAcyclic_ranked [1, 0, 2] (by decide)
    (pf_of_flat exAcyclic_flat _)
example : Event.sees 0 2 .processing ∈ (run exAcyclic [1, 0, 2]).log := by
  rw [run_eq_F]; decide +kernel

/-- non-vacuity (a package): hunt/C06/3 — 0 = app.py (`from pkg.core import Base`), 1 = pkg/__init__.py
(`from .core import Base`), 2 = pkg/core.py (`from . import util`: asks for `pkg`, then for `pkg.util`),
3 = pkg/util.py (does not parse).  `pkg ↔ pkg.core` is no cycle of the graph: the request `2 → 1` is for an own
package, and the implicit request `1 → 1` (pkg is above pkg.core) is for the importer itself. -/
def exPkgA : List Mod := [⟨true, [2], []⟩, ⟨true, [2], []⟩, ⟨true, [1, 3], [1]⟩, ⟨false, [], [1]⟩]
def exPkgRank : Nat → Nat := fun m => 3 - m
theorem exPkgA_above : ∀ t, aboveOf exPkgA t = if t = 2 ∨ t = 3 then [1] else []
  | 0 => rfl | 1 => rfl | 2 => rfl | 3 => rfl | _+4 => rfl
theorem exPkgA_tree : TreeOK exPkgA := by
  intro t l1 p l2 hh
  rw [exPkgA_above t] at hh
  split at hh
  · cases l1 with
    | nil => cases hh; rfl
    | cons a l1 => cases l1 <;> cases hh
  · cases l1 <;> cases hh
theorem exPkgA_ranked : Ranked exPkgA exPkgRank := ranked_iff_below.mpr (by decide +kernel)
theorem exPkgA_pf_root_first : PF exPkgA [0, 1, 2, 3] := by
  simp only [PF]; decide +kernel
theorem exPkgA_pf_package_first : PF exPkgA [1, 2, 3, 0] := by
  simp only [PF]; decide +kernel
example : SeesFinal exPkgA (run exPkgA [0, 1, 2, 3]).log :=
  acyclic_sees_final exPkgA exPkgA_tree exPkgRank exPkgA_ranked [0, 1, 2, 3] (by decide) exPkgA_pf_root_first
example : SeesFinal exPkgA (run exPkgA [1, 2, 3, 0]).log :=
  acyclic_sees_final exPkgA exPkgA_tree exPkgRank exPkgA_ranked [1, 2, 3, 0] (by decide) exPkgA_pf_package_first

/-- with an import cycle a body does look into a half-analysed module, and which one does depends on
the order: in `exMods` (0 → 1 → {2, 0}) module 1 sees module 0 PROCESSING when 0 is taken up first,
while module 0 sees module 1 PROCESSING when 1 is taken up first -/
theorem cyclic_sees_unfinished :
    Event.sees 1 0 .processing ∈ (run exMods [0, 1, 2]).log ∧ final exMods 0 = .processed ∧
    Event.sees 0 1 .processing ∈ (run exMods [1, 0, 2]).log ∧ final exMods 1 = .processed := by
  simp only [run_eq_F]; decide +kernel

/-- C06: in an acyclic project (`Ranked`), under every reachable order, what the body of module `m` obtains from its
import statements — requests for its own packages apart — is exactly: each imported module, in source order, in its
final state -/
theorem body_view_acyclic (mods : List Mod) (htree : TreeOK mods) (r : Nat → Nat) (hr : Ranked mods r)
    (order : List Nat) (hperm : order.Perm (List.range mods.length)) (hpf : PF mods order)
    (m : Nat) (hm : m < mods.length) :
    seesOf mods m (run mods order).log = view mods m :=
  seesOf_run htree hr hperm hpf m

/-- C06: what each module body observes through its imports (requests for its own packages apart) does not depend on
the reachable order in which the modules of an acyclic project are taken up -/
theorem body_view_order_independent (mods : List Mod) (htree : TreeOK mods) (r : Nat → Nat) (hr : Ranked mods r)
    (o1 o2 : List Nat) (h1 : o1.Perm (List.range mods.length)) (h2 : o2.Perm (List.range mods.length))
    (hp1 : PF mods o1) (hp2 : PF mods o2) (m : Nat) (hm : m < mods.length) :
    seesOf mods m (run mods o1).log = seesOf mods m (run mods o2).log := by
  rw [body_view_acyclic mods htree r hr o1 h1 hp1 m hm, body_view_acyclic mods htree r hr o2 h2 hp2 m hm]

example : seesOf exAcyclic 0 (run exAcyclic [1, 0, 2]).log = [Event.sees 0 1 .processed, Event.sees 0 2 .processing] := by
  rw [body_view_acyclic exAcyclic (treeOK_of_flat exAcyclic_flat) exRank exAcyclic_ranked [1, 0, 2] (by decide)
    (pf_of_flat exAcyclic_flat _) 0 (by decide)]
  decide

/-- `pkg.core` (2) observes `pkg.util` (3) in its final state whether the root or the package is taken up first -/
example : seesOf exPkgA 2 (run exPkgA [0, 1, 2, 3]).log = seesOf exPkgA 2 (run exPkgA [1, 2, 3, 0]).log :=
  body_view_order_independent exPkgA exPkgA_tree exPkgRank exPkgA_ranked _ _ (by decide) (by decide)
    exPkgA_pf_root_first exPkgA_pf_package_first 2 (by decide)

/-! ## a package is entered before its sub-modules (hunt/C06/3, repaired by /repo 0ba6723)

Before 0ba6723 `getProcessedModule(t)` processed `t` itself, not the packages above it — the model with `above = []`
everywhere.  Python always runs `pkg/__init__.py` before `pkg/core.py`; there a root that is taken up first and asks
for `pkg.core` entered `pkg.core` first, and the package's `__init__` — pulled in by `from . import util` inside
`pkg.core` — then found its own sub-module half analysed (a re-export that finds nothing: the finding
`order-dependent:submodule-analysed-before-its-package`). -/

def startPos (l : List Event) (m : Nat) : Nat := l.idxOf (Event.start m)

/-- the files of `exPkgA` (with a parsable `pkg/util.py`) as the scheduler saw them BEFORE 0ba6723: no packages above -/
def exPkg : List Mod := [⟨true, [2], []⟩, ⟨true, [2], []⟩, ⟨true, [1, 3], []⟩, ⟨true, [], []⟩]

/-- C06, HISTORICAL (the scheduler before 0ba6723): both orders are reachable.  With the package first it is entered
before its sub-module and obtains it in its final state; with the root first the sub-module was entered BEFORE its
package, and the package's body obtained its own sub-module while that was still being analysed. -/
theorem submodule_before_package_counterexample :
    startPos (run exPkg [1, 2, 3, 0]).log 1 < startPos (run exPkg [1, 2, 3, 0]).log 2 ∧
    Event.sees 1 2 .processed ∈ (run exPkg [1, 2, 3, 0]).log ∧
    startPos (run exPkg [0, 1, 2, 3]).log 2 < startPos (run exPkg [0, 1, 2, 3]).log 1 ∧
    Event.sees 1 2 .processing ∈ (run exPkg [0, 1, 2, 3]).log := by
  simp only [run_eq_F]; decide +kernel

/-- the same files with the packages above listed (the scheduler as it is): 2 and 3 have `pkg` (1) above them -/
def exPkgNow : List Mod := [⟨true, [2], []⟩, ⟨true, [2], []⟩, ⟨true, [1, 3], [1]⟩, ⟨true, [], [1]⟩]

/-- C06: with the root taken up first, its request for `pkg.core` enters `pkg` first (silently: no `sees 0 1` event),
`pkg.core` inside the package's own body, and the package's body obtains `pkg.core` in its final state — what the
order "package first" always gave. -/
theorem package_before_submodule_example :
    startPos (run exPkgNow [0, 1, 2, 3]).log 1 < startPos (run exPkgNow [0, 1, 2, 3]).log 2 ∧
    Event.sees 1 2 .processed ∈ (run exPkgNow [0, 1, 2, 3]).log ∧
    ((run exPkgNow [0, 1, 2, 3]).log.filter fun e => match e with | .sees 0 1 _ => true | _ => false) = [] := by
  simp only [run_eq_F]; decide +kernel

end Schedule

/-! ## `_inherits_instance_variable_kind`: the kinds computed by the post-processing pass do not depend
on the order in which the attributes are visited -/
namespace PostProcess

/-- what pydoctor's registry and a consistent hierarchy give: a class has one member per name; a linearisation starts
with its class, which does not occur again, and contains the linearisation of every class in it -/
structure WF (w : World) : Prop where
  uniq : ∀ i j, i < w.n → j < w.n → w.cls i = w.cls j → w.name i = w.name j → i = j
  head : ∀ c, ∃ t, w.mro c = c :: t ∧ c ∉ t
  mono : ∀ c b, b ∈ w.mro c → ∀ x, x ∈ w.mro b → x ∈ w.mro c

theorem mem_inherited {w : World} (h : WF w) {i j : Nat} :
    j ∈ inherited w i ↔ j < w.n ∧ w.cls j ∈ (w.mro (w.cls i)).tail ∧ w.name j = w.name i := by
  unfold inherited
  rw [List.mem_filterMap]
  constructor
  · rintro ⟨b, hb, hf⟩
    have := List.find?_some hf
    simp only [Bool.and_eq_true, beq_iff_eq] at this
    have hm := List.mem_of_find?_eq_some hf
    exact ⟨List.mem_range.mp hm, this.1 ▸ hb, this.2⟩
  · rintro ⟨hj, hc, hn⟩
    refine ⟨w.cls j, hc, ?_⟩
    cases hf : (List.range w.n).find? (fun x => w.cls x == w.cls j && w.name x == w.name i) with
    | none => exact absurd (by simp [hn]) (List.find?_eq_none.mp hf j (List.mem_range.mpr hj))
    | some x =>
      have hp := List.find?_some hf
      simp only [Bool.and_eq_true, beq_iff_eq] at hp
      rw [h.uniq x j (List.mem_range.mp (List.mem_of_find?_eq_some hf)) hj hp.1 (hp.2.trans hn.symm)]

/-- `hne`: `WF` does not forbid that the class in between lists the first class again; then `l` could be `i` itself -/
theorem inherited_trans {w : World} (h : WF w) {i j l : Nat} (hin : i < w.n) (hj : j ∈ inherited w i)
    (hl : l ∈ inherited w j) (hne : w.orig i ≠ w.orig l) : l ∈ inherited w i := by
  rw [mem_inherited h] at hj hl ⊢
  obtain ⟨hjn, hjc, hjname⟩ := hj
  obtain ⟨hln, hlc, hlname⟩ := hl
  refine ⟨hln, ?_, hlname.trans hjname⟩
  obtain ⟨t, ht, hnt⟩ := h.head (w.cls i)
  have hjm : w.cls j ∈ w.mro (w.cls i) := List.mem_of_mem_tail hjc
  have hlm : w.cls l ∈ w.mro (w.cls i) := h.mono _ _ hjm _ (List.mem_of_mem_tail hlc)
  rw [ht] at hlm ⊢
  simp only [List.tail_cons]
  rcases List.mem_cons.mp hlm with e | e
  · exfalso
    have : l = i := h.uniq l i hln hin e (hlname.trans hjname)
    exact hne (this ▸ rfl)
  · exact e

/-- the invariant of the pass -/
def Ok (w : World) (k : Nat → Kind) : Prop :=
  ∀ i, k i = w.orig i ∨ (k i = .instVar ∧ spec w i = .instVar)

theorem step_other {w : World} {k : Nat → Kind} {i x : Nat} (hx : x ≠ i) : step w k i x = k x := by
  unfold step; split <;> simp [hx]

/-- a member converted on the way has a witness of its own, which is inherited too -/
theorem any_inst_eq {w : World} (h : WF w) {k : Nat → Kind} (hk : Ok w k) {i : Nat} (hin : i < w.n)
    (hi : w.orig i = .classVar) :
    (inherited w i).any (fun j => k j == .instVar) = (inherited w i).any (fun j => w.orig j == .instVar) := by
  rw [Bool.eq_iff_iff, List.any_eq_true, List.any_eq_true]
  constructor
  · rintro ⟨j, hj, hkj⟩
    rcases hk j with e | ⟨_, hs⟩
    · exact ⟨j, hj, e ▸ hkj⟩
    · unfold spec at hs
      split at hs
      · next hc =>
        obtain ⟨l, hl, hol⟩ := List.any_eq_true.mp hc.2
        have hol' : w.orig l = .instVar := by simpa using hol
        exact ⟨l, inherited_trans h hin hj hl (by rw [hi, hol']; decide), hol⟩
      · exact ⟨j, hj, by simp [hs]⟩
  · rintro ⟨j, hj, hoj⟩
    refine ⟨j, hj, ?_⟩
    rcases hk j with e | ⟨e, _⟩
    · rw [e]; exact hoj
    · simp [e]

theorem step_self {w : World} (h : WF w) {k : Nat → Kind} (hk : Ok w k) {i : Nat} (hin : i < w.n) :
    step w k i i = spec w i := by
  rcases hk i with e | ⟨e, hs⟩
  · unfold step spec
    by_cases hc : w.orig i = .classVar
    · rw [e, any_inst_eq h hk hin hc]
      split
      · exact if_pos rfl
      · exact e
    · simp only [e, hc, false_and, ↓reduceIte]
  · simp only [step, e, reduceCtorEq, false_and, ↓reduceIte, hs]

theorem ok_step {w : World} (h : WF w) {k : Nat → Kind} (hk : Ok w k) {i : Nat} (hin : i < w.n) :
    Ok w (step w k i) := by
  intro x
  by_cases hx : x = i
  · rw [hx, step_self h hk hin]
    unfold spec
    split <;> simp [*]
  · rw [step_other hx]; exact hk x

theorem pass_spec {w : World} (h : WF w) (order : List Nat) {k : Nat → Kind} (hk : Ok w k)
    (hlt : ∀ a ∈ order, a < w.n) (i : Nat) (hi : k i = spec w i ∨ i ∈ order) :
    order.foldl (step w) k i = spec w i := by
  induction order generalizing k with
  | nil => exact hi.resolve_right List.not_mem_nil
  | cons a rest ih =>
    have ha := hlt a List.mem_cons_self
    refine ih (ok_step h hk ha) (fun b hb => hlt b (List.mem_cons_of_mem _ hb)) ?_
    by_cases hia : i = a
    · subst hia; exact .inl (step_self h hk ha)
    · exact hi.imp (fun e => (step_other hia).trans e) fun hm => (List.mem_cons.mp hm).resolve_left hia

/-- C06, C02: whatever the order in which the attributes are visited — as long as every one of them is — the pass
leaves member `i` with the kind the specification names: an instance variable iff it was one, or was a class variable
with an instance variable of its name up the linearisation of its class. -/
theorem kind_pass_spec (w : World) (h : WF w) (order : List Nat) (hlt : ∀ i ∈ order, i < w.n)
    (i : Nat) (hi : i ∈ order) : kindPass w order i = spec w i :=
  pass_spec h order (fun _ => .inl rfl) hlt i (.inr hi)

/-- C06: two visiting orders of the same attributes give the same kinds -/
theorem kind_pass_order_independent (w : World) (h : WF w) (o1 o2 : List Nat)
    (h1 : ∀ i ∈ o1, i < w.n) (h2 : ∀ i ∈ o2, i < w.n) (i : Nat) (hi1 : i ∈ o1) (hi2 : i ∈ o2) :
    kindPass w o1 i = kindPass w o2 i := by
  rw [kind_pass_spec w h o1 h1 i hi1, kind_pass_spec w h o2 h2 i hi2]

/-- a three-class chain top ← mid ← bot with the attribute an instance variable at the top and a class
variable in both subclasses -/
def exW : World where
  n := 3
  cls := fun i => i
  name := fun _ => 0
  mro := fun c => if c = 1 then [1, 0] else if c = 2 then [2, 1, 0] else [c]
  orig := fun i => if i = 0 then .instVar else .classVar

theorem exW_wf : WF exW := by
  have hge : ∀ c, ¬ c < 3 → exW.mro c = [c] := fun c hc => by
    show (if c = 1 then _ else if c = 2 then _ else [c]) = [c]
    rw [if_neg (by omega), if_neg (by omega)]
  refine ⟨fun i j _ _ hc _ => hc, fun c => ⟨(exW.mro c).tail, ?_⟩, fun c b hb x hx => ?_⟩
  · by_cases hc : c < 3
    · exact (by decide : ∀ c < 3, exW.mro c = c :: (exW.mro c).tail ∧ c ∉ (exW.mro c).tail) c hc
    · simp [hge c hc]
  · by_cases hc : c < 3
    · exact (by decide : ∀ c < 3, ∀ b ∈ exW.mro c, ∀ x ∈ exW.mro b, x ∈ exW.mro c) c hc b hb x hx
    · rw [hge c hc] at hb
      exact List.mem_singleton.mp hb ▸ hx

/-- non-vacuity: bottom first or middle first, both end as instance variables -/
example : kindPass exW [2, 1, 0] 2 = .instVar ∧ kindPass exW [1, 2, 0] 2 = .instVar ∧ kindPass exW [2, 1, 0] 1 = .instVar := by
  refine ⟨?_, ?_, ?_⟩ <;> (rw [kind_pass_spec exW exW_wf _ (by decide) _ (by decide)]; decide)

/-- the early-stop variant (a seeded change) IS order dependent on the same chain: visiting the bottom
attribute before the middle one leaves it a class variable -/
theorem early_stop_order_dependent :
    [2, 1, 0].foldl (stepEarlyStop exW) exW.orig 2 = .classVar ∧
    [1, 2, 0].foldl (stepEarlyStop exW) exW.orig 2 = .instVar := by decide +kernel

end PostProcess
