/-
C04, re-exports, layer E — name resolution on the finished state with relocated paths: a finished state
of a `WFr` project is `Settled` (PdProps/C04Inh.lean) under the relocated names `loc`, so `expandName` /
`resolveName` are sound up to the relocation; and at the end of a run that covers every module the
relocation is `finalLoc`.
-/
import PdProps.C04Inh
import PdProps.C04ReexpD

namespace Imports.Rx
open Registry Imports

/-! ## no imports in class bodies: `classImportsUnique` holds, class objects have no aliases -/

mutual
theorem classImportsStmt_inv {proj : Project} {rank : List Nat} (wf : WFacts proj rank) {m : Nat} : ∀ (cp : List Name) (st : Stmt) (e : Site × Name × ImpKey),
    e ∈ classImportsStmt proj m cp st → (∃ b, siteBody proj (m, cp) = some b ∧ st ∈ b) →
    ∃ S b st', siteBody proj S = some b ∧ st' ∈ b ∧ S.2 ≠ [] ∧ isImportStmt st' = true
  | cp, .classDef n bs body, e, he, ⟨b, hb, hst⟩ => by
    simp only [classImportsStmt] at he
    exact classImports_inv wf (cp ++ [n]) body e he body (fun _ h => h)
      (siteBody_snoc hb (findClass_of_mem wf hb hst))
  | cp, .importMod .., e, he, ⟨b, hb, hst⟩ | cp, .importFrom .., e, he, ⟨b, hb, hst⟩
  | cp, .importStar .., e, he, ⟨b, hb, hst⟩ => by
    simp only [classImportsStmt] at he
    by_cases hcp : cp.isEmpty = true
    · simp [hcp] at he
    · exact ⟨(m, cp), b, _, hb, hst, by simpa using hcp, rfl⟩
  | cp, .funcDef _, e, he, _ | cp, .assign .., e, he, _ => by simp [classImportsStmt, Stmt.defName] at he
  | cp, .allAssign l, e, he, _ => by simp [classImportsStmt, Stmt.defName, explicitNames] at he
theorem classImports_inv {proj : Project} {rank : List Nat} (wf : WFacts proj rank) {m : Nat} : ∀ (cp : List Name) (sts : List Stmt) (e : Site × Name × ImpKey),
    e ∈ classImports proj m cp sts → ∀ (full : List Stmt), (∀ st ∈ sts, st ∈ full) → siteBody proj (m, cp) = some full →
    ∃ S b st', siteBody proj S = some b ∧ st' ∈ b ∧ S.2 ≠ [] ∧ isImportStmt st' = true
  | _, [], e, he, _, _, _ => by simp [classImports] at he
  | cp, st :: rest, e, he, full, hsub, hb => by
    simp only [classImports, List.mem_append] at he
    rcases he with he | he
    · exact classImportsStmt_inv wf cp st e he ⟨full, hb, hsub st (List.mem_cons_self ..)⟩
    · exact classImports_inv wf cp rest e he full (fun x hx => hsub x (List.mem_cons_of_mem _ hx)) hb
end

theorem ciu_of_shape {proj : Project} {rank : List Nat} (wf : WFacts proj rank) (rx : RxFacts proj) : CIU proj := by
  have hno : ∀ e, e ∉ classImportList proj := by
    intro e he
    unfold classImportList at he
    rw [List.mem_flatMap] at he
    obtain ⟨m, hm, he⟩ := he
    have hml := List.mem_range.1 hm
    obtain ⟨S, b, st', hb, hst', hS, himp⟩ :=
      classImports_inv wf [] (bodyOf proj m) e he (bodyOf proj m) (fun _ h => h) (siteBody_zero hml)
    have := rx.noClsImp hb hst' hS
    rw [himp] at this; cases this
  exact ⟨fun S x k h => absurd h (hno _), fun S S' x k k' h _ => absurd h (hno _)⟩

/-- only module objects hold aliases: class bodies do not import -/
theorem no_class_alias {proj : Project} {rank : List Nat} (wf : WFacts proj rank) (rx : RxFacts proj) {s : St}
    (hI : PdInv proj s) {i : Nat} {o : Obj} {S : Site} (ho : s.reg.objs[i]? = some o)
    (hp : path s.reg i = some (loc proj s S)) (hS : StaticSite proj S) {x : Name} {tgt : Path}
    (hx : dget o.aliases x = some tgt) : S.2 = [] := by
  have hj := hI.alias i o S ho hp hS x tgt hx
  rcases jpdR_inv wf rx hj with ⟨b, st, hb, hst, _, hD⟩ | ⟨r, _, hSe, _, _⟩
  · by_cases hS2 : S.2 = []
    · exact hS2
    · exact absurd hD.isImport (by rw [rx.noClsImp hb hst hS2]; simp)
  · rw [hSe]

/-! ## complete bodies of classes -/

/-- following a chain of class names through complete bodies.  For a non-empty chain the `CompleteStmt` of the last
class statement supplies the path of its object, so the path of the start is asked for the empty chain only. -/
theorem complete_walk {proj : Project} {s : St} (m : Nat) :
    ∀ (cs pre : List Name) (i : Nat) (b b' : List Stmt), CompleteStmts proj s (m, pre) i b → bodyAt b cs = some b' →
      (cs = [] → path s.reg i = some (loc proj s (m, pre))) →
      ∃ j, path s.reg j = some (loc proj s (m, pre ++ cs)) ∧ CompleteStmts proj s (m, pre ++ cs) j b'
  | [], pre, i, b, b', hc, hb, hp => by
    simp only [bodyAt, Option.some.injEq] at hb; subst hb
    exact ⟨i, by simpa using hp rfl, by simpa using hc⟩
  | c :: cs, pre, i, b, b', hc, hb, _ => by
    obtain ⟨bs, b1, hm, _, hb⟩ := bodyAt_cons hb
    obtain ⟨_, _, cid, o, hpc, _, _, hcb⟩ := hc.mem hm
    obtain ⟨j, hj, hcj⟩ := complete_walk m cs (pre ++ [c]) cid b1 b' hcb hb (fun _ => hpc)
    exact ⟨j, by simpa using hj, by simpa using hcj⟩

/-- the object of a class scope holds an entry for every statement of the class body -/
theorem class_complete {proj : Project} {s : St} (hI : PdInv proj s) (hn : NoProcessing s) {i : Nat} {S : Site}
    {b : List Stmt} (hp : path s.reg i = some (loc proj s S)) (hS : StaticSite proj S) (hne : S.2 ≠ [])
    (hb : siteBody proj S = some b) : CompleteStmts proj s S i b := by
  have hc := hI.complete_body hS.1 (hn.processed (hI.started i S hp hS hne))
  obtain ⟨o, ho, hpm, _⟩ := hI.mods S.1 hS.1
  obtain ⟨j, hj, hcj⟩ := complete_walk S.1 S.2 [] S.1 _ b hc (siteBody_bodyAt hb) (fun _ => by rw [loc_mod]; exact hpm)
  simp only [List.nil_append] at hj hcj
  cases path_inj hI.reg hj hp
  exact hcj

/-! ## name resolution on a finished state, with relocated paths -/

theorem PdInv.naming {proj : Project} {rank : List Nat} (wf : WFacts proj rank) (rx : RxFacts proj) {s : St}
    (hI : PdInv proj s) : Naming proj s (loc proj s) :=
  ⟨hI.reg, hI.site, fun _ hS => canon_reloc wf rx (movedB proj s) hS⟩

/-- only module objects hold aliases (`no_class_alias`), and those denote by `jpdR_jpy` -/
theorem PdInv.settled {proj : Project} {rank : List Nat} (wf : WFacts proj rank) (rx : RxFacts proj) {s : St}
    (hI : PdInv proj s) (hn : NoProcessing s) : Settled proj s (loc proj s) where
  naming := hI.naming wf rx
  cbase := hI.cbase
  entry := fun {i o S y w} ho hp hk hcl hw => by
    have hS2 := hk.cls_ne_nil hcl
    obtain ⟨b, st, hb, hst, hex, _, _⟩ := jpy_class_inv wf hS2 hw
    obtain ⟨o', ho', hent⟩ := complete_entry ((class_complete hI hn hp hk.static hS2 hb).mem hst) hex
    rw [ho] at ho'; injection ho' with ho'; exact ho' ▸ hent
  alias := fun {i o S y tgt w} ho hp hk hda hw => by
    have hS2 := no_class_alias wf rx hI ho hp hk.static hda
    have hjd := hI.alias i o S ho hp hk.static y tgt hda
    exact ⟨jpdR_jpy wf rx hjd (hw.elim id fun h => absurd hS2 (hk.cls_ne_nil h.1)), jpdR_ne_nil wf hjd⟩

/-- the identity pydoctor reports for the object of a static value: its current qualified name -/
def locIdent (proj : Project) (s : St) : SVal → Ident
  | .mod m => .mod (pathOf proj m)
  | .dfn m cp => .dfn (loc proj s (m, cp))

theorem objKind_ident {proj : Project} {s : St} {j : Nat} {o : Obj} {S : Site} (hk : ObjKind proj S o.cls)
    (ho : s.reg.objs[j]? = some o) (hp : path s.reg j = some (loc proj s S)) :
    identOf s.reg j = some (locIdent proj s (svalOf S)) := by
  rw [hk.identL ho hp]
  unfold svalOf
  split
  · rename_i h; obtain ⟨m, cp⟩ := S; cases (h : cp = []); simp [locIdent, loc_mod]
  · rfl

/-! ## at the end of a run that covers every module, the relocation is `finalLoc` -/

/-- of `hproc` the proof uses the re-exporter's state only -/
theorem all_moved {proj : Project} {s : St} (hI : PdInv proj s) (hproc : ∀ m, m < proj.length → getPs s m = .processed) :
    ∀ r ∈ reexportReqs proj, movedB proj s r = true := by
  intro r hr
  obtain ⟨hx, _, lvl, M, asn, hst, ha, ht⟩ := req_stmt hr
  obtain ⟨d, n, x, a⟩ := r
  obtain rfl : a = asn.getD n := ha
  exact ((hI.complete_body hx (hproc _ hx)).mem hst).2 d rfl ht hr

theorem locIdent_final {proj : Project} {rank : List Nat} (wf : WFacts proj rank) {s : St}
    (hall : ∀ r ∈ reexportReqs proj, movedB proj s r = true) {S : Site} (hS : StaticSite proj S) :
    locIdent proj s (svalOf S) = finalLoc proj (identSV proj (svalOf S)) := by
  obtain ⟨m, cp⟩ := S
  by_cases hcp : cp = []
  · subst hcp; simp [svalOf, locIdent, identSV, finalLoc]
  · simp only [svalOf, hcp, if_false, locIdent, identSV, finalLoc, Ident.dfn.injEq]
    unfold finalLocPath
    have hmem := static_mem_entities hS
    cases hf : (entities proj).find? (fun S' => sitePath proj S' == pathOf proj m ++ cp) with
    | none =>
      have := List.find?_eq_none.1 hf (m, cp) hmem
      simp [sitePath] at this
    | some S' =>
      have hp := List.find?_some hf
      simp only [beq_iff_eq] at hp
      have hS' : S' = (m, cp) :=
        nodup_map_inj wf.pathsNodup (List.mem_of_find?_eq_some hf) hmem (by rw [hp]; simp [sitePath])
      subst hS'
      simp only
      exact relocSite_congr (m, cp) (fun r hr _ _ => by rw [hall r hr])

end Imports.Rx
