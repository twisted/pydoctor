/-
Python `dict` as an insertion-ordered association list (`Registry.dget` / `dset` / `ddel`, used by the
registry model and by the module table): a dict whose keys are pairwise different is determined by
`dget`, and `dset` / `ddel` are described by what `dget` returns afterwards.  The other dicts of the
model with the same recursion are read through it: `Signature.dictGet` / `dictSet` (C14),
`Inventory.Dict.get` / `set` (C17), `Output.rget` / `rset` (C11), `Privacy.lookup` and `Glob.lruFind` (C13) are
proved equal to `dget` / `dset` where they are used.  In the middle, facts about lists that several files need
(the dict lemmas after them use them).
-/
import PdModel.Registry

namespace Registry

section PyDict
variable {κ ν : Type} [DecidableEq κ]

def Uniq (d : List (κ × ν)) : Prop := (d.map Prod.fst).Nodup

omit [DecidableEq κ] in
theorem uniq_nil : Uniq ([] : List (κ × ν)) := List.nodup_nil

omit [DecidableEq κ] in
theorem uniq_cons {e : κ × ν} {d : List (κ × ν)} :
    Uniq (e :: d) ↔ (∀ v, (e.1, v) ∉ d) ∧ Uniq d := by
  simp only [Uniq, List.map_cons, List.nodup_cons, List.mem_map, not_exists, not_and]
  exact and_congr_left fun _ =>
    ⟨fun h v hv => h (e.1, v) hv rfl, fun h x hx hk => h x.2 (by rw [← hk]; exact hx)⟩

theorem mem_of_dget {d : List (κ × ν)} {k : κ} {v : ν} (h : dget d k = some v) : (k, v) ∈ d := by
  induction d with
  | nil => simp [dget] at h
  | cons e d ih =>
    obtain ⟨k1, v1⟩ := e
    by_cases h1 : k1 = k
    · simp only [dget, h1, if_true, Option.some.injEq] at h
      simp [h1, h]
    · simp only [dget, h1, if_false] at h
      exact List.mem_cons_of_mem _ (ih h)

theorem dget_none_iff {d : List (κ × ν)} {k : κ} : dget d k = none ↔ ∀ v, (k, v) ∉ d := by
  induction d with
  | nil => simp [dget]
  | cons e d ih =>
    obtain ⟨k1, v1⟩ := e
    by_cases h1 : k1 = k
    · simp only [dget, h1, if_true, reduceCtorEq, false_iff]
      exact fun h => h v1 List.mem_cons_self
    · simp [dget, h1, ih, Ne.symm h1]

theorem dget_of_mem {d : List (κ × ν)} {k : κ} {v : ν} (hu : Uniq d) (h : (k, v) ∈ d) :
    dget d k = some v := by
  induction d with
  | nil => simp at h
  | cons e d ih =>
    obtain ⟨k1, v1⟩ := e
    rw [uniq_cons] at hu
    rcases List.mem_cons.1 h with h | h
    · cases h; simp [dget]
    · by_cases h1 : k1 = k
      · subst h1; exact absurd h (hu.1 v)
      · simp only [dget, h1, if_false]; exact ih hu.2 h

theorem uniq_val {d : List (κ × ν)} {k : κ} {v v' : ν} (hu : Uniq d) (h : (k, v) ∈ d) (h' : (k, v') ∈ d) :
    v = v' :=
  Option.some.inj ((dget_of_mem hu h).symm.trans (dget_of_mem hu h'))

theorem dget_dset (d : List (κ × ν)) (k k' : κ) (v : ν) :
    dget (dset d k v) k' = if k' = k then some v else dget d k' := by
  induction d with
  | nil => simp [dset, dget, eq_comm]
  | cons e d ih =>
    obtain ⟨k1, v1⟩ := e
    by_cases h : k1 = k
    · subst h
      by_cases h' : k1 = k'
      · simp [dset, dget, h']
      · simp [dset, dget, h', Ne.symm h']
    · by_cases h' : k1 = k'
      · subst h'; simp [dset, dget, h]
      · simp [dset, dget, h, h', ih]

theorem keys_dset (d : List (κ × ν)) (k : κ) (v : ν) :
    (dset d k v).map Prod.fst = if k ∈ d.map Prod.fst then d.map Prod.fst else d.map Prod.fst ++ [k] := by
  induction d with
  | nil => simp [dset]
  | cons e d ih =>
    obtain ⟨k1, v1⟩ := e
    by_cases h : k1 = k
    · simp [dset, h]
    · simp only [dset, h, if_false, List.map_cons, ih, List.mem_cons, Ne.symm h, false_or]
      split <;> rfl

theorem dset_uniq {d : List (κ × ν)} {k : κ} {v : ν} (hu : Uniq d) : Uniq (dset d k v) := by
  rw [Uniq, keys_dset]
  split
  · exact hu
  · rename_i hk
    exact List.nodup_append.2 ⟨hu, by simp, fun a ha b hb => by simp at hb; exact fun e => hk (hb ▸ e ▸ ha)⟩

theorem mem_dset_iff {d : List (κ × ν)} {k k' : κ} {v v' : ν} (hu : Uniq d) :
    (k', v') ∈ dset d k v ↔ (k' = k ∧ v' = v) ∨ (k' ≠ k ∧ (k', v') ∈ d) := by
  have hmem : ∀ {d : List (κ × ν)}, Uniq d → ((k', v') ∈ d ↔ dget d k' = some v') :=
    fun hd => ⟨dget_of_mem hd, mem_of_dget⟩
  rw [hmem (dset_uniq hu), hmem hu, dget_dset]
  by_cases h : k' = k <;> simp [h, eq_comm]

theorem dset_of_dget_none {d : List (κ × ν)} {k : κ} {v : ν} (h : dget d k = none) :
    dset d k v = d ++ [(k, v)] := by
  induction d with
  | nil => simp [dset]
  | cons e d ih =>
    obtain ⟨k1, v1⟩ := e
    by_cases h1 : k1 = k
    · simp [dget, h1] at h
    · simp only [dget, h1, if_false] at h
      simp [dset, h1, ih h]

theorem ddel_none_iff (d : List (κ × ν)) (k : κ) : ddel d k = none ↔ dget d k = none := by
  induction d with
  | nil => simp [ddel, dget]
  | cons e d ih => obtain ⟨k1, v1⟩ := e; by_cases h1 : k1 = k <;> simp [ddel, dget, h1, ih]

theorem ddel_some_of_mem {d : List (κ × ν)} {k : κ} {v : ν} (h : (k, v) ∈ d) : ∃ d', ddel d k = some d' :=
  Option.ne_none_iff_exists'.1 fun hn => dget_none_iff.1 ((ddel_none_iff d k).1 hn) v h

theorem mem_of_ddel {d d' : List (κ × ν)} {k : κ} (h : ddel d k = some d') : ∃ v, (k, v) ∈ d := by
  cases hd : dget d k with
  | none => rw [(ddel_none_iff d k).2 hd] at h; cases h
  | some v => exact ⟨v, mem_of_dget hd⟩

/-- deleting from a dict with unique keys filters the key out -/
theorem ddel_eq_filter {d d' : List (κ × ν)} {k : κ} (hu : Uniq d) (h : ddel d k = some d') :
    d' = d.filter (fun e => e.1 ≠ k) := by
  induction d generalizing d' with
  | nil => simp [ddel] at h
  | cons e d ih =>
    obtain ⟨k1, v1⟩ := e
    have hu' := uniq_cons.1 hu
    by_cases h1 : k1 = k
    · simp only [ddel, h1, if_true, Option.some.injEq] at h
      subst h1 h
      rw [List.filter_cons_of_neg (by simp), List.filter_eq_self.2]
      intro e he
      simpa using fun hk : e.1 = k1 => hu'.1 e.2 (hk ▸ he)
    · simp only [ddel, h1, if_false, Option.map_eq_some_iff] at h
      obtain ⟨d2, hd2, rfl⟩ := h
      rw [List.filter_cons_of_pos (by simpa using h1), ih hu'.2 hd2]

theorem ddel_sublist {d d' : List (κ × ν)} {k : κ} (hu : Uniq d) (h : ddel d k = some d') : d'.Sublist d :=
  ddel_eq_filter hu h ▸ List.filter_sublist

theorem ddel_spec {d d' : List (κ × ν)} {k : κ} (hu : Uniq d) (h : ddel d k = some d') :
    Uniq d' ∧ ∀ k' v', (k', v') ∈ d' ↔ (k' ≠ k ∧ (k', v') ∈ d) :=
  ⟨((ddel_sublist hu h).map Prod.fst).nodup hu, fun k' v' => by
    rw [ddel_eq_filter hu h, List.mem_filter, and_comm]; simp⟩

end PyDict

theorem getElem?_concat {α : Type} (l : List α) (a : α) (i : Nat) :
    (l ++ [a])[i]? = if i = l.length then some a else l[i]? := by
  rcases Nat.lt_trichotomy i l.length with h | rfl | h
  · rw [List.getElem?_append_left h, if_neg (Nat.ne_of_lt h)]
  · rw [List.getElem?_concat_length, if_pos rfl]
  · rw [if_neg (Nat.ne_of_gt h), List.getElem?_eq_none (Nat.le_of_lt h), List.getElem?_eq_none]
    rw [List.length_append]; exact h

theorem getD_set {α : Type} (l : List α) (m t : Nat) (v d : α) :
    (l.set m v).getD t d = if t = m ∧ m < l.length then v else l.getD t d := by
  simp only [List.getD_eq_getElem?_getD, List.getElem?_set]
  by_cases h : m = t
  · subst h; by_cases hl : m < l.length <;> simp [hl]
  · simp [h, show ¬ (t = m ∧ m < l.length) from fun hh => h hh.1.symm]

theorem filter_length_one {α β : Type} [DecidableEq β] (f : α → β) (d : List α) (hn : (d.map f).Nodup) (e : α)
    (he : e ∈ d) : (d.filter (fun e' => f e' = f e)).length = 1 := by
  have := hn.count (a := f e)
  rw [if_pos (List.mem_map_of_mem he), List.count_eq_countP, List.countP_map, List.countP_eq_length_filter] at this
  simpa [Function.comp_def, ← beq_iff_eq] using this

theorem nodup_map_of_dep {α β γ : Type} (f : α → β) (g : α → γ) (d : List α) (hn : (d.map f).Nodup)
    (hd : ∀ a ∈ d, ∀ b ∈ d, g a = g b → f a = f b) : (d.map g).Nodup := by
  rw [List.Nodup, List.pairwise_map] at hn ⊢
  exact hn.imp_of_mem fun ha hb hne e => hne (hd _ ha _ hb e)

theorem nodup_map_inj {α β : Type} {f : α → β} {l : List α} (hn : (l.map f).Nodup) {a b : α} (ha : a ∈ l)
    (hb : b ∈ l) (e : f a = f b) : a = b :=
  have h := List.pairwise_map.1 hn
  List.Pairwise.forall_of_forall_of_flip (R := fun a b => f a = f b → a = b) (fun _ _ _ => rfl)
    (h.imp fun hne e => absurd e hne) (h.imp fun hne e => absurd e.symm hne) ha hb e

section PyDict
variable {κ ν : Type} [DecidableEq κ]

theorem ddel_map_snd [DecidableEq ν] {d d' : List (κ × ν)} {k : κ} {v : ν} (hu : Uniq d)
    (hv : (d.map Prod.snd).Nodup) (hm : (k, v) ∈ d) (h : ddel d k = some d') :
    d'.map Prod.snd = (d.map Prod.snd).erase v := by
  rw [ddel_eq_filter hu h, hv.erase_eq_filter, List.filter_map]
  -- on `d` the key is `k` exactly when the value is `v`
  refine congrArg _ (List.filter_congr fun e he => ?_)
  have hkv : e.1 = k ↔ e.2 = v :=
    ⟨fun hk => uniq_val hu (hk ▸ he : (k, e.2) ∈ d) hm, fun e2 => congrArg Prod.fst (nodup_map_inj hv he hm e2)⟩
  by_cases hk : e.1 = k <;> simp [hk, hkv.1, mt hkv.2]

theorem not_mem_keys {d : List (κ × ν)} {k : κ} : k ∉ d.map Prod.fst ↔ dget d k = none := by
  rw [dget_none_iff, List.mem_map]
  exact ⟨fun h v hv => h ⟨_, hv, rfl⟩, fun h ⟨e, he, hk⟩ => h e.2 (by rw [← hk]; exact he)⟩

/-- a dict built by successive assignment of pairwise different new keys is the list of the pairs -/
theorem foldl_dset_fresh {ω : Type} (f : ω → ν) (l : List (κ × ω)) (d : List (κ × ν))
    (h : (d.map Prod.fst ++ l.map Prod.fst).Nodup) :
    l.foldl (fun d kv => dset d kv.1 (f kv.2)) d = d ++ l.map fun kv => (kv.1, f kv.2) := by
  induction l generalizing d with
  | nil => simp
  | cons kv l ih =>
    have hk : kv.1 ∉ d.map Prod.fst := fun hm => (List.nodup_append.1 h).2.2 _ hm _ (by simp) rfl
    rw [List.foldl_cons, dset_of_dget_none (not_mem_keys.1 hk), ih _ (by simpa using h)]
    simp

theorem dget_map_key {α β : Type} (g : κ → β) (l : List (κ × α)) (c : κ) (v : β)
    (h : dget (l.map fun e => (e.1, g e.1)) c = some v) : v = g c := by
  obtain ⟨_, _, he⟩ := List.mem_map.1 (mem_of_dget h)
  cases he; rfl

theorem lookup_eq_dget [BEq κ] [LawfulBEq κ] (d : List (κ × ν)) (k : κ) : d.lookup k = dget d k := by
  induction d with
  | nil => rfl
  | cons e d ih =>
    rw [List.lookup_cons, dget, ih]
    by_cases h : e.1 = k
    · simp [h]
    · rw [if_neg h, beq_false_of_ne (Ne.symm h)]

end PyDict

end Registry
