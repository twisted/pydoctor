/-
C01 — a run never aborts.  The part of the property that is decision logic: the module scheduler
(`System.process / processModule / getProcessedModule`), `driver.main`'s exit status, and — over C08's model of the
docstring wrappers (`epydoc2stan.parse_docstring / safe_to_stan / format_docstring / format_summary / format_toc /
extract_fields`, PdModel.Docstring) — that a rendering run of any length returns from every call and turns every
recorded failure into exit status 2 or 3.
"No Python construct makes any other code path raise" is a statement about all of pydoctor, docutils and twisted; it
is left to the end-to-end oracle (harness/props/c01.py) and stated as partial in MANIFEST.
-/
import PdProps.C06
import PdProps.C08

namespace Schedule

/-- for every project (any import graph, cycles, any set of unparsable files) and every order,
`System.process()` terminates with nothing left unprocessed, no `assert` of `processModule` fails on the way
(`noAssert`; that of `getProcessedModule` is `Schedule.request_step`, second conjunct), and
every module has been entered exactly once -/
theorem c01_process_total (mods : List Mod) (order : List Nat)
    (hperm : order.Perm (List.range mods.length)) :
    (run mods order).unprocessed = [] ∧ noAssert (run mods order).log ∧
      ∀ m, m < mods.length → starts (run mods order).log m = 1 :=
  let h := process_terminates_drains mods order hperm
  ⟨h.1, h.2.1, h.2.2.1⟩

/-- an unparsable file does not prevent the other files from being processed: every module whose
own file parses ends PROCESSED, whatever else is in the tree -/
theorem c01_one_bad_file (mods : List Mod) (order : List Nat)
    (hperm : order.Perm (List.range mods.length)) (m : Nat) (md : Mod)
    (hm : mods[m]? = some md) (hp : md.parses = true) :
    getSt (run mods order) m = .processed := by
  rw [one_bad_file mods order hperm m md hm]; simp [hp]

/-- the run ends with one of the documented statuses -/
theorem c01_exit_status (w : Bool) (v p : Nat) :
    exitStatus w v p ∈ [0, 2, 3] := by
  simpa using exit_status_range w v p

example : [1, 0].Perm (List.range [Mod.mk false [] [], Mod.mk true [0] []].length) := by decide

end Schedule

namespace Docstring

/-- a rendering run: any sequence of calls of the eleven wrapped entry points (`ensure_parsed_docstring`,
`format_docstring`, `format_summary`, `format_toc`, `extract_fields`, `type2stan`, `format_constant_value`,
`pages.format_signature`, `format_class_signature`, `format_decorators`, `search.format_docstring`) on any
objects.  Every call returns — for every behaviour of the parsers, `to_stan`, `to_node`, the colourisers, the
summary walk and the toc builder — provided `extract_fields` is only called on objects that have a docstring
(its documented precondition; no call changes the docstring of an object, so it is stated on the initial state).
Scope: "the colourisers" are the `to_stan` / `to_node` of a colourised value; the construction of that value
(`colorize_pyval` / `colorize_inline_pyval`) is a total function of the model (`Env.annotation`, `constPd`, `bases`,
`decorators`).  On the real code it could raise RecursionError for an expression of some 320 operands, outside every
wrapper (harness/props/c01.py: `crash:RecursionError:writer.flattenToFile:_pyval_repr`); /repo 0a8115c
(`PyvalColorizer.colorize` catches it: truncated value + warning) makes the totality assumed here true of the code
for that case.  It was no counterexample to this theorem, which is about the wrappers. -/
theorem c01_render_run_total (env : Env) (ops : List (XOp × Obj)) (st : St)
    (hx : ∀ p ∈ ops, p.1 = .core .extract → (st.objs p.2).docstring ≠ none) :
    ∀ o ∈ (xrun env st ops).1, o.isOk = true :=
  xrun_total env ops st hx

/-- what has been recorded in `system.parse_errors` is never lost during a run -/
theorem c01_errors_kept (env : Env) : ∀ (ops : List (XOp × Obj)) (st : St),
    ∀ p ∈ st.errors, p ∈ (xrun env st ops).2.errors
  | [], _, _, hp => hp
  | (op, obj) :: rest, st, p, hp => c01_errors_kept env rest _ p ((loose_xstep env st op obj).errors_mono p hp)

/-- a run in which some docstring failure was recorded ends with exit status 2 (or 3 under -W), never 0 -/
theorem c01_failure_sets_exit_status (env : Env) (ops : List (XOp × Obj)) (st : St) (w : Bool) (v : Nat)
    (p : Sec × Obj) (hp : p ∈ st.errors) :
    Schedule.exitStatus w v (xrun env st ops).2.errors.length ∈ [2, 3] := by
  have hpos : 0 < (xrun env st ops).2.errors.length := List.length_pos_of_mem (c01_errors_kept env ops st p hp)
  unfold Schedule.exitStatus
  rw [if_pos hpos]
  split <;> decide

/-- non-vacuity: core and extended entry points on the witness environment of C08 (a `to_node` that raises) -/
example : ∀ o ∈ (xrun envCx stCx [(.core .doc, 0), (.core .toc, 0), (.core .summary, 0), (.typ, 0), (.search, 0)]).1,
    o.isOk = true :=
  c01_render_run_total envCx _ stCx (by decide +kernel)

end Docstring
