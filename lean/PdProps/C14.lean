/-
C14 — a displayed signature is the signature that was written.

For a definition Python accepts (`Args.WF`: parser shape and distinct names) `_handleFunctionDef` builds
Python's own reading of the `ast.arguments` (`build_eq_spec`), `inspect.Signature.__init__` accepts it
(`valid_always`), `Signature.__str__` writes it as the grammar expects (`render_layout`), and CPython reads
that text back as the arguments (`roundtrip_args`) — up to string annotations unquoted and `-> None` omitted.
The middle of the chain is stated for any `Layout` whose positional defaults sit at the end, not only those
that come from arguments. Defaults and the string-free leaves of annotations are opaque atoms (their
rendering is C15).
-/
import PdModel.Signature
import PdProps.Dict
import PdProps.Codec

namespace Signature
open Registry (dget dset Uniq dget_dset dget_of_mem not_mem_keys foldl_dset_fresh)

/-! ## `_annotations_from_function`: the dict keyed by parameter name -/

theorem dictGet_eq {V : Type} (d : List (Key × V)) (k : Key) : dictGet d k = dget d k := by
  induction d with
  | nil => rfl
  | cons e d ih => simp only [dictGet, dget, ih]

theorem dictSet_eq {V : Type} : @dictSet V = dset := by
  funext d k v
  induction d with
  | nil => rfl
  | cons e d ih => simp only [dictSet, dset, ih]

theorem keys_allAst (a : Args) :
    (allAstAnnotations a).map (·.1) =
      (Args.names a).map Key.name ++ (match a.returns with | some _ => [Key.ret] | none => []) := by
  unfold allAstAnnotations Args.names
  cases a.returns <;> simp [List.map_map, Function.comp_def]

theorem keys_allAst_nodup (a : Args) (h : (Args.names a).Nodup) :
    ((allAstAnnotations a).map (·.1)).Nodup := by
  rw [keys_allAst]
  have h1 : ((Args.names a).map Key.name).Nodup :=
    List.Pairwise.map Key.name (fun _ _ hne e => hne (by injection e)) h
  cases a.returns <;> simp [List.nodup_append, h1]

/-- with distinct parameter names the dict is the list of pairs, annotations unstringed -/
theorem annotations_eq (a : Args) (h : (Args.names a).Nodup) :
    annotationsFromFunction a =
      (allAstAnnotations a).map (fun kv => (kv.1, kv.2.map AnnE.unstring)) := by
  unfold annotationsFromFunction
  rw [dictSet_eq, foldl_dset_fresh (fun (o : Option AnnE) => o.map AnnE.unstring)]
  · simp
  · simpa using keys_allAst_nodup a h

theorem annotations_get (a : Args) (h : (Args.names a).Nodup) (k : Key) (v : Option AnnE)
    (hm : (k, v) ∈ allAstAnnotations a) :
    dictGet (annotationsFromFunction a) k = some (v.map AnnE.unstring) := by
  rw [annotations_eq a h, dictGet_eq]
  exact dget_of_mem (by simpa [Uniq, List.map_map, Function.comp_def] using keys_allAst_nodup a h)
    (List.mem_map.2 ⟨(k, v), hm, rfl⟩)

/-- `annotations.get(name)` is the parameter's own (unstringed) annotation -/
theorem annGet_arg (a : Args) (h : (Args.names a).Nodup) (x : Arg) (hx : x ∈ allArgs a) :
    annGet (annotationsFromFunction a) (.name x.name) = x.ann.map AnnE.unstring := by
  rw [annGet, annotations_get a h _ x.ann (List.mem_append_left _ (List.mem_map.2 ⟨x, hx, rfl⟩))]
  cases x.ann <;> rfl

theorem returnAnnotation_eq (a : Args) (h : (Args.names a).Nodup) :
    returnAnnotation a = normReturns a.returns := by
  unfold returnAnnotation annGet normReturns
  cases hr : a.returns with
  | none =>
    rw [dictGet_eq, not_mem_keys.1 (by simp [annotations_eq a h, List.map_map, Function.comp_def, keys_allAst, hr])]
    rfl
  | some r =>
    rw [annotations_get a h .ret (some r) (by simp [allAstAnnotations, hr]), Option.map_some]
    generalize AnnE.unstring r = u
    cases u <;> simp

/-! ## `buildParams` computes Python's meaning of `ast.arguments` -/

theorem nodupB_iff (l : List Nat) : nodupB l = true ↔ l.Nodup := by
  induction l with
  | nil => simp [nodupB]
  | cons x xs ih => simp [nodupB, ih]

theorem parserWF_iff (a : Args) : a.parserWF = true ↔
    a.defaults.length ≤ a.posonly.length + a.args.length ∧ a.kwDefaults.length = a.kwonly.length := by
  simp [Args.parserWF]

theorem WF_iff (a : Args) : a.WF = true ↔ a.parserWF = true ∧ a.names.Nodup := by
  simp [Args.WF, nodupB_iff]

theorem getDefault_eq (numPos : Nat) (defaults : List Nat) (i : Nat)
    (hi : i < numPos) (hd : defaults.length ≤ numPos) :
    getDefault numPos defaults i = .ok (alignAt numPos defaults i) := by
  unfold getDefault alignAt
  -- `default_offset` is not negative here, so the `Int` subtraction is the one on `Nat`
  rw [if_pos hi, ← Int.ofNat_sub hd]
  by_cases h : i < numPos - defaults.length
  · rw [if_pos h, if_pos (Int.sub_neg_of_lt (Int.ofNat_lt.2 h))]
  · have hlt : i - (numPos - defaults.length) < defaults.length := by omega
    simp only
    rw [if_neg h, if_neg fun hn => h (Int.ofNat_lt.1 (Int.lt_of_sub_neg hn)), Int.toNat_sub,
      List.getElem?_eq_getElem hlt]

def pparam (k : Kind) (xd : Arg × Option Nat) : Param :=
  { name := xd.1.name, kind := k, default := xd.2, ann := xd.1.ann }

def vparam (k : Kind) (x : Arg) : Param :=
  { name := x.name, kind := k, default := none, ann := x.ann }

/-- the argument with the annotation that `add_arg` finds for its name in the dict -/
def Arg.lookedUp (d : List (Key × Option AnnE)) (x : Arg) : Arg := ⟨x.name, annGet d (.name x.name)⟩

theorem addPositional_eq (d : List (Key × Option AnnE)) (numPos : Nat) (defaults : List Nat)
    (hd : defaults.length ≤ numPos) (kind : Kind) :
    ∀ (xs : List Arg) (i0 : Nat) (acc : List Param), i0 + xs.length ≤ numPos →
      addPositional d numPos defaults kind xs i0 acc =
        .ok (acc ++ ((xs.map (Arg.lookedUp d)).zip
              ((List.range' i0 xs.length).map (alignAt numPos defaults))).map (pparam kind)) := by
  intro xs
  induction xs with
  | nil => intro i0 acc _; simp [addPositional]
  | cons x xs ih =>
    intro i0 acc hlen
    simp only [List.length_cons] at hlen
    simp only [addPositional, getDefault_eq numPos defaults i0 (by omega) hd]
    rw [ih (i0 + 1) _ (by omega)]
    simp [List.range'_succ, mkParam, pparam, Arg.lookedUp]

theorem addKwonly_eq (d : List (Key × Option AnnE)) :
    ∀ (xs : List Arg) (ds : List (Option Nat)) (acc : List Param),
      addKwonly d xs ds acc = acc ++ ((xs.map (Arg.lookedUp d)).zip ds).map (pparam .kwOnly) := by
  intro xs
  induction xs with
  | nil => intro ds acc; simp [addKwonly]
  | cons x xs ih =>
    intro ds acc
    cases ds with
    | nil => simp [addKwonly]
    | cons dv ds => simp [addKwonly, ih, mkParam, pparam, Arg.lookedUp]

/-- The five groups of a parameter list, plain parameters paired with their defaults. -/
structure Layout where
  po : List (Arg × Option Nat)
  pa : List (Arg × Option Nat)
  va : Option Arg
  kw : List (Arg × Option Nat)
  kk : Option Arg

def Layout.params (L : Layout) : List Param :=
  L.po.map (pparam .posOnly) ++ L.pa.map (pparam .posOrKw) ++ L.va.toList.map (vparam .varPos)
    ++ L.kw.map (pparam .kwOnly) ++ L.kk.toList.map (vparam .varKw)

/-- Python's reading of `ast.arguments` as a layout (`alignAt` = the default rule) -/
def layoutOf (a : Args) : Layout :=
  let n := a.posonly.length + a.args.length
  { po := a.posonly.zip ((List.range' 0 a.posonly.length).map (alignAt n a.defaults)),
    pa := a.args.zip ((List.range' a.posonly.length a.args.length).map (alignAt n a.defaults)),
    va := a.vararg, kw := a.kwonly.zip a.kwDefaults, kk := a.kwarg }

def Layout.map (f : Arg → Arg) (L : Layout) : Layout :=
  { po := L.po.map (Prod.map f id), pa := L.pa.map (Prod.map f id), va := L.va.map f,
    kw := L.kw.map (Prod.map f id), kk := L.kk.map f }

theorem layoutOf_norm (a : Args) : layoutOf a.norm = (layoutOf a).map Arg.norm := by
  simp [layoutOf, Layout.map, Args.norm, List.zip_map_left]

def Param.shape (p : Param) : Nat × Kind × Option Nat := (p.name, p.kind, p.default)

theorem Layout.map_shape (f : Arg → Arg) (hf : ∀ x, (f x).name = x.name) (L : Layout) :
    (L.map f).params.map Param.shape = L.params.map Param.shape := by
  have hp : ∀ k xd, (pparam k (Prod.map f id xd)).shape = (pparam k xd).shape :=
    fun k xd => by simp [Param.shape, pparam, hf]
  have hv : ∀ k x, (vparam k (f x)).shape = (vparam k x).shape :=
    fun k x => by simp [Param.shape, vparam, hf]
  simp only [Layout.map, Layout.params, Option.toList_map, List.map_append, List.map_map, Function.comp_def, hp, hv]

theorem specParams_layout (a : Args) : specParams a = (layoutOf a).params := by
  simp only [specParams, specPositional, Layout.params, layoutOf, List.map_zip_eq_zipWith, List.zipWith_map_right]
  rfl

theorem mem_allArgs (a : Args) (x : Arg) :
    x ∈ allArgs a ↔ x ∈ a.posonly ∨ x ∈ a.args ∨ a.vararg = some x ∨ x ∈ a.kwonly ∨ a.kwarg = some x := by
  simp only [allArgs, List.mem_append, Option.mem_toList, or_assoc]

/-- Stated for any `f` that agrees with the dict lookup on the arguments at hand: the lookup itself when
names may repeat, `Arg.norm` when they are distinct. -/
theorem buildParams_eq (a : Args) (hp : a.parserWF = true) (f : Arg → Arg)
    (hf : ∀ x ∈ allArgs a, Arg.lookedUp (annotationsFromFunction a) x = f x) :
    buildParams a = .ok ((layoutOf a).map f).params := by
  obtain ⟨hd, hk⟩ := (parserWF_iff a).1 hp
  unfold buildParams
  simp only
  generalize annotationsFromFunction a = d at hf ⊢
  -- group by group: `f` is the lookup on the three lists and on the two optional arguments
  simp only [allArgs, List.forall_mem_append, Option.mem_toList] at hf
  obtain ⟨⟨⟨⟨h1, h2⟩, h3⟩, h4⟩, h5⟩ := hf
  have hv : ∀ k v, mkParam d v.name k none = vparam k (Arg.lookedUp d v) := fun _ _ => rfl
  rw [addPositional_eq _ _ _ hd .posOnly a.posonly 0 [] (by omega)]
  simp only
  rw [addPositional_eq _ _ _ hd .posOrKw a.args a.posonly.length _ (by omega)]
  simp only [hk, if_true, addKwonly_eq]
  rw [List.map_congr_left h1, List.map_congr_left h2, List.map_congr_left h4]
  unfold Layout.params Layout.map layoutOf
  cases hva : a.vararg <;> cases hkw : a.kwarg <;>
    simp [hv, hva, hkw, h3, h5, List.zip_map_left]

/-- for every parser-shaped `ast.arguments` with distinct names, the parameter list pydoctor hands to
`inspect.Signature` is Python's own reading of those arguments (same names, order, kinds; defaults by the
alignment rule; annotations unstringed) — and no assertion fails. -/
theorem build_eq_spec (a : Args) (hwf : a.WF = true) :
    buildParams a = .ok (specParams a.norm) := by
  obtain ⟨hp, hn⟩ := (WF_iff a).1 hwf
  rw [specParams_layout, layoutOf_norm]
  exact buildParams_eq a hp Arg.norm fun x hx => by
    simp only [Arg.lookedUp, Arg.norm, annGet_arg a hn x hx]

/-- the two `assert`s and the `defaults[index]` lookup never fail on what CPython's parser produces (no
hypothesis on names). -/
theorem build_total (a : Args) (hwf : a.parserWF = true) : ∃ ps, buildParams a = .ok ps :=
  ⟨_, buildParams_eq a hwf _ fun _ _ => rfl⟩


/-! ## `inspect.Signature.__init__` accepts what `buildParams` produces -/

/-- "no parameter without a default after one with a default", phrased as `Signature.__init__` tests it -/
def defOk : Bool → List Param → Bool
  | _, [] => true
  | sd, p :: ps =>
    if (p.kind = .posOnly ∨ p.kind = .posOrKw) ∧ p.default = none ∧ sd = true then false
    else defOk (if (p.kind = .posOnly ∨ p.kind = .posOrKw) ∧ p.default ≠ none then true else sd) ps

theorem defOk_cons (sd : Bool) (p : Param) (ps : List Param) :
    defOk sd (p :: ps) = true ↔
      ¬ ((p.kind = .posOnly ∨ p.kind = .posOrKw) ∧ p.default = none ∧ sd = true) ∧
      defOk (if (p.kind = .posOnly ∨ p.kind = .posOrKw) ∧ p.default ≠ none then true else sd) ps = true := by
  rw [defOk]
  by_cases h : (p.kind = .posOnly ∨ p.kind = .posOrKw) ∧ p.default = none ∧ sd = true
  · simp [h]
  · simp [h]

theorem validateLoop_cons (p : Param) (ps : List Param) (top : Kind) (sd : Bool) (seen : List Nat) :
    validateLoop (p :: ps) top sd seen = none ↔
      top.toNat ≤ p.kind.toNat ∧
      ¬ ((p.kind = .posOnly ∨ p.kind = .posOrKw) ∧ p.default = none ∧ sd = true) ∧ p.name ∉ seen ∧
      validateLoop ps (if p.kind.toNat > top.toNat then p.kind else top)
        (if (p.kind = .posOnly ∨ p.kind = .posOrKw) ∧ p.default ≠ none then true else sd)
        (seen ++ [p.name]) = none := by
  rw [validateLoop]
  by_cases h1 : p.kind.toNat < top.toNat
  · simp [h1, Nat.not_le_of_lt h1]
  · by_cases h2 : (p.kind = .posOnly ∨ p.kind = .posOrKw) ∧ p.default = none ∧ sd = true
    · simp [h1, h2]
    · by_cases h3 : p.name ∈ seen
      · simp [h1, h2, h3]
      · simp [h1, h2, h3, Nat.le_of_not_lt h1]

theorem validateLoop_ok : ∀ (ps : List Param) (top : Kind) (sd : Bool) (seen : List Nat),
    List.Pairwise (fun p q : Param => p.kind.toNat ≤ q.kind.toNat) ps →
    (∀ p ∈ ps, top.toNat ≤ p.kind.toNat) →
    (seen ++ ps.map (·.name)).Nodup →
    defOk sd ps = true →
    validateLoop ps top sd seen = none := by
  intro ps
  induction ps with
  | nil => intros; rfl
  | cons p ps ih =>
    intro top sd seen hpw htop hnd hdef
    rw [List.pairwise_cons] at hpw
    rw [defOk_cons] at hdef
    rw [List.map_cons, List.append_cons] at hnd
    have hnotin : p.name ∉ seen := fun hm =>
      (List.nodup_append.1 (List.nodup_append.1 hnd).1).2.2 _ hm _ (List.mem_singleton_self _) rfl
    refine (validateLoop_cons ..).2 ⟨htop p (List.mem_cons_self ..), hdef.1, hnotin, ih _ _ _ hpw.2 ?_ hnd hdef.2⟩
    intro q hq
    split
    · exact hpw.1 q hq
    · exact htop q (List.mem_cons_of_mem _ hq)

theorem validateLoop_nodup : ∀ (ps : List Param) (top : Kind) (sd : Bool) (seen : List Nat),
    seen.Nodup → validateLoop ps top sd seen = none → (seen ++ ps.map (·.name)).Nodup := by
  intro ps
  induction ps with
  | nil => intro _ _ seen hs _; simpa using hs
  | cons p ps ih =>
    intro top sd seen hs h
    obtain ⟨_, _, hnot, h⟩ := (validateLoop_cons ..).1 h
    rw [List.map_cons, List.append_cons]
    exact ih _ _ _ (List.nodup_append.2
      ⟨hs, List.pairwise_singleton .., fun a ha b hb e => hnot (List.mem_singleton.1 hb ▸ e ▸ ha)⟩) h

theorem defOk_nonpos : ∀ (l : List Param) (sd : Bool),
    (∀ p ∈ l, p.kind ≠ .posOnly ∧ p.kind ≠ .posOrKw) → defOk sd l = true := by
  intro l
  induction l with
  | nil => intros; rfl
  | cons p ps ih =>
    intro sd h
    have hp := h p (List.mem_cons_self ..)
    simp only [defOk_cons, hp.1, hp.2, false_or, false_and, not_false_eq_true, if_false, true_and]
    exact ih _ fun q hq => h q (List.mem_cons_of_mem _ hq)

theorem defOk_aligned (rest : List Param) (hr : ∀ p ∈ rest, p.kind ≠ .posOnly ∧ p.kind ≠ .posOrKw) :
    ∀ (l : List Param) (sd : Bool) (m : Nat) (ds : List Nat), (sd = true → m = 0) →
      (∀ p ∈ l, p.kind = .posOnly ∨ p.kind = .posOrKw) →
      l.map (·.default) = List.replicate m none ++ ds.map some → defOk sd (l ++ rest) = true := by
  intro l
  induction l with
  | nil => intros; exact defOk_nonpos rest _ hr
  | cons p ps ih =>
    intro sd m ds hsd hl h
    have hp := hl p (List.mem_cons_self ..)
    have hps : ∀ q ∈ ps, q.kind = .posOnly ∨ q.kind = .posOrKw := fun q hq => hl q (List.mem_cons_of_mem _ hq)
    rw [List.cons_append, defOk_cons]
    cases m with
    | succ m =>
      -- a parameter without default: none with a default was seen before it
      rw [List.replicate_succ, List.cons_append, List.map_cons, List.cons.injEq] at h
      have hsd' : sd = false := Bool.eq_false_iff.2 fun h => Nat.succ_ne_zero m (hsd h)
      simp only [hp, h.1, hsd', true_and, Bool.false_eq_true, and_false, not_false_eq_true, ne_eq, not_true,
        if_false]
      exact ih false m ds (by simp) hps h.2
    | zero =>
      cases ds with
      | nil => simp at h
      | cons d ds =>
        rw [List.replicate_zero, List.nil_append, List.map_cons, List.map_cons, List.cons.injEq] at h
        simp only [hp, h.1, true_and, reduceCtorEq, false_and, not_false_eq_true, ne_eq, if_true]
        exact ih true 0 ds (fun _ => rfl) hps (by simpa using h.2)

def Layout.Aligned (L : Layout) : Prop :=
  ∃ (m : Nat) (ds : List Nat), (L.po ++ L.pa).map (·.2) = List.replicate m none ++ ds.map some

def Layout.names (L : Layout) : List Nat := L.params.map (·.name)

/-- the kinds of a layout's parameters: five runs, in the order of `inspect._ParameterKind` -/
theorem Layout.kinds (L : Layout) : L.params.map Param.kind =
    List.replicate L.po.length .posOnly ++ List.replicate L.pa.length .posOrKw ++
      List.replicate L.va.toList.length .varPos ++ List.replicate L.kw.length .kwOnly ++
      List.replicate L.kk.toList.length .varKw := by
  simp [Layout.params, pparam, vparam, Function.comp_def, ← List.map_const']

theorem layout_kinds_sorted (L : Layout) :
    L.params.Pairwise (fun p q : Param => p.kind.toNat ≤ q.kind.toNat) := by
  rw [← List.pairwise_map (f := Param.kind) (R := fun k k' : Kind => k.toNat ≤ k'.toNat), L.kinds]
  simp only [List.pairwise_append, List.pairwise_replicate, List.mem_append, List.mem_replicate, or_imp, forall_and,
    and_imp, forall_eq_apply_imp_iff, Kind.toNat]
  simp only [Nat.reduceLeDiff, Nat.le_refl, implies_true, or_true, and_self]

theorem layout_defOk (L : Layout) (hal : L.Aligned) : defOk false L.params = true := by
  obtain ⟨m, ds, h⟩ := hal
  unfold Layout.params
  rw [List.append_assoc, List.append_assoc]
  apply defOk_aligned _ ?_ _ false m ds nofun
  · simp only [List.forall_mem_append, List.forall_mem_map]
    exact ⟨fun _ _ => .inl rfl, fun _ _ => .inr rfl⟩
  · rw [← h]
    simp [pparam, Function.comp_def]
  · simp only [List.forall_mem_append, List.forall_mem_map]
    exact ⟨fun _ _ => ⟨nofun, nofun⟩, fun _ _ => ⟨nofun, nofun⟩, fun _ _ => ⟨nofun, nofun⟩⟩

/-- `inspect.Signature` accepts the parameters of every aligned layout with distinct names -/
theorem layout_valid (L : Layout) (hal : L.Aligned) (hn : L.names.Nodup) :
    validate L.params = none := by
  unfold validate
  apply validateLoop_ok _ _ _ _ (layout_kinds_sorted L)
  · intro p _; simp [Kind.toNat]
  · simpa [Layout.names] using hn
  · exact layout_defOk L hal


theorem alignList_eq (n : Nat) (ds : List Nat) (h : ds.length ≤ n) :
    (List.range' 0 n).map (alignAt n ds) = List.replicate (n - ds.length) none ++ ds.map some := by
  apply List.ext_getElem
  · simp; omega
  · intro i h1 h2
    simp only [List.length_map, List.length_range'] at h1
    simp only [List.getElem_map, List.getElem_range', alignAt]
    by_cases hi : i < n - ds.length
    · rw [List.getElem_append_left (by simpa using hi)]
      simp [hi]
    · rw [List.getElem_append_right (by simpa using hi)]
      have hlt : i - (n - ds.length) < ds.length := by omega
      simp [hi, hlt]

theorem layoutOf_positional_defaults (a : Args) :
    ((layoutOf a).po ++ (layoutOf a).pa).map (·.2) =
      (List.range' 0 (a.posonly.length + a.args.length)).map
        (alignAt (a.posonly.length + a.args.length) a.defaults) := by
  unfold layoutOf
  simp only [List.map_append]
  rw [show (fun (x : Arg × Option Nat) => x.2) = Prod.snd from rfl]
  rw [List.map_snd_zip (by simp), List.map_snd_zip (by simp), ← List.map_append]
  congr 1
  have := @List.range'_append_1 0 a.posonly.length a.args.length
  simpa using this

theorem layoutOf_defaults (a : Args) (h : a.defaults.length ≤ a.posonly.length + a.args.length) :
    ((layoutOf a).po ++ (layoutOf a).pa).map (·.2) =
      List.replicate (a.posonly.length + a.args.length - a.defaults.length) none ++ a.defaults.map some := by
  rw [layoutOf_positional_defaults, alignList_eq _ _ h]


/-! ## `Signature.__str__` layout: where `/` and `*` go -/

def plainItem (xd : Arg × Option Nat) : Item := .plain xd.1 xd.2

/-- the comma-separated items Python's grammar expects for a layout -/
def Layout.items (L : Layout) : List Item :=
  L.po.map plainItem ++ (if L.po.isEmpty then [] else [.slash]) ++ L.pa.map plainItem ++
    (match L.va with
     | some v => [.starArg v]
     | none => if L.kw.isEmpty then [] else [.star]) ++
    L.kw.map plainItem ++
    (match L.kk with | some k => [.dstarArg k] | none => [])

def argTokens (x : Arg) : List Token :=
  .name x.name :: (match x.ann with | some a => [.colon, .ann a] | none => [])

def itemTokens : Item → List Token
  | .slash => [.slash]
  | .star => [.star]
  | .starArg x => .star :: argTokens x
  | .dstarArg x => .dstar :: argTokens x
  | .plain x d => argTokens x ++ (match d with | some d => [.eq, .dflt d] | none => [])

def Layout.starEtc (L : Layout) : List Item :=
  (match L.va with
   | some v => [.starArg v]
   | none => if L.kw.isEmpty then [] else [.star]) ++
  L.kw.map plainItem ++
  (match L.kk with | some k => [.dstarArg k] | none => [])

theorem items_eq (L : Layout) :
    L.items = L.po.map plainItem ++ ((if L.po.isEmpty then [] else [.slash]) ++
      (L.pa.map plainItem ++ L.starEtc)) := by
  simp only [Layout.items, Layout.starEtc, List.append_assoc]

theorem paramStr_pparam (k : Kind) (hk : k = .posOnly ∨ k = .posOrKw ∨ k = .kwOnly)
    (xd : Arg × Option Nat) : paramStr (pparam k xd) = itemTokens (plainItem xd) := by
  obtain ⟨⟨n, ann⟩, d⟩ := xd
  rcases hk with rfl | rfl | rfl <;> cases ann <;> cases d <;> rfl

theorem paramStr_vparam (x : Arg) :
    paramStr (vparam .varPos x) = itemTokens (.starArg x) ∧
      paramStr (vparam .varKw x) = itemTokens (.dstarArg x) := by
  obtain ⟨n, ann⟩ := x
  cases ann <;> exact ⟨rfl, rfl⟩

/-- a run of plain parameters of one kind; `f1`, `f2` are `render_pos_only_separator`, `render_kw_only_separator`, and the
side conditions say that no separator is pending which the run would have to write in front of itself -/
theorem renderLoop_run (k : Kind) (hk : k = .posOnly ∨ k = .posOrKw ∨ k = .kwOnly)
    (l : List (Arg × Option Nat)) (rest : List Param) (f2 : Bool) (h2 : k = .kwOnly → f2 = false) :
    ∀ f1, (k = .posOnly ∨ f1 = false) →
      renderLoop (l.map (pparam k) ++ rest) f1 f2 =
        l.map (fun xd => itemTokens (plainItem xd)) ++
          renderLoop rest (f1 || (decide (k = .posOnly) && !l.isEmpty)) f2 := by
  induction l with
  | nil => intro f1 _; simp
  | cons x l ih =>
    intro f1 h1
    have hs := paramStr_pparam k hk x
    have hkind : (pparam k x).kind = k := rfl
    rw [List.map_cons, List.cons_append, renderLoop, hs, hkind]
    rcases hk with rfl | rfl | rfl
    · simp [ih true (.inl rfl)]
    · simp [h1.resolve_left nofun, ih false (.inr rfl)]
    · obtain rfl := h2 rfl
      simp [h1.resolve_left nofun, ih false (.inr rfl)]

theorem renderLoop_slash (rest : List Param) (f2 : Bool) (h : ∀ p ∈ rest, p.kind ≠ .posOnly) :
    renderLoop rest true f2 = [.slash] :: renderLoop rest false f2 := by
  cases rest with
  | nil => rfl
  | cons p ps => simp [renderLoop, h p (List.mem_cons_self ..)]

theorem renderLoop_star (p : Param) (ps : List Param) (h : p.kind = .kwOnly) :
    renderLoop (p :: ps) false true = [.star] :: renderLoop (p :: ps) false false := by
  simp [renderLoop, h]

theorem renderLoop_starEtc (L : Layout) :
    renderLoop (L.va.toList.map (vparam .varPos) ++
        (L.kw.map (pparam .kwOnly) ++ L.kk.toList.map (vparam .varKw))) false true =
      L.starEtc.map itemTokens := by
  have hkk : ∀ f2, renderLoop (L.kk.toList.map (vparam .varKw)) false f2 =
      (match L.kk with | some k => [Item.dstarArg k] | none => []).map itemTokens := by
    intro f2
    cases L.kk with
    | none => rfl
    | some k => simp [renderLoop, vparam, ← (paramStr_vparam k).2]
  have hkw := renderLoop_run .kwOnly (.inr (.inr rfl)) L.kw (L.kk.toList.map (vparam .varKw)) false
    (fun _ => rfl) false (.inr rfl)
  simp only [reduceCtorEq, decide_false, Bool.false_and, Bool.or_false, hkk] at hkw
  unfold Layout.starEtc
  cases L.va with
  | some v => simp [renderLoop, vparam, ← (paramStr_vparam v).1, hkw]
  | none =>
    cases hl : L.kw with
    | nil => simp [hkk]
    | cons x kw =>
      rw [hl] at hkw
      simp only [Option.toList_none, List.map_nil, List.nil_append, List.map_cons, List.cons_append] at hkw ⊢
      rw [renderLoop_star _ _ rfl, hkw]
      simp [itemTokens]

/-- `Signature.__str__` writes `/` after the positional-only parameters iff there are any, and a bare `*` iff
there is no `*name` but there are keyword-only parameters. -/
theorem render_layout (L : Layout) :
    renderLoop L.params false true = L.items.map itemTokens := by
  have tail := renderLoop_run .posOrKw (.inr (.inl rfl)) L.pa
    (L.va.toList.map (vparam .varPos) ++ (L.kw.map (pparam .kwOnly) ++ L.kk.toList.map (vparam .varKw)))
    true nofun false (.inr rfl)
  simp only [reduceCtorEq, decide_false, Bool.false_and, Bool.or_false, renderLoop_starEtc] at tail
  rw [items_eq]
  simp only [Layout.params, List.append_assoc, List.map_append, List.map_map, Function.comp_def]
  rw [renderLoop_run .posOnly (.inl rfl) _ _ true nofun false (.inl rfl)]
  congr 1
  cases L.po with
  | nil => simpa using tail
  | cons x po =>
    simp only [decide_true, List.isEmpty_cons, Bool.not_false, Bool.and_self, Bool.or_true]
    rw [renderLoop_slash, tail]
    · rfl
    · intro p hp
      simp only [List.mem_append, List.mem_map] at hp
      rcases hp with ⟨_, _, rfl⟩ | ⟨_, _, rfl⟩ | ⟨_, _, rfl⟩ | ⟨_, _, rfl⟩ <;> nofun


/-! ## CPython's reading of what `Signature.__str__` wrote -/

def Token.inParam : Token → Bool
  | .lparen | .rparen | .comma | .arrow | .ellipsis => false
  | _ => true

/-- what `Signature.__str__` joins with commas -/
def isPiece (seg : List Token) : Bool := seg.all Token.inParam && !seg.isEmpty

theorem isPiece_iff (s : List Token) : isPiece s = true ↔ (∀ t ∈ s, t.inParam = true) ∧ s ≠ [] := by
  simp [isPiece]

theorem paramStr_isPiece (p : Param) : isPiece (paramStr p) = true := by
  obtain ⟨n, k, d, a⟩ := p
  cases k <;> cases d <;> cases a <;> rfl

theorem renderLoop_isPiece : ∀ (ps : List Param) (f1 f2 : Bool),
    (renderLoop ps f1 f2).all isPiece = true := by
  intro ps
  induction ps with
  | nil => intro f1 f2; cases f1 <;> rfl
  | cons p ps ih =>
    intro f1 f2
    have h1 : isPiece [.slash] = true := rfl
    have h2 : isPiece [.star] = true := rfl
    simp only [renderLoop, List.all_append, List.all_cons, List.all_nil, ih, paramStr_isPiece, Bool.and_true,
      apply_ite Prod.fst, apply_ite (List.all · isPiece), h1, h2, ite_self]

theorem joinComma_tokens : ∀ (segs : List (List Token)), segs.all isPiece = true →
    ∀ t ∈ joinComma segs, t = .comma ∨ t.inParam = true
  | [], _, _, ht => nomatch ht
  | [x], h, t, ht => .inr (((isPiece_iff x).1 (by simpa using h)).1 t ht)
  | x :: y :: rest, h, t, ht => by
    rw [List.all_cons, Bool.and_eq_true] at h
    rcases List.mem_append.1 ht with ht | ht
    · exact .inr (((isPiece_iff x).1 h.1).1 t ht)
    · rcases List.mem_cons.1 ht with ht | ht
      · exact .inl ht
      · exact joinComma_tokens (y :: rest) h.2 t ht

theorem splitComma_eq (s : List Token) : splitComma s = s.splitOn .comma :=
  List.eq_splitOn rfl (fun c cs l ls h => by simp only [splitComma, h]) s

theorem joinComma_eq : ∀ segs : List (List Token), joinComma segs = [Token.comma].intercalate segs
  | [] => rfl
  | [x] => List.intercalate_singleton.symm
  | x :: y :: rest => by
    rw [joinComma, joinComma_eq (y :: rest), List.intercalate_cons_cons, List.append_assoc]
    rfl

theorem splitComma_join (segs : List (List Token)) (hne : segs ≠ []) (h : segs.all isPiece = true) :
    joinComma segs ≠ [] ∧ splitComma (joinComma segs) = segs := by
  have hs : splitComma (joinComma segs) = segs := by
    rw [splitComma_eq, joinComma_eq]
    exact List.splitOn_intercalate _ (fun s hs hc =>
      absurd (((isPiece_iff s).1 (List.all_eq_true.1 h s hs)).1 _ hc) (by decide)) hne
  refine ⟨fun e => ?_, hs⟩
  rw [e] at hs
  exact absurd (List.all_eq_true.1 h [] (hs ▸ List.mem_singleton_self _)) (by decide)

theorem untilRparen_append (inner tail : List Token) (h : Token.rparen ∉ inner) :
    untilRparen (inner ++ Token.rparen :: tail) = some (inner, tail) := by
  induction inner with
  | nil => simp [untilRparen]
  | cons t r ih =>
    simp only [List.mem_cons, not_or] at h
    have ht : ¬ t = Token.rparen := fun e => h.1 e.symm
    simp [untilRparen, ht, ih h.2]

theorem parseSeg_itemTokens (it : Item) : parseSeg (itemTokens it) = some it := by
  cases it with
  | slash => rfl
  | star => rfl
  | starArg x => obtain ⟨n, ann⟩ := x; cases ann <;> rfl
  | dstarArg x => obtain ⟨n, ann⟩ := x; cases ann <;> rfl
  | plain x d => obtain ⟨n, ann⟩ := x; cases ann <;> cases d <;> rfl

theorem parseSegs_items (items : List Item) : parseSegs (items.map itemTokens) = some items := by
  induction items with
  | nil => rfl
  | cons it rest ih => simp [parseSegs, parseSeg_itemTokens, ih]

theorem takePlain_append (l : List (Arg × Option Nat)) (rest : List Item)
    (h : takePlain rest = ([], rest)) : takePlain (l.map plainItem ++ rest) = (l, rest) := by
  induction l with
  | nil => exact h
  | cons xd l ih => simp [takePlain, plainItem, ih]

theorem positionalDefaults_aligned (m : Nat) (ds : List Nat) :
    positionalDefaults (List.replicate m none ++ ds.map some) = some ds := by
  unfold positionalDefaults
  have h1 : (List.replicate m (none : Option Nat) ++ ds.map some).dropWhile (fun o => o.isNone)
      = ds.map some := by
    rw [List.dropWhile_append_of_pos (by simp)]
    cases ds <;> simp
  simp only [h1]
  simp

def Layout.toArgs (L : Layout) (defaults : List Nat) (returns : Option AnnE) : Args :=
  { posonly := L.po.map (·.1), args := L.pa.map (·.1), vararg := L.va,
    kwonly := L.kw.map (·.1), kwDefaults := L.kw.map (·.2), kwarg := L.kk,
    defaults := defaults, returns := returns }

theorem starEtc_head (L : Layout) :
    takePlain L.starEtc = ([], L.starEtc) ∧ ∀ pos, splitSlash pos L.starEtc = some ([], pos, L.starEtc) := by
  unfold Layout.starEtc
  cases L.va <;> cases L.kw <;> cases L.kk <;> exact ⟨rfl, fun _ => rfl⟩

theorem parseStarEtc_layout (L : Layout) : parseStarEtc L.starEtc = some (L.va, L.kw, L.kk) := by
  have hkw := takePlain_append L.kw (match L.kk with | some k => [.dstarArg k] | none => [])
    (by cases L.kk <;> rfl)
  have hkk : parseKwds (match L.kk with | some k => [.dstarArg k] | none => []) = some L.kk := by
    cases L.kk <;> rfl
  unfold Layout.starEtc
  cases hva : L.va with
  | some v => simp [parseStarEtc, hkw, hkk]
  | none =>
    cases hl : L.kw with
    | nil => cases L.kk <;> rfl
    | cons x kw =>
      rw [hl, List.map_cons, List.cons_append] at hkw
      simp [parseStarEtc, hkw, hkk]

theorem parseItems_layout (L : Layout) (m : Nat) (ds : List Nat)
    (h : (L.po ++ L.pa).map (·.2) = List.replicate m none ++ ds.map some) (ret : Option AnnE) :
    parseItems L.items ret = some (L.toArgs ds ret) := by
  have hdef := positionalDefaults_aligned m ds
  rw [← h, List.map_append] at hdef
  have hpa := takePlain_append L.pa _ (starEtc_head L).1
  unfold parseItems
  rw [items_eq]
  by_cases hpo : L.po = []
  · simp only [hpo, List.map_nil, List.nil_append] at hdef
    simp only [hpo, List.map_nil, List.nil_append, List.isEmpty_nil, if_true, hpa, (starEtc_head L).2]
    simp [hdef, parseStarEtc_layout, Layout.toArgs, hpo]
  · have hne : L.po.isEmpty = false := by simpa using hpo
    simp only [hne, Bool.false_eq_true, if_false, List.singleton_append]
    rw [takePlain_append L.po _ rfl]
    simp only [splitSlash, hpo, if_false, hpa]
    simp [hdef, parseStarEtc_layout, Layout.toArgs]

/-- CPython reads `Signature.__str__`'s text of any aligned layout back as that layout's `ast.arguments`. -/
theorem parseSig_render_layout (L : Layout) (m : Nat) (ds : List Nat)
    (h : (L.po ++ L.pa).map (·.2) = List.replicate m none ++ ds.map some) (ret : Option AnnE) :
    parseSig (render { params := L.params, ret := ret }) = some (L.toArgs ds ret) := by
  have hp := renderLoop_isPiece L.params false true
  rw [render_layout] at hp
  have hr : Token.rparen ∉ joinComma (L.items.map itemTokens) :=
    fun hm => (joinComma_tokens _ hp _ hm).elim nofun nofun
  have hret : parseTail (retTokens ret) = some ret := by cases ret <;> rfl
  simp only [render, render_layout, List.cons_append, List.nil_append, List.append_assoc, parseSig,
    untilRparen_append _ _ hr, hret]
  by_cases hi : L.items = []
  · simp only [hi, List.map_nil, joinComma, if_true]
    exact hi ▸ parseItems_layout L m ds h ret
  · obtain ⟨hj, hs⟩ := splitComma_join _ (by simpa using hi) hp
    simp only [hj, if_false, hs, parseSegs_items]
    exact parseItems_layout L m ds h ret


/-! ## The displayed signature of a definition Python accepts reads back as that definition -/

theorem norm_names (a : Args) : a.norm.names = a.names := by
  simp [Args.names, allArgs, Args.norm, Option.toList_map, Function.comp_def, Arg.norm]

theorem norm_WF (a : Args) : a.norm.parserWF = a.parserWF ∧ a.norm.WF = a.WF := by
  have := norm_names a
  simp only [Args.WF, Args.parserWF, this]
  simp [Args.norm]

theorem toArgs_layoutOf (a : Args) (hk : a.kwDefaults.length = a.kwonly.length) (ret : Option AnnE) :
    (layoutOf a).toArgs a.defaults ret = { a with returns := ret } := by
  unfold Layout.toArgs layoutOf
  simp only
  rw [show (fun (x : Arg × Option Nat) => x.1) = Prod.fst from rfl,
      show (fun (x : Arg × Option Nat) => x.2) = Prod.snd from rfl]
  rw [List.map_fst_zip (by simp), List.map_fst_zip (by simp), List.map_fst_zip (by omega),
      List.map_snd_zip (by omega)]

theorem Layout.toArgs_names (L : Layout) (ds : List Nat) (ret : Option AnnE) :
    (L.toArgs ds ret).names = L.names := by
  simp [Layout.toArgs, Layout.names, Layout.params, Args.names, allArgs, pparam, vparam, Function.comp_def]

theorem layoutOf_names (a : Args) (hk : a.kwDefaults.length = a.kwonly.length) :
    (layoutOf a).names = a.names := by
  rw [← Layout.toArgs_names _ a.defaults a.returns, toArgs_layoutOf a hk]

theorem validate_spec (a : Args) (hwf : a.WF = true) : validate (specParams a) = none := by
  obtain ⟨hp, hn⟩ := (WF_iff a).1 hwf
  obtain ⟨hd, hk⟩ := (parserWF_iff a).1 hp
  rw [specParams_layout]
  exact layout_valid _ ⟨_, _, layoutOf_defaults a hd⟩ (by rw [layoutOf_names a hk]; exact hn)

theorem parseSig_render_spec (a : Args) (hp : a.parserWF = true) (ret : Option AnnE) :
    parseSig (render { params := specParams a, ret := ret }) = some { a with returns := ret } := by
  obtain ⟨hd, hk⟩ := (parserWF_iff a).1 hp
  rw [specParams_layout, parseSig_render_layout _ _ _ (layoutOf_defaults a hd), toArgs_layoutOf a hk]

theorem signatureOf_wf (a : Args) (hwf : a.WF = true) :
    signatureOf a = .ok ({ params := specParams a.norm, ret := normReturns a.returns }, false) := by
  unfold signatureOf
  rw [build_eq_spec a hwf]
  simp only [validate_spec a.norm ((norm_WF a).2.trans hwf), returnAnnotation_eq a ((WF_iff a).1 hwf).2]

/-- for every definition Python accepts, the list handed to `inspect.Signature` passes its validation; the
`except ValueError` branch is dead. -/
theorem valid_always (a : Args) (hwf : a.WF = true) :
    ∃ ps, buildParams a = .ok ps ∧ valid ps = true ∧
      signatureOf a = .ok ({ params := ps, ret := normReturns a.returns }, false) :=
  ⟨specParams a.norm, build_eq_spec a hwf, by rw [valid, validate_spec a.norm ((norm_WF a).2.trans hwf)]; rfl,
    signatureOf_wf a hwf⟩

/-- for every definition Python accepts, CPython's reading of the displayed signature is the source's
`ast.arguments` and `returns` — same parameters, order, kinds (so the same `/`, `*`, `*args`, `**kw`), the same
`defaults` / `kw_defaults`, the same annotations — up to the two spellings the property allows (string
annotations unquoted, `-> None` omitted: `Args.norm`). -/
theorem roundtrip_args (a : Args) (hwf : a.WF = true) :
    ∃ s, signatureOf a = .ok (s, false) ∧ parseSig (render s) = some a.norm :=
  ⟨_, signatureOf_wf a hwf, parseSig_render_spec a.norm ((norm_WF a).1.trans ((WF_iff a).1 hwf).1) _⟩

/-- the round trip in parameter-list form -/
theorem roundtrip (a : Args) (hwf : a.WF = true) :
    ∃ s, signatureOf a = .ok (s, false) ∧
      parse (render s) = some (specParams a.norm, normReturns a.returns) := by
  obtain ⟨s, h1, h2⟩ := roundtrip_args a hwf
  exact ⟨s, h1, by simp [parse, h2, Args.norm]⟩

/-! ## names, kinds and defaults do not depend on the names being distinct -/

/-- on anything the parser produces, duplicate names included: only the annotation lookup goes through the
name-keyed dict. -/
theorem build_shape (a : Args) (hp : a.parserWF = true) :
    ∃ ps, buildParams a = .ok ps ∧ ps.map Param.shape = (specParams a).map Param.shape :=
  ⟨_, buildParams_eq a hp _ fun _ _ => rfl,
    by rw [specParams_layout, Layout.map_shape (Arg.lookedUp _) fun _ => rfl]⟩

theorem specParams_positional (a : Args) (i : Nat) (hi : i < a.posonly.length + a.args.length) :
    ((specParams a)[i]?).map (·.default)
      = some (alignAt (a.posonly.length + a.args.length) a.defaults i) := by
  have hdefs := layoutOf_positional_defaults a
  rw [specParams_layout]
  unfold Layout.params
  have hpos : ((layoutOf a).po.map (pparam .posOnly) ++ (layoutOf a).pa.map (pparam .posOrKw)).map (·.default)
      = ((layoutOf a).po ++ (layoutOf a).pa).map (·.2) := by
    simp [pparam, Function.comp_def]
  have hlen : ((layoutOf a).po.map (pparam .posOnly) ++ (layoutOf a).pa.map (pparam .posOrKw)).length
      = a.posonly.length + a.args.length := by
    simp [layoutOf]
  rw [List.append_assoc, List.append_assoc, List.getElem?_append_left (by omega), ← List.getElem?_map,
      hpos, hdefs]
  simp [hi]

/-- Python's default rule (`default_alignment`) without the distinct-names hypothesis -/
theorem default_alignment_parser (a : Args) (hp : a.parserWF = true) (i : Nat)
    (hi : i < a.posonly.length + a.args.length) :
    ∃ ps p, buildParams a = .ok ps ∧ ps[i]? = some p ∧
      p.default = alignAt (a.posonly.length + a.args.length) a.defaults i := by
  obtain ⟨ps, hb, hs⟩ := build_shape a hp
  have h : (ps[i]?).map (·.default) = ((specParams a)[i]?).map (·.default) := by
    simpa [Param.shape, Function.comp_def] using congrArg (fun l => (l[i]?).map (·.2.2)) hs
  rw [specParams_positional a i hi] at h
  obtain ⟨p, hpi, hd⟩ := Option.map_eq_some_iff.1 h
  exact ⟨ps, p, hb, hpi, hd⟩

/-- Python's rule: the `i`-th positional parameter has a default iff `i ≥ npos − |defaults|`, and then it is
`defaults[i − (npos − |defaults|)]`. -/
theorem default_alignment (a : Args) (hwf : a.WF = true) (i : Nat)
    (hi : i < a.posonly.length + a.args.length) :
    ∃ ps p, buildParams a = .ok ps ∧ ps[i]? = some p ∧
      (i < a.posonly.length + a.args.length - a.defaults.length → p.default = none) ∧
      (¬ i < a.posonly.length + a.args.length - a.defaults.length →
        ∃ hlt : i - (a.posonly.length + a.args.length - a.defaults.length) < a.defaults.length,
          p.default = some (a.defaults[i - (a.posonly.length + a.args.length - a.defaults.length)]'hlt)) := by
  obtain ⟨hd, _⟩ := (parserWF_iff a).1 ((WF_iff a).1 hwf).1
  obtain ⟨ps, p, hb, hp, hdf⟩ := default_alignment_parser a ((WF_iff a).1 hwf).1 i hi
  refine ⟨ps, p, hb, hp, fun hlt => by rw [hdf, alignAt, if_pos hlt], fun hge => ⟨by omega, ?_⟩⟩
  rw [hdf, alignAt, if_neg hge, List.getElem?_eq_getElem]


/-! ### the ValueError branch: exactly the duplicate names -/

theorem buildParams_names (a : Args) (hp : a.parserWF = true) (ps : List Param)
    (hb : buildParams a = .ok ps) : ps.map (·.name) = a.names := by
  obtain ⟨ps', hb', hs⟩ := build_shape a hp
  cases hb.symm.trans hb'
  have := congrArg (List.map (·.1)) hs
  simpa [Param.shape, Function.comp_def, specParams_layout, ← layoutOf_names a ((parserWF_iff a).1 hp).2,
    Layout.names] using this

/-- on anything CPython's *parser* produces, `inspect.Signature` rejects pydoctor's parameter list exactly when
two parameters share a name — which `ast.parse` lets through and the compiler rejects ("duplicate argument"). -/
theorem valid_iff_nodup (a : Args) (hp : a.parserWF = true) (ps : List Param)
    (h : buildParams a = .ok ps) : valid ps = true ↔ a.names.Nodup := by
  constructor
  · intro hv
    rw [← buildParams_names a hp ps h]
    simpa using validateLoop_nodup ps _ _ [] .nil (Option.isNone_iff_eq_none.1 hv)
  · intro hn
    obtain ⟨ps', h1, h2, _⟩ := valid_always a ((WF_iff a).2 ⟨hp, hn⟩)
    cases h.symm.trans h1
    exact h2

/-- FULL-STRENGTH statement without the distinct-names hypothesis (false, kept visible):
  `∀ a, a.parserWF → ∃ s, signatureOf a = .ok (s, false) ∧ parseSig (render s) = some a.norm`.
On `def f(a, a): pass` `inspect.Signature` raises ValueError, pydoctor reports "has invalid parameters" and
shows `()`. Python rejects that `def` at compile time, so it is not a function definition in the property's
sense. -/
theorem duplicate_counterexample :
    let a : Args := { posonly := [], args := [⟨0, none⟩, ⟨0, none⟩], vararg := none, kwonly := [],
                      kwDefaults := [], kwarg := none, defaults := [], returns := none }
    a.parserWF = true ∧ signatureOf a = .ok ({ params := [], ret := none }, true) ∧
      parseSig (render { params := [], ret := none }) ≠ some a.norm := by
  decide +kernel


/-! ## Overloads: each record keeps, and the page shows, its own signature -/

/-- the signature `_handleFunctionDef` computes for a definition (total form) -/
def sigD (a : Args) : Sig :=
  match signatureOf a with
  | .ok (s, _) => s
  | .error _ => { params := [], ret := none }

theorem signatureOf_total (a : Args) (h : a.parserWF = true) :
    ∃ b, signatureOf a = .ok (sigD a, b) := by
  obtain ⟨ps, hps⟩ := build_total a h
  cases hv : validate ps with
  | none => exact ⟨false, by simp [sigD, signatureOf, hps, hv]⟩
  | some e => exact ⟨true, by simp [sigD, signatureOf, hps, hv]⟩

def reuseE (e : Option Func) : Option Func :=
  match e with
  | some f => if f.overloads ≠ [] then some f else none
  | none => none

/-- `stepDef` seen from the entry for the `def`'s own name alone -/
def entryStep (e : Option Func) (isOverload : Bool) (s : Sig) : Option Func :=
  if skipOf (reuseE e) isOverload then e
  else
    let func : Func := match reuseE e with | some f => f | none => { signature := none, overloads := [] }
    some (if isOverload then { func with overloads := func.overloads ++ [s] }
          else { func with signature := some s })

theorem stepDef_get (c c' : Contents) (df : Def) (h : stepDef c df = .ok c') (n : Nat) :
    dictGet c' (.name n) =
      if df.name = n then entryStep (dictGet c (.name n)) df.isOverload (sigD df.args)
      else dictGet c (.name n) := by
  revert h
  fun_cases stepDef c df with
  | case1 reuse hsk =>
    rintro ⟨⟩
    by_cases hn : df.name = n
    · subst hn; exact ((if_pos rfl).trans (if_pos hsk)).symm
    · rw [if_neg hn]
  | case2 => nofun
  | case3 reuse hsk func sig x hs func' =>
    rintro ⟨⟩
    rw [dictGet_eq, dictSet_eq, dget_dset, ← dictGet_eq]
    by_cases hn : df.name = n
    · subst hn
      have hsk' : ¬ skipOf (reuseE (dictGet c (.name df.name))) df.isOverload = true := hsk
      simp only [if_true, entryStep, sigD, hs, hsk']
      rfl
    · rw [if_neg hn, if_neg fun e => hn (Key.name.inj e).symm]

theorem runDefs_get (n : Nat) : ∀ (ds : List Def) (c c' : Contents), runDefs c ds = .ok c' →
    dictGet c' (.name n) =
      (ds.filter (fun d => d.name = n)).foldl (fun e d => entryStep e d.isOverload (sigD d.args))
        (dictGet c (.name n)) := by
  intro ds
  induction ds with
  | nil => intro c c' h; cases h; rfl
  | cons d ds ih =>
    intro c c' h
    rw [runDefs] at h
    cases h1 : stepDef c d with
    | error e => rw [h1] at h; cases h
    | ok c1 =>
      rw [h1] at h
      rw [ih c1 c' h, stepDef_get c c1 d h1 n, List.filter_cons]
      by_cases hn : d.name = n <;> simp [hn]

theorem runDefs_total : ∀ (ds : List Def) (c : Contents), (∀ d ∈ ds, d.args.parserWF = true) →
    ∃ c', runDefs c ds = .ok c' := by
  intro ds
  induction ds with
  | nil => intro c _; exact ⟨c, rfl⟩
  | cons d ds ih =>
    intro c hwf
    obtain ⟨b, hs⟩ := signatureOf_total d.args (hwf d (List.mem_cons_self ..))
    obtain ⟨c1, h1⟩ : ∃ c1, stepDef c d = .ok c1 := by
      simp only [stepDef, hs]
      split <;> exact ⟨_, rfl⟩
    simp only [runDefs, h1]
    exact ih c1 fun x hx => hwf x (List.mem_cons_of_mem _ hx)

/-- the entry for a name while its `@overload`s are being collected, `acc` the records so far -/
def Collecting (e : Option Func) (acc : List Sig) : Prop :=
  (acc = [] ∧ ∀ f, e = some f → f.overloads = []) ∨
  (acc ≠ [] ∧ e = some { signature := none, overloads := acc })

theorem entryStep_collecting (e : Option Func) (acc : List Sig) (h : Collecting e acc) (s : Sig) :
    entryStep e true s = some { signature := none, overloads := acc ++ [s] } ∧
    entryStep e false s = some { signature := some s, overloads := acc } := by
  unfold entryStep reuseE
  rcases h with ⟨rfl, hfresh⟩ | ⟨hne, rfl⟩
  · cases e with
    | none => exact ⟨rfl, rfl⟩
    | some f => simp [hfresh f rfl, skipOf]
  · simp [hne, skipOf]

theorem foldl_group (n : Nat) (impl : Args) : ∀ (ovs : List Args) (e : Option Func) (acc : List Sig),
    Collecting e acc →
    (ovs.map (fun a => ({ name := n, isOverload := true, args := a } : Def)) ++
        [({ name := n, isOverload := false, args := impl } : Def)]).foldl
      (fun e d => entryStep e d.isOverload (sigD d.args)) e =
      some { signature := some (sigD impl), overloads := acc ++ ovs.map sigD } := by
  intro ovs
  induction ovs with
  | nil => intro e acc h; simp [(entryStep_collecting e acc h _).2]
  | cons a ovs ih =>
    intro e acc h
    simp only [List.map_cons, List.cons_append, List.foldl_cons, (entryStep_collecting e acc h _).1]
    rw [ih _ (acc ++ [sigD a]) (.inr ⟨by simp, rfl⟩)]
    simp

/-- in any sequence of `def`s in one scope whose definitions named `n` are `@overload` × k followed by the
implementation (other functions may be interleaved, `n` not already an overloaded function), the `k` overload
records are, in order, the signatures of their own `def`s, and the primary signature is the implementation's. -/
theorem overloads_own (n : Nat) (ds : List Def) (c : Contents) (ovs : List Args) (impl : Args)
    (hfresh : ∀ f, dictGet c (.name n) = some f → f.overloads = [])
    (hf : ds.filter (fun d => d.name = n) =
      ovs.map (fun a => { name := n, isOverload := true, args := a }) ++
        [{ name := n, isOverload := false, args := impl }])
    (hwf : ∀ d ∈ ds, d.args.parserWF = true) :
    ∃ c', runDefs c ds = .ok c' ∧
      dictGet c' (.name n) = some { signature := some (sigD impl), overloads := ovs.map sigD } := by
  obtain ⟨c', h⟩ := runDefs_total ds c hwf
  exact ⟨c', h, by rw [runDefs_get n ds c c' h, hf, foldl_group n impl ovs _ [] (.inl ⟨rfl, hfresh⟩)]; rfl⟩

/-- the page shows, for an overloaded function, one signature per overload (not the implementation's), and each
one reads back as *its own* `def`'s arguments. -/
theorem overloads_displayed (impl : Args) (ovs : List Args) (hne : ovs ≠ [])
    (hwf : ∀ a ∈ ovs, a.WF = true) :
    let f : Func := { signature := some (sigD impl), overloads := ovs.map sigD }
    displayed f = ovs.map (fun a => render (sigD a)) ∧
      (displayed f).map parseSig = ovs.map (fun a => some a.norm) := by
  have h1 : displayed { signature := some (sigD impl), overloads := ovs.map sigD }
      = ovs.map (fun a => render (sigD a)) := by
    unfold displayed
    have : ovs.map sigD ≠ [] := by simpa using hne
    simp [this, formatSignature, Function.comp_def]
  refine ⟨h1, ?_⟩
  rw [h1, List.map_map]
  apply List.map_congr_left
  intro a ha
  obtain ⟨s, hs, hp⟩ := roundtrip_args a (hwf a ha)
  have : sigD a = s := by unfold sigD; rw [hs]
  simp [this, hp]

def Shows (f : Func) : Prop := f.overloads ≠ [] ∨ f.signature.isSome = true

/-- what holds of an entry made by the `def`s `l`, all of one name -/
def Own (l : List Def) (f : Func) : Prop :=
  (∀ s ∈ f.overloads, ∃ d ∈ l, d.isOverload = true ∧ s = sigD d.args) ∧
  (∀ s, f.signature = some s → ∃ d ∈ l, d.isOverload = false ∧ s = sigD d.args) ∧
  Shows f

theorem own_step (pre : List Def) (e : Option Func) (he : ∀ f, e = some f → Own pre f) (d : Def) (f : Func)
    (h : entryStep e d.isOverload (sigD d.args) = some f) : Own (pre ++ [d]) f := by
  have mono : ∀ g, Own pre g → Own (pre ++ [d]) g := fun g ⟨h1, h2, h3⟩ =>
    ⟨fun s hs => (h1 s hs).imp fun x hx => ⟨List.mem_append_left _ hx.1, hx.2⟩,
     fun s hs => (h2 s hs).imp fun x hx => ⟨List.mem_append_left _ hx.1, hx.2⟩, h3⟩
  unfold entryStep at h
  by_cases hsk : skipOf (reuseE e) d.isOverload = true
  · rw [if_pos hsk] at h
    exact mono f (he f h)
  · rw [if_neg hsk] at h
    -- the function that is reused is the old entry, if any, and its records are old ones
    have hb : ∀ base : Func, (match reuseE e with | some g => g | none => ⟨none, []⟩) = base →
        (∀ s ∈ base.overloads, ∃ x ∈ pre ++ [d], x.isOverload = true ∧ s = sigD x.args) ∧
        (∀ s, base.signature = some s → ∃ x ∈ pre ++ [d], x.isOverload = false ∧ s = sigD x.args) := by
      rintro base rfl
      cases e with
      | none => exact ⟨nofun, nofun⟩
      | some g =>
        by_cases hg : g.overloads ≠ []
        · rw [reuseE, if_pos hg]
          exact ⟨(mono g (he g rfl)).1, (mono g (he g rfl)).2.1⟩
        · rw [reuseE, if_neg hg]
          exact ⟨nofun, nofun⟩
    obtain ⟨b1, b2⟩ := hb _ rfl
    simp only [Option.some.injEq] at h
    subst h
    cases ho : d.isOverload with
    | true =>
      exact ⟨List.forall_mem_append.2 ⟨b1, List.forall_mem_singleton.2 ⟨d, by simp, ho, rfl⟩⟩, b2, .inl (by simp)⟩
    | false =>
      exact ⟨b1, fun s hs => ⟨d, by simp, ho, (Option.some.inj hs).symm⟩, .inr rfl⟩

theorem own_foldl : ∀ (l pre : List Def) (e : Option Func), (∀ f, e = some f → Own pre f) →
    ∀ f, l.foldl (fun e d => entryStep e d.isOverload (sigD d.args)) e = some f → Own (pre ++ l) f := by
  intro l
  induction l with
  | nil => intro pre e he f h; simpa using he f h
  | cons d l ih =>
    intro pre e he f h
    have := ih (pre ++ [d]) _ (own_step pre e he d) f h
    simpa using this

theorem runDefs_own (ds : List Def) (c : Contents) (h : runDefs [] ds = .ok c) (n : Nat) (f : Func)
    (hg : dictGet c (.name n) = some f) : Own (ds.filter (fun d => d.name = n)) f := by
  rw [runDefs_get n ds [] c h] at hg
  simpa using own_foldl _ [] none nofun f hg

/-- after ANY sequence of `def`s in a scope (any mix of overloads, redefinitions, late overloads, several names)
every overload record of an entry is the own signature of an `@overload` def of that name, and the primary
signature is the own signature of a non-overload def of that name. -/
theorem records_sound (ds : List Def) (c : Contents) (h : runDefs [] ds = .ok c) (n : Nat) (f : Func)
    (hg : dictGet c (.name n) = some f) :
    (∀ s ∈ f.overloads, ∃ d ∈ ds, d.name = n ∧ d.isOverload = true ∧ s = sigD d.args) ∧
    (∀ s, f.signature = some s → ∃ d ∈ ds, d.name = n ∧ d.isOverload = false ∧ s = sigD d.args) := by
  obtain ⟨h1, h2, _⟩ := runDefs_own ds c h n f hg
  simp only [List.mem_filter, decide_eq_true_eq, and_assoc] at h1 h2
  exact ⟨h1, h2⟩


/-! ## `astutils.unstring_annotation` (`_AnnotationStringParser`) -/

/-- erase every level of string quoting, everywhere (also inside `Literal[...]`) -/
def AnnE.strip : AnnE → AnnE
  | .str e => e.strip
  | .attr v n => .attr v.strip n
  | .sub v s => .sub v.strip s.strip
  | .tup a b => .tup a.strip b.strip
  | .bor a b => .bor a.strip b.strip
  | .atom a => .atom a
  | .literalName => .literalName
  | .annotatedName => .annotatedName
  | .aliasRef a t => .aliasRef a t
  | .noneLit => .noneLit
  | .badStr a => .badStr a

/-- no forward reference is left quoted: no string constant remains, except verbatim inside the slice of
something that designates `typing.Literal`, and as metadata (everything but the first argument) of
something that designates `typing.Annotated` -/
def AnnE.noQuotes : AnnE → Bool
  | .str _ => false
  | .badStr _ => false
  | .attr v _ => v.noQuotes
  | .sub v s =>
    v.noQuotes && (v.isTypingName .literal || s.noQuotes ||
      (v.isTypingName .annotated && match s with | .tup a _ => a.noQuotes | _ => false))
  | .tup a b => a.noQuotes && b.noQuotes
  | .bor a b => a.noQuotes && b.noQuotes
  | _ => true

/-- `visit_Subscript` on the slice, once the value is known not to designate `typing.Literal`: of
`Annotated[T, metadata]` only `T` is visited, any other slice is visited whole -/
def visitSlice (annotated : Bool) : AnnE → Option AnnE × AnnE
  | .tup a b =>
    if annotated then
      match a.visit with
      | (some a', am) => (some (.tup a' b), .tup am b)
      | (none, am) => (none, .tup am b)
    else (AnnE.tup a b).visit
  | s => s.visit

theorem visit_sub (v s : AnnE) :
    (AnnE.sub v s).visit =
      match v.visit with
      | (none, vm) => (none, .sub vm s)
      | (some v', vm) =>
        if v'.isTypingName .literal then (some (.sub v' s), .sub vm s)
        else match visitSlice (v'.isTypingName .annotated) s with
          | (some s', sm) => (some (.sub v' s'), .sub vm sm)
          | (none, sm) => (none, .sub vm sm) := by
  cases s with
  | tup a b =>
    -- the model tests for `Annotated` before it visits the slice, `visitSlice` while it does
    rw [AnnE.visit]
    rcases v.visit with ⟨_ | v', vm⟩
    · rfl
    · dsimp only [visitSlice]
      split
      · rfl
      · cases v'.isTypingName .annotated
        · rfl
        · rcases a.visit with ⟨_ | _, _⟩ <;> rfl
  | _ => rfl

def sliceNoQuotes (annotated : Bool) (s : AnnE) : Bool :=
  s.noQuotes || (annotated && match s with | .tup a _ => a.noQuotes | _ => false)

theorem noQuotes_sub (v s : AnnE) :
    (AnnE.sub v s).noQuotes =
      (v.noQuotes && (v.isTypingName .literal || sliceNoQuotes (v.isTypingName .annotated) s)) := by
  cases s <;> simp only [AnnE.noQuotes, sliceNoQuotes, Bool.or_assoc]

/-- Induction on annotation expressions in which the case of a subscript may also use the statement
for the first element of a tuple slice, which is what the visit of `Annotated[T, …]` descends into. -/
theorem AnnE.induction_slice {P : AnnE → Prop} (atom : ∀ a, P (.atom a)) (literalName : P .literalName)
    (annotatedName : P .annotatedName) (aliasRef : ∀ a t, P (.aliasRef a t)) (noneLit : P .noneLit)
    (str : ∀ e, P e → P (.str e)) (badStr : ∀ a, P (.badStr a)) (attr : ∀ v n, P v → P (.attr v n))
    (sub : ∀ v s, P v → P s → (∀ a b, s = .tup a b → P a) → P (.sub v s))
    (tup : ∀ a b, P a → P b → P (.tup a b)) (bor : ∀ a b, P a → P b → P (.bor a b)) (e : AnnE) : P e := by
  have : P e ∧ ∀ a b, e = .tup a b → P a := by
    induction e with
    | tup a b iha ihb => exact ⟨tup a b iha.1 ihb.1, fun _ _ h => by cases h; exact iha.1⟩
    | sub v s ihv ihs => exact ⟨sub v s ihv.1 ihs.1 ihs.2, nofun⟩
    | str e ih => exact ⟨str e ih.1, nofun⟩
    | attr v n ih => exact ⟨attr v n ih.1, nofun⟩
    | bor a b iha ihb => exact ⟨bor a b iha.1 ihb.1, nofun⟩
    | atom a => exact ⟨atom a, nofun⟩
    | literalName => exact ⟨literalName, nofun⟩
    | annotatedName => exact ⟨annotatedName, nofun⟩
    | aliasRef a t => exact ⟨aliasRef a t, nofun⟩
    | noneLit => exact ⟨noneLit, nofun⟩
    | badStr a => exact ⟨badStr a, nofun⟩
  exact this.1

theorem visitSlice_of_noQuotes (annotated : Bool) (s : AnnE) (h : sliceNoQuotes annotated s = true)
    (ihs : s.noQuotes = true → s.visit = (some s, s))
    (iha : ∀ a b, s = .tup a b → a.noQuotes = true → a.visit = (some a, a)) :
    visitSlice annotated s = (some s, s) := by
  cases s with
  | tup a b =>
    cases annotated with
    | false => exact ihs (by simpa [sliceNoQuotes] using h)
    | true =>
      have ha : a.noQuotes = true := by
        simp only [sliceNoQuotes, AnnE.noQuotes, Bool.true_and, Bool.or_eq_true, Bool.and_eq_true] at h
        exact h.elim (·.1) id
      simp only [visitSlice, if_true, iha a b rfl ha]
  | _ => exact ihs (by simpa [sliceNoQuotes] using h)

theorem visit_of_noQuotes (e : AnnE) : e.noQuotes = true → e.visit = (some e, e) := by
  induction e using AnnE.induction_slice with
  | str e => nofun
  | badStr a => nofun
  | attr v n ih => intro h; simp only [AnnE.visit, ih h]
  | tup a b iha ihb | bor a b iha ihb =>
    intro h
    simp only [AnnE.noQuotes, Bool.and_eq_true] at h
    simp only [AnnE.visit, iha h.1, ihb h.2]
  | sub v s ihv ihs iha =>
    intro h
    simp only [noQuotes_sub, Bool.and_eq_true, Bool.or_eq_true] at h
    rw [visit_sub, ihv h.1]
    dsimp only
    split
    · rfl
    · rename_i hl
      rw [visitSlice_of_noQuotes _ s (h.2.resolve_left hl) ihs iha]
  | _ => intro _; rfl

/-- What a visit with outcome `res` has done to `e`: the node it leaves behind and the node it returns
are `e` up to quoting, and the returned one passes the test `q` that nothing is left quoted. -/
inductive Unquoted (q : AnnE → Bool) (e : AnnE) : Option AnnE × AnnE → Prop
  | failed {m : AnnE} (hm : m.strip = e.strip) : Unquoted q e (none, m)
  | done {r m : AnnE} (hm : m.strip = e.strip) (hr : r.strip = e.strip) (hq : q r = true) : Unquoted q e (some r, m)

theorem visitSlice_unquoted (annotated : Bool) (s : AnnE) (ihs : Unquoted AnnE.noQuotes s s.visit)
    (iha : ∀ a b, s = .tup a b → Unquoted AnnE.noQuotes a a.visit) :
    Unquoted (sliceNoQuotes annotated) s (visitSlice annotated s) := by
  have whole : Unquoted (sliceNoQuotes annotated) s s.visit := by
    generalize s.visit = rs at ihs
    obtain ⟨hm⟩ | ⟨hm, hr, hq⟩ := ihs
    · exact .failed hm
    · exact .done hm hr (by simp [sliceNoQuotes, hq])
  cases s with
  | tup a b =>
    cases annotated with
    | false => exact whole
    | true =>
      have ha := iha a b rfl
      simp only [visitSlice, if_true]
      generalize a.visit = ra at ha ⊢
      obtain ⟨hm⟩ | ⟨hm, hr, hq⟩ := ha
      · exact .failed (by simp only [AnnE.strip, hm])
      · exact .done (by simp only [AnnE.strip, hm]) (by simp only [AnnE.strip, hr]) (by simp [sliceNoQuotes, hq])
  | _ => exact whole

theorem visit_unquoted (e : AnnE) : Unquoted AnnE.noQuotes e e.visit := by
  induction e using AnnE.induction_slice with
  | badStr a => exact .failed rfl
  | str e ih =>
    simp only [AnnE.visit]
    generalize e.visit = re at ih ⊢
    obtain ⟨hm⟩ | ⟨hm, hr, hq⟩ := ih
    · exact .failed rfl
    · exact .done rfl hr hq
  | attr v n ih =>
    simp only [AnnE.visit]
    generalize v.visit = rv at ih ⊢
    obtain ⟨hm⟩ | ⟨hm, hr, hq⟩ := ih
    · exact .failed (by simp only [AnnE.strip, hm])
    · exact .done (by simp only [AnnE.strip, hr]) (by simp only [AnnE.strip, hr]) hq
  | tup a b iha ihb | bor a b iha ihb =>
    simp only [AnnE.visit]
    generalize a.visit = ra at iha ⊢
    generalize b.visit = rb at ihb ⊢
    obtain ⟨ha⟩ | ⟨ha, ha', qa⟩ := iha
    · exact .failed (by simp only [AnnE.strip, ha])
    · obtain ⟨hb⟩ | ⟨hb, hb', qb⟩ := ihb
      -- when the second visit fails a tuple keeps its first element as mutated (`ha`), a `|` as returned (`ha'`)
      · exact .failed (by simp only [AnnE.strip, ha, ha', hb])
      · exact .done (by simp only [AnnE.strip, ha', hb']) (by simp only [AnnE.strip, ha', hb'])
          (by simp [AnnE.noQuotes, qa, qb])
  | sub v s ihv ihs iha =>
    rw [visit_sub]
    generalize v.visit = rv at ihv ⊢
    obtain ⟨hv⟩ | @⟨v', _, hv, hv', qv⟩ := ihv
    · exact .failed (by simp only [AnnE.strip, hv])
    · dsimp only
      split
      · rename_i hl
        exact .done (by simp only [AnnE.strip, hv]) (by simp only [AnnE.strip, hv']) (by simp [noQuotes_sub, qv, hl])
      · have hs := visitSlice_unquoted (v'.isTypingName .annotated) s ihs iha
        generalize visitSlice _ s = rs at hs ⊢
        obtain ⟨hs⟩ | ⟨hs, hs', qs⟩ := hs
        · exact .failed (by simp only [AnnE.strip, hv, hs])
        · exact .done (by simp only [AnnE.strip, hv, hs]) (by simp only [AnnE.strip, hv', hs'])
            (by simp [noQuotes_sub, qv, qs])
  | _ => exact .done rfl rfl rfl

/-- whatever `unstring_annotation` returns — the unquoted expression, or after a `SyntaxError` the original node
as the transformer left it — is the source expression up to string quoting. -/
theorem unstring_only_quotes (e : AnnE) : e.unstring.strip = e.strip := by
  have h := visit_unquoted e
  unfold AnnE.unstring
  generalize e.visit = res at h ⊢
  obtain ⟨hm⟩ | ⟨hm, hr, hq⟩ := h
  · exact hm
  · exact hr

/-- either a string inside is not an expression (`SyntaxError`, a warning is reported) or the result is free of
quotes outside `Literal[...]` and the metadata of `Annotated[...]`. -/
theorem unstring_result (e : AnnE) :
    e.unstringE = none ∨ (e.unstringE = some e.unstring ∧ e.unstring.noQuotes = true) := by
  have h := visit_unquoted e
  unfold AnnE.unstring AnnE.unstringE
  generalize e.visit = res at h ⊢
  obtain ⟨hm⟩ | ⟨hm, hr, hq⟩ := h
  · exact Or.inl rfl
  · exact Or.inr ⟨rfl, hq⟩

/-- a successfully unquoted annotation is a fixed point (and visiting it modifies nothing). -/
theorem unstring_idempotent (e r : AnnE) (h : e.unstringE = some r) : r.unstring = r ∧ r.visit = (some r, r) := by
  obtain hn | ⟨hs, hq⟩ := unstring_result e
  · cases hn.symm.trans h
  · have := visit_of_noQuotes r (Option.some.inj (hs.symm.trans h) ▸ hq)
    exact ⟨by simp only [AnnE.unstring, this], this⟩

/-- strings that are VALUES keep their quotes — the whole slice of anything that designates `typing.Literal`, and
the metadata of anything that designates `typing.Annotated` (only its first argument, the type, is unquoted) —
while the subscripted expression itself is unquoted. -/
theorem value_strings_kept (v v' vm : AnnE) (hv : v.visit = (some v', vm)) :
    (v'.isTypingName .literal = true → ∀ sl, (AnnE.sub v sl).unstring = .sub v' sl) ∧
    (v'.isTypingName .literal = false → v'.isTypingName .annotated = true →
      ∀ a a' am b, a.visit = (some a', am) → (AnnE.sub v (.tup a b)).unstring = .sub v' (.tup a' b)) := by
  constructor
  · intro hl sl
    simp only [AnnE.unstring, visit_sub, hv, hl, if_true]
  · intro hl hA a a' am b ha
    simp [AnnE.unstring, visit_sub, hv, hl, hA, visitSlice, ha]

/-- the arguments of `Literal[...]` stay as written however `Literal` is reached: the bare name, any `x.Literal`
(the prefix itself is unquoted), or a name that resolves to it. -/
theorem literal_args_verbatim (v v' vm sl : AnnE) (k : Nat) (hv : v.visit = (some v', vm)) :
    (AnnE.sub .literalName sl).unstring = .sub .literalName sl ∧
    (AnnE.sub (.attr v 0) sl).unstring = .sub (.attr v' 0) sl ∧
    (AnnE.sub (.aliasRef k .literal) sl).unstring = .sub (.aliasRef k .literal) sl := by
  refine ⟨(value_strings_kept .literalName .literalName .literalName rfl).1 rfl sl,
    (value_strings_kept (.attr v 0) (.attr v' 0) (.attr v' 0) (by simp [AnnE.visit, hv])).1 rfl sl,
    (value_strings_kept (.aliasRef k .literal) _ _ rfl).1 (by simp [AnnE.isTypingName]) sl⟩

/-- `Annotated[T, meta]`, bare or under a name that resolves to it: `T` is unquoted, `meta` stays as written
(`x.Annotated[T, meta]` is an instance of `value_strings_kept`). -/
theorem annotated_metadata_verbatim (a a' am b : AnnE) (k : Nat) (ha : a.visit = (some a', am)) :
    (AnnE.sub .annotatedName (.tup a b)).unstring = .sub .annotatedName (.tup a' b) ∧
    (AnnE.sub (.aliasRef k .annotated) (.tup a b)).unstring = .sub (.aliasRef k .annotated) (.tup a' b) := by
  refine ⟨(value_strings_kept .annotatedName _ _ rfl).2 rfl rfl a a' am b ha,
    (value_strings_kept (.aliasRef k .annotated) _ _ rfl).2 (by simp [AnnE.isTypingName])
      (by simp [AnnE.isTypingName]) a a' am b ha⟩

/-- … and any other subscript has its slice unquoted -/
theorem other_subscript_unquoted (v v' vm sl sl' sm : AnnE) (hv : v.visit = (some v', vm))
    (hl : v'.isTypingName .literal = false) (hA : v'.isTypingName .annotated = false)
    (hs : sl.visit = (some sl', sm)) :
    (AnnE.sub v sl).unstring = .sub v' sl' := by
  have : visitSlice false sl = sl.visit := by cases sl <;> rfl
  simp [AnnE.unstring, visit_sub, hv, hl, hA, this, hs]

/-- HISTORICAL (the code before commit c06a302, `AnnE.visitOld`): a value context was recognised only by the
spelling `Literal` / `x.Literal`, so `Annotated[a1, 'a2']` became `Annotated[a1, a2]` and, with `L` bound by
`from typing import Literal as L`, `L['a1']` became `L[a1]` (finding `annotation:value-string-unquoted`,
fixed). Today both come back as written. -/
theorem value_strings_unquoted_counterexample :
    (AnnE.sub .annotatedName (.tup (.atom 1) (.str (.atom 2)))).unstringOld
      = .sub .annotatedName (.tup (.atom 1) (.atom 2)) ∧
    (AnnE.sub (.aliasRef 51 .literal) (.str (.atom 1))).unstringOld = .sub (.aliasRef 51 .literal) (.atom 1) ∧
    (AnnE.sub .annotatedName (.tup (.atom 1) (.str (.atom 2)))).unstring
      = .sub .annotatedName (.tup (.atom 1) (.str (.atom 2))) ∧
    (AnnE.sub (.aliasRef 51 .literal) (.str (.atom 1))).unstring = .sub (.aliasRef 51 .literal) (.str (.atom 1)) := by
  decide +kernel

/-- what the code does today, not what its docstring says: after a `SyntaxError` the "original node" that is
returned can already be partly unquoted — `'a1' | 'a1 !'` comes back as `a1 | 'a1 !'` (BinOp children are
assigned one by one), while `('a1', 'a1 !')` comes back untouched (a list of elements is assigned only when all
were visited). -/
theorem unstring_failure_in_place :
    (AnnE.bor (.str (.atom 1)) (.badStr 1)).unstring = .bor (.atom 1) (.badStr 1) ∧
    (AnnE.tup (.str (.atom 1)) (.badStr 1)).unstring = .tup (.str (.atom 1)) (.badStr 1) ∧
    (AnnE.sub (.str (.atom 8)) (.badStr 1)).unstring = .sub (.str (.atom 8)) (.badStr 1) := by
  decide +kernel

/-- non-vacuity: `t.Literal["a1"]` keeps its string, `List["a1"]`, `"List[a1]"`, `"'a1'"` lose theirs,
`List["a1 !"]` (not an expression) is returned untouched. -/
example :
    (AnnE.sub (.attr (.atom 7) 0) (.str (.atom 1))).unstring = .sub (.attr (.atom 7) 0) (.str (.atom 1)) ∧
    (AnnE.sub (.atom 8) (.str (.atom 1))).unstring = .sub (.atom 8) (.atom 1) ∧
    (AnnE.str (.sub (.atom 8) (.atom 1))).unstring = .sub (.atom 8) (.atom 1) ∧
    (AnnE.str (.str (.atom 1))).unstring = .atom 1 ∧
    (AnnE.sub (.atom 8) (.badStr 1)).unstring = .sub (.atom 8) (.badStr 1) ∧
    (AnnE.sub (.str .literalName) (.str (.atom 1))).unstring = .sub .literalName (.str (.atom 1)) := by
  decide +kernel


/-! ## Which `def`s get a signature: the decorator loop -/

def Deco.isOverloadDeco (d : Deco) : Bool := d.dotted.isSome && d.resolvesToOverload

def Deco.isPropertyDeco (d : Deco) : Bool :=
  match d.dotted with
  | none => false
  | some (first, more) =>
    endsWith ((first :: more).getLastD first) sProperty ||
      endsWith ((first :: more).getLastD first) sPropertyCap

/-- no branch of the class-only chain touches `isOverload`, and only its first sets `isProperty`; outside a
class the chain is not entered -/
theorem decoStep_flags (pc : Bool) (st : DecoState) (d : Deco) :
    (decoStep pc st d).isOverload = (st.isOverload || d.isOverloadDeco) ∧
    (decoStep pc st d).isProperty = (st.isProperty || (pc && d.isPropertyDeco)) ∧
    decoStep false st d = { st with isOverload := st.isOverload || d.isOverloadDeco } := by
  unfold decoStep Deco.isOverloadDeco Deco.isPropertyDeco
  rcases d.dotted with _ | ⟨first, more⟩
  · simp
  · simp only [apply_ite DecoState.isOverload, apply_ite DecoState.isProperty, ite_self, Option.isSome_some,
      Bool.true_and]
    generalize (endsWith ((first :: more).getLastD first) sProperty ||
      endsWith ((first :: more).getLastD first) sPropertyCap) = b
    cases pc <;> cases d.resolvesToOverload <;> cases b <;> simp

theorem fold_flags (pc : Bool) (decos : List Deco) (st : DecoState) :
    (decos.foldl (decoStep pc) st).isOverload = (st.isOverload || decos.any Deco.isOverloadDeco) ∧
    (decos.foldl (decoStep pc) st).isProperty = (st.isProperty || (pc && decos.any Deco.isPropertyDeco)) ∧
    decos.foldl (decoStep false) st = { st with isOverload := st.isOverload || decos.any Deco.isOverloadDeco } := by
  induction decos generalizing st with
  | nil => simp
  | cons d ds ih =>
    obtain ⟨h1, h2, h3⟩ := decoStep_flags pc st d
    simp only [List.foldl_cons, ih, h1, h2, h3, List.any_cons, Bool.or_assoc, Bool.and_or_distrib_left, and_self]

/-- whether a `def` is recorded as an overload depends only on whether one of its decorators is a dotted name
that *resolves* to `typing.overload` / `typing_extensions.overload` — not on how it is spelled, not on the other
decorators, not on the kind of parent. -/
theorem overload_by_resolution (parent : ParentKind) (n : List Char) (decos : List Deco)
    (name : List Char) (kind : FuncKind) (o : Bool)
    (h : handleDef parent n decos = .function name kind o) : o = decos.any Deco.isOverloadDeco := by
  have hf := (fold_flags (decide (parent = .cls)) decos ⟨false, false, false, false, n⟩).1
  revert h
  fun_cases handleDef parent n decos with
  | case1 | case2 => nofun
  | case3 hp st hq => intro h; injection h with _ _ ho; simpa [← ho] using hf

/-- in a class a `def` is turned into a property attribute (and gets no signature) exactly when some decorator's
last name component ends in `property`/`Property`; otherwise it is a function. -/
theorem property_iff (n : List Char) (decos : List Deco) :
    (handleDef .cls n decos = .property n ↔ decos.any Deco.isPropertyDeco = true) ∧
    (decos.any Deco.isPropertyDeco = false → ∃ name kind o, handleDef .cls n decos = .function name kind o) := by
  have hf := (fold_flags (decide (ParentKind.cls = .cls)) decos ⟨false, false, false, false, n⟩).2.1
  unfold handleDef
  generalize List.foldl _ _ decos = st at hf ⊢
  rw [if_neg (by decide)]
  cases ha : decos.any Deco.isPropertyDeco <;> simp [ha] at hf <;> simp [hf]

/-- Inner functions are skipped; at module level every `def` is a plain function under its own name. -/
theorem module_level_function (n : List Char) (decos : List Deco) :
    handleDef .module n decos = .function n .plain (decos.any Deco.isOverloadDeco) ∧
    handleDef .func n decos = .skippedInner := by
  refine ⟨?_, rfl⟩
  simp [handleDef, (fold_flags false decos _).2.2]

/-- non-vacuity: in a class `@functools.cached_property` makes a property, `@p.setter` renames the
function to `p.setter`, `@staticmethod` + `@_ov` (resolving to overload) gives a static overload;
at module level `@property` changes nothing and a non-dotted decorator is ignored. -/
example :
    handleDef .cls ['q'] [⟨some (['f'], [['c','a','c','h','e','d','_'] ++ sProperty]), false⟩] = .property ['q'] ∧
    handleDef .cls ['p'] [⟨some (['p'], [sSetter]), false⟩] = .function (['p'] ++ sDotSetter) .plain false ∧
    handleDef .cls ['g'] [⟨some (sStaticmethod, []), false⟩, ⟨some (['_','o','v'], []), true⟩]
      = .function ['g'] .staticMethod true ∧
    handleDef .module ['g'] [⟨some (sProperty, []), false⟩, ⟨none, true⟩] = .function ['g'] .plain false := by
  decide +kernel

/-- since 68b2b27 `@builtins.staticmethod` / `@builtins.classmethod` count like the bare names -/
example :
    handleDef .cls ['g'] [⟨some (sBuiltins, [sClassmethod]), false⟩] = .function ['g'] .classMethod false ∧
    handleDef .cls ['g'] [⟨some (sBuiltins, [sStaticmethod]), false⟩] = .function ['g'] .staticMethod false ∧
    handleDef .cls ['g'] [⟨some (['x'], [sClassmethod]), false⟩] = .function ['g'] .plain false := by
  decide +kernel

/-! ## `format_function_def` / `format_signature`: the name after `def`, the `(...)` fallback -/

theorem endsWith_append (a suf : List Char) : endsWith (a ++ suf) suf = true := by
  simp [endsWith]

theorem endsWith_split (s suf : List Char) (h : endsWith s suf = true) :
    s = s.take (s.length - suf.length) ++ suf := by
  simp only [endsWith, Bool.and_eq_true, decide_eq_true_eq, beq_iff_eq] at h
  have := List.take_append_drop (s.length - suf.length) s
  rw [h.2] at this
  exact this.symm

theorem rindexDot_suffix (a t : List Char) (ht : '.' ∉ t) : rindexDot (a ++ '.' :: t) = some a.length := by
  have : (t.reverse ++ '.' :: a.reverse).findIdx (· == '.') = t.length := by
    have h0 : t.reverse.findIdx (· == '.') = t.reverse.length :=
      List.findIdx_eq_length_of_false fun x hx => by
        simp only [beq_eq_false_iff_ne]; rintro rfl; exact ht (List.mem_reverse.1 hx)
    rw [List.findIdx_append, h0]
    simp [List.findIdx_cons]
  simp [rindexDot, this]
  omega

theorem shownName_accessor (a suf : List Char) (h : suf = sSetter ∨ suf = sDeleter) :
    shownName (a ++ '.' :: suf) = some a := by
  have hd : '.' ∉ suf := by rcases h with rfl | rfl <;> decide
  have he : (endsWith (a ++ '.' :: suf) sDotSetter || endsWith (a ++ '.' :: suf) sDotDeleter) = true := by
    rcases h with rfl | rfl <;> simp [sDotSetter, sDotDeleter, endsWith_append]
  simp [shownName, he, rindexDot_suffix a suf hd]

/-- the name written after `def` is the function's name, with the `.setter` / `.deleter` suffix (given by
`_handleFunctionDef` to property accessors) removed; the `rindex` never raises. -/
theorem shownName_spec (n : List Char) :
    (∀ a, n = a ++ sDotSetter → shownName n = some a) ∧
    (∀ a, n = a ++ sDotDeleter → shownName n = some a) ∧
    (endsWith n sDotSetter = false → endsWith n sDotDeleter = false → shownName n = some n) ∧
    (shownName n).isSome = true := by
  refine ⟨fun a h => h ▸ shownName_accessor a _ (.inl rfl), fun a h => h ▸ shownName_accessor a _ (.inr rfl),
    fun h1 h2 => by simp [shownName, h1, h2], ?_⟩
  by_cases h1 : endsWith n sDotSetter = true
  · rw [endsWith_split n _ h1]
    exact (shownName_accessor _ _ (.inl rfl)).symm ▸ rfl
  · by_cases h2 : endsWith n sDotDeleter = true
    · rw [endsWith_split n _ h2]
      exact (shownName_accessor _ _ (.inr rfl)).symm ▸ rfl
    · simp [shownName, h1, h2]

theorem ellipsis_not_mem_render (s : Sig) : Token.ellipsis ∉ render s := by
  intro h
  simp only [render, List.cons_append, List.nil_append, List.mem_cons, List.mem_append, reduceCtorEq, false_or,
    List.not_mem_nil, or_false] at h
  rcases h with h | h
  · exact (joinComma_tokens _ (renderLoop_isPiece ..) _ h).elim nofun nofun
  · cases hr : s.ret <;> simp [retTokens, hr] at h

/-- for functions built from source the `(...)` fallback of `format_signature` for a missing signature is dead —
every entry has a signature or overloads to show, and no rendered signature contains `...`. -/
theorem never_broken (ds : List Def) (c : Contents) (h : runDefs [] ds = .ok c) (n : Nat) (f : Func)
    (hg : dictGet c (.name n) = some f) : ∀ toks ∈ displayed f, Token.ellipsis ∉ toks := by
  have hshow : Shows f := (runDefs_own ds c h n f hg).2.2
  fun_cases displayed f with
  | case1 ho =>
    simp only [List.forall_mem_map]
    exact fun s _ => ellipsis_not_mem_render s
  | case2 ho =>
    simp only [List.forall_mem_singleton]
    rcases hshow with h1 | h1
    · exact absurd h1 ho
    · cases hsig : f.signature with
      | none => simp [hsig] at h1
      | some s => exact ellipsis_not_mem_render s

/-- when rendering the signature raises (`html2stan` refusing the HTML: `&nbsp;` for U+00A0, U+FFFE/U+FFFF —
open findings `signature-wiped:*`), what is displayed is `(...)` whatever the signature was, and that never
reads back as a parameter list: in this branch the property fails for every function. -/
theorem broken_signature_unreadable (s : Option Sig) : parseSig (formatSignatureX s true) = none := by
  simp [formatSignatureX, parseSig, untilRparen, parseTail, splitComma, parseSegs, parseSeg]

/-- the fallback itself: a Function object without signature (not produced from source) and a
signature whose rendering raises are both shown as `(...)` -/
example : formatSignatureX none false = [.lparen, .ellipsis, .rparen] ∧
    formatSignatureX (some ⟨[], none⟩) true = [.lparen, .ellipsis, .rparen] ∧
    formatSignatureX (some ⟨[], none⟩) false = [.lparen, .rparen] := by decide +kernel


/-! ## Non-vacuity: concrete definitions with all five kinds -/

/-- `def f(p0, p1: "a1" = d1, /, p2=d2, *p3: a3, p4, p5: 'a5' = d5, **p6) -> None` -/
def exFive : Args :=
  { posonly := [⟨0, none⟩, ⟨1, some (.str (.atom 1))⟩], args := [⟨2, none⟩],
    vararg := some ⟨3, some (.atom 3)⟩, kwonly := [⟨4, none⟩, ⟨5, some (.str (.atom 5))⟩],
    kwDefaults := [none, some 5], kwarg := some ⟨6, none⟩, defaults := [1, 2],
    returns := some .noneLit }

example : exFive.WF = true := by decide +kernel

/-- the text is `(p0, p1: a1 = d1, /, p2=d2, *p3: a3, p4, p5: a5 = d5, **p6)`: string annotations unquoted,
`-> None` gone, `/` after the positional-only run, no bare `*` after `*p3`. -/
example : signatureOf exFive = .ok (sigD exFive, false) ∧ render (sigD exFive) =
    [.lparen, .name 0, .comma, .name 1, .colon, .ann (.atom 1), .eq, .dflt 1, .comma, .slash, .comma,
     .name 2, .eq, .dflt 2, .comma, .star, .name 3, .colon, .ann (.atom 3), .comma, .name 4, .comma,
     .name 5, .colon, .ann (.atom 5), .eq, .dflt 5, .comma, .dstar, .name 6, .rparen] := by
  decide +kernel

example : ∃ s, signatureOf exFive = .ok (s, false) ∧ parseSig (render s) = some exFive.norm :=
  roundtrip_args exFive (by decide +kernel)

/-- the round trip is not trivially true: reading back gives the *unquoted* arguments, not the source's -/
example : exFive.norm ≠ exFive := by decide +kernel

example : (specParams exFive.norm).map (·.default) = [none, some 1, some 2, none, none, some 5, none] := by
  decide +kernel

/-- keyword-only without `*args`: a bare `*` is written (`def f(*, p0=d0, **p1)`), and read back -/
example :
    let a : Args := { posonly := [], args := [], vararg := none, kwonly := [⟨0, none⟩], kwDefaults := [some 0],
                      kwarg := some ⟨1, none⟩, defaults := [], returns := some (.atom 9) }
    a.WF = true ∧ signatureOf a = .ok (sigD a, false) ∧
      render (sigD a) = [.lparen, .star, .comma, .name 0, .eq, .dflt 0, .comma, .dstar, .name 1, .rparen,
                  .arrow, .ann (.atom 9)] ∧
      parseSig (render (sigD a)) = some a := by
  decide +kernel

/-- the model of CPython's parser is not an accept-everything function:
`(*)`, `(/)`, `(p0=d0, p1)`, `(*, **p0)`, `(**p0, p1)`, `(*p0=d0)`, `(p0, /, p1, /)` are all rejected. -/
example :
    parseSig [.lparen, .star, .rparen] = none ∧
    parseSig [.lparen, .slash, .rparen] = none ∧
    parseSig [.lparen, .name 0, .eq, .dflt 0, .comma, .name 1, .rparen] = none ∧
    parseSig [.lparen, .star, .comma, .dstar, .name 0, .rparen] = none ∧
    parseSig [.lparen, .dstar, .name 0, .comma, .name 1, .rparen] = none ∧
    parseSig [.lparen, .star, .name 0, .eq, .dflt 0, .rparen] = none ∧
    parseSig [.lparen, .name 0, .comma, .slash, .comma, .name 1, .comma, .slash, .rparen] = none := by
  decide +kernel

/-- misplacing a separator or a default is visible to the reader: `(p0, p1=d0)` is read differently from
`(p0, /, p1=d0)` and from `(p0=d0, p1=d0)`. -/
example :
    parseSig [.lparen, .name 0, .comma, .name 1, .eq, .dflt 0, .rparen] ≠
      parseSig [.lparen, .name 0, .comma, .slash, .comma, .name 1, .eq, .dflt 0, .rparen] ∧
    parseSig [.lparen, .name 0, .comma, .name 1, .eq, .dflt 0, .rparen] ≠
      parseSig [.lparen, .name 0, .eq, .dflt 0, .comma, .name 1, .eq, .dflt 0, .rparen] := by
  decide +kernel

/-- `inspect.Signature`'s validation is not vacuous either: wrong order, a non-default after a
default, and a duplicate name are each rejected. -/
example :
    validate [⟨0, .kwOnly, none, none⟩, ⟨1, .posOrKw, none, none⟩] = some .wrongOrder ∧
    validate [⟨0, .posOrKw, some 0, none⟩, ⟨1, .posOrKw, none, none⟩] = some .nonDefaultFollowsDefault ∧
    validate [⟨0, .posOrKw, none, none⟩, ⟨0, .kwOnly, none, none⟩] = some .duplicateName := by
  decide +kernel

/-- overloads: `@overload def g(p0: a1) -> a1`, `@overload def g(p0: a2, /) -> a2`, another function
in between, then `def g(p0)`: the entry holds the two overloads' own signatures, the page shows
exactly those two. -/
def exOv1 : Args := { posonly := [], args := [⟨0, some (.atom 1)⟩], vararg := none, kwonly := [],
                      kwDefaults := [], kwarg := none, defaults := [], returns := some (.atom 1) }
def exOv2 : Args := { posonly := [⟨0, some (.atom 2)⟩], args := [], vararg := none, kwonly := [],
                      kwDefaults := [], kwarg := none, defaults := [], returns := some (.atom 2) }
def exImpl : Args := { posonly := [], args := [⟨0, none⟩], vararg := none, kwonly := [],
                       kwDefaults := [], kwarg := none, defaults := [], returns := none }

example :
    ∃ c', runDefs [] [⟨7, true, exOv1⟩, ⟨8, false, exFive⟩, ⟨7, true, exOv2⟩, ⟨7, false, exImpl⟩] = .ok c' ∧
      dictGet c' (.name 7) = some { signature := some (sigD exImpl), overloads := [sigD exOv1, sigD exOv2] } :=
  overloads_own 7 _ [] [exOv1, exOv2] exImpl (by simp [dictGet]) (by decide +kernel) (by decide +kernel)

example :
    displayed { signature := some (sigD exImpl), overloads := [sigD exOv1, sigD exOv2] } =
      [[.lparen, .name 0, .colon, .ann (.atom 1), .rparen, .arrow, .ann (.atom 1)],
       [.lparen, .name 0, .colon, .ann (.atom 2), .comma, .slash, .rparen, .arrow, .ann (.atom 2)]] := by
  decide +kernel

/-- an `@overload` written after the implementation is skipped (pydoctor reports it): the entry is unchanged -/
example :
    runDefs [] [⟨7, true, exOv1⟩, ⟨7, false, exImpl⟩, ⟨7, true, exOv2⟩] =
      runDefs [] [⟨7, true, exOv1⟩, ⟨7, false, exImpl⟩] ∧
    runDefs [] [⟨7, true, exOv1⟩, ⟨7, false, exImpl⟩] =
      .ok [(.name 7, { signature := some (sigD exImpl), overloads := [sigD exOv1] })] := by
  decide +kernel


end Signature
