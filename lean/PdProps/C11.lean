/-
C11 — every internal link leads to a page and anchor that exist.

Over the `Output` model (lean/PdModel/Output.lean): `Documentable.url/page_object/isVisible`, `linker.taglink` with
its visibility guard, `TemplateWriter._writeDocsFor/writeSummaryPages`, and every producer of links / listing
entries — the code as fixed by cb98646, aaed9bd, 1da744b, 0ff33e4, f972163, 97be2c0, 07382d3.
`WF s` is what C02 establishes about a real registry; the driver evaluates `wf` on every table it is sent.
First the addresses (`url_resolves_iff`), then one pass over the producer table (`origin`); `links_resolve` puts
the two together. The `…_old` counterexamples at the end are over the pre-fix `…Old` definitions of the model, each
also stating that the fixed model does not exhibit it.
-/
import PdModel.Output
import PdProps.Dict
theorem List.forall_mem_ite_nil {α : Type} {c : Prop} [Decidable c] {l : List α} {P : α → Prop} :
    (∀ x ∈ (if c then l else []), P x) ↔ (c → ∀ x ∈ l, P x) := by split <;> simp [*]

namespace Output
open Registry (dget dset mem_of_dget dget_of_mem dget_dset dset_uniq mem_dset_iff)

inductive Desc (s : Sys) : Nat → Nat → Prop
  | refl (i : Nat) : Desc s i i
  | head {a c i : Nat} : c ∈ (s.ob a).contents → Desc s c i → Desc s a i

theorem Desc.trans {s : Sys} {a b c : Nat} (h1 : Desc s a b) (h2 : Desc s b c) : Desc s a c := by
  induction h1 with
  | refl i => exact h2
  | head hm _ ih => exact .head hm (ih h2)

theorem Desc.tail_cases {s : Sys} {a i : Nat} (h : Desc s a i) :
    i = a ∨ ∃ p, Desc s a p ∧ i ∈ (s.ob p).contents := by
  induction h with
  | refl i => exact .inl rfl
  | @head a c i hm hd ih =>
    right
    rcases ih with rfl | ⟨p, hp, hi⟩
    · exact ⟨a, .refl a, hm⟩
    · exact ⟨p, .head hm hp, hi⟩

/-- what the writer's walk visits -/
def reachable (s : Sys) (i : Nat) : Prop := ∃ r, r ∈ s.roots ∧ Desc s r i

theorem visibleAux_succ {s : Sys} {f i : Nat} (h : visibleAux s (f+1) i = true) :
    (s.ob i).privacy ≠ .hidden ∧
      ∀ p, (s.ob i).parent = some p → member s p (s.ob i).name = some i ∧ visibleAux s f p = true := by
  rw [visibleAux] at h
  simp only [Bool.and_eq_true, bne_iff_ne, ne_eq] at h
  refine ⟨h.1, fun p hp => ?_⟩
  simpa [hp] using h.2

theorem visibleAux_mono (s : Sys) : ∀ f i, visibleAux s f i = true → visibleAux s (f+1) i = true := by
  intro f
  induction f with
  | zero => intro i h; simp [visibleAux] at h
  | succ f ih =>
    intro i h
    obtain ⟨h1, h2⟩ := visibleAux_succ h
    rw [visibleAux]
    cases hp : (s.ob i).parent with
    | none => simpa using h1
    | some p => simpa [h1, (h2 p hp).1] using ih p (h2 p hp).2

theorem visible_parent' {s : Sys} {c p : Nat} (hp : (s.ob c).parent = some p) (hv : visible s c = true) :
    member s p (s.ob c).name = some c ∧ visible s p = true :=
  have h := (visibleAux_succ hv).2 p hp
  ⟨h.1, visibleAux_mono s _ _ h.2⟩

theorem visible_parent {s : Sys} {c p : Nat} (hp : (s.ob c).parent = some p) (hv : visible s c = true) :
    visible s p = true := (visible_parent' hp hv).2

theorem visible_in_contents {s : Sys} {c p : Nat} (hp : (s.ob c).parent = some p) (hv : visible s c = true) :
    c ∈ (s.ob p).contents :=
  List.mem_of_find?_eq_some (visible_parent' hp hv).1

theorem visible_not_hidden {s : Sys} {c : Nat} (hv : visible s c = true) : (s.ob c).privacy ≠ .hidden :=
  (visibleAux_succ hv).1

/-- an id outside the table reads as a hidden object without contents -/
theorem ob_default {s : Sys} {i : Nat} (h : s.n ≤ i) : s.ob i = default := by
  unfold Sys.ob Sys.n at *
  simp [Array.getD, Nat.not_lt.mpr h]

theorem lt_of_not_hidden {s : Sys} {i : Nat} (h : (s.ob i).privacy ≠ .hidden) : i < s.n :=
  Nat.lt_of_not_le fun h' => h (by rw [ob_default h']; rfl)

theorem lt_of_contents_ne {s : Sys} {i c : Nat} (h : c ∈ (s.ob i).contents) : i < s.n :=
  Nat.lt_of_not_le fun h' => by rw [ob_default h'] at h; cases h

theorem visible_lt {s : Sys} {i : Nat} (h : visible s i = true) : i < s.n :=
  lt_of_not_hidden (visible_not_hidden h)

/-- the Boolean check `wf` (evaluated by the driver on dumped systems) read as propositions, clause by clause -/
structure WF (s : Sys) : Prop where
  parent_lt : ∀ i p, i < s.n → (s.ob i).parent = some p → p < i
  parent_page : ∀ i p, i < s.n → (s.ob i).parent = some p → (s.ob p).kind.ownPage = true
  orphan_module : ∀ i, i < s.n → (s.ob i).parent = none → (s.ob i).kind.isModule = true
  orphan_root : ∀ i, i < s.n → (s.ob i).parent = none → i ∈ s.roots
  contents_lt : ∀ i c, c ∈ (s.ob i).contents → c < s.n
  contents_parent : ∀ i c, c ∈ (s.ob i).contents → (s.ob c).parent = some i
  contents_names : ∀ i c d, c ∈ (s.ob i).contents → d ∈ (s.ob i).contents → (s.ob c).name = (s.ob d).name → c = d
  roots_lt : ∀ r, r ∈ s.roots → r < s.n
  roots_parent : ∀ r, r ∈ s.roots → (s.ob r).parent = none
  names : ∀ i j, i < s.n → j < s.n → fullName s i = fullName s j → i = j
  spellings : ∀ i j, i < s.n → j < s.n → (s.ob j).parent ≠ none → (s.ob i).name ≠ fullName s j
  modules : ∀ i, i < s.n → (s.ob i).modul = moduleByChain s i

/-- this direction only, despite the name -/
theorem wf_iff (s : Sys) (h : wf s = true) : WF s := by
  simp only [wf, wfObj, namesDistinct, spellingsApart, modulesCoherent, Bool.and_eq_true, List.all_eq_true,
    List.mem_range, decide_eq_true_eq, beq_iff_eq, Bool.or_eq_true, bne_iff_ne, ne_eq] at h
  obtain ⟨⟨⟨⟨⟨hobj, hmod⟩, hroots⟩, _⟩, hnames⟩, hsp⟩ := h
  have horph : ∀ i, i < s.n → (s.ob i).parent = none → (s.ob i).kind.isModule = true ∧ i ∈ s.roots :=
    fun i hi hp => by simpa [hp] using (hobj i hi).1.1
  have hpar : ∀ i p, i < s.n → (s.ob i).parent = some p → p < i ∧ (s.ob p).kind.ownPage = true :=
    fun i p hi hp => by simpa [hp] using (hobj i hi).1.1
  have hcon := fun i c (hc : c ∈ (s.ob i).contents) => hobj i (lt_of_contents_ne hc)
  exact {
    parent_lt := fun i p hi hp => (hpar i p hi hp).1
    parent_page := fun i p hi hp => (hpar i p hi hp).2
    orphan_module := fun i hi hp => (horph i hi hp).1
    orphan_root := fun i hi hp => (horph i hi hp).2
    contents_lt := fun i c hc => ((hcon i c hc).1.2 c hc).1
    contents_parent := fun i c hc => ((hcon i c hc).1.2 c hc).2
    contents_names := fun i c d hc hd hn => ((hcon i c hc).2 c hc d hd).resolve_right (· hn)
    roots_lt := fun r hr => (hroots r hr).1
    roots_parent := fun r hr => (hroots r hr).2
    names := fun i j hi hj hn => (hnames i hi j hj).resolve_right (· hn)
    spellings := fun i j hi hj hp => (hsp i hi j hj).resolve_left hp
    modules := hmod }

/-! ### `_writeDocsFor` visits exactly the visible objects reached through `contents` -/

theorem docsFor_sound (s : Sys) : ∀ f r i, i ∈ docsFor s f r → Desc s r i ∧ visible s i = true := by
  intro f
  induction f with
  | zero => intro r i h; simp [docsFor] at h
  | succ f ih =>
    intro r i h
    rw [docsFor] at h
    split at h
    · rename_i hv
      rcases List.mem_cons.mp h with rfl | h
      · exact ⟨.refl _, hv⟩
      · obtain ⟨c, hc, hi⟩ := List.mem_flatMap.mp h
        obtain ⟨hd, hvi⟩ := ih c i hi
        exact ⟨.head hc hd, hvi⟩
    · simp at h

theorem visible_of_desc {s : Sys} (w : WF s) {a i : Nat} (h : Desc s a i) (hv : visible s i = true) :
    visible s a = true := by
  induction h with
  | refl i => exact hv
  | @head a c i hm _ ih => exact visible_parent (w.contents_parent a c hm) (ih hv)

/-- parents are numbered lower, so the fuel `s.n - r` is enough below `r` -/
theorem docsFor_complete {s : Sys} (w : WF s) {i : Nat} (hv : visible s i = true) :
    ∀ f r, Desc s r i → r < s.n → s.n ≤ f + r → i ∈ docsFor s f r := by
  intro f
  induction f with
  | zero => intro r _ hr hf; omega
  | succ f ih =>
    intro r h hr hf
    rw [docsFor, if_pos (visible_of_desc w h hv)]
    cases h with
    | refl => exact List.mem_cons_self
    | @head _ c _ hm hd =>
      have hc := w.contents_lt r c hm
      have hlt : r < c := w.parent_lt c r hc (w.contents_parent r c hm)
      exact List.mem_cons_of_mem _ (List.mem_flatMap.mpr ⟨c, hm, ih c hd hc (by omega)⟩)

theorem mem_reached {s : Sys} {i : Nat} (h : i ∈ reached s) : reachable s i ∧ visible s i = true := by
  obtain ⟨r, hr, hi⟩ := List.mem_flatMap.mp h
  obtain ⟨hd, hv⟩ := docsFor_sound s _ _ _ hi
  exact ⟨⟨r, hr, hd⟩, hv⟩

theorem mem_reached_iff {s : Sys} (w : WF s) (i : Nat) :
    i ∈ reached s ↔ reachable s i ∧ visible s i = true :=
  ⟨mem_reached, fun ⟨⟨r, hr, hd⟩, hv⟩ =>
    List.mem_flatMap.mpr ⟨r, hr, docsFor_complete w hv s.n r hd (w.roots_lt r hr) (by omega)⟩⟩

theorem mem_pages_iff {s : Sys} (w : WF s) (i : Nat) :
    i ∈ pages s ↔ reachable s i ∧ visible s i = true ∧ (s.ob i).kind.ownPage = true := by
  rw [pages, List.mem_filter, mem_reached_iff w, and_assoc]

theorem visible_of_mem_pages {s : Sys} {i : Nat} (h : i ∈ pages s) : visible s i = true :=
  (mem_reached (List.mem_filter.mp h).1).2

theorem reachable_desc {s : Sys} {a t : Nat} (h : reachable s a) (hd : Desc s a t) : reachable s t := by
  obtain ⟨r, hr, hra⟩ := h
  exact ⟨r, hr, hra.trans hd⟩

theorem reachable_child {s : Sys} {p c : Nat} (h : reachable s p) (hc : c ∈ (s.ob p).contents) : reachable s c :=
  reachable_desc h (.head hc (.refl c))

theorem reachable_cases {s : Sys} (w : WF s) {i : Nat} (h : reachable s i) :
    (i ∈ s.roots ∧ (s.ob i).parent = none) ∨ ∃ p, (s.ob i).parent = some p ∧ reachable s p ∧ i ∈ (s.ob p).contents := by
  obtain ⟨r, hr, hd⟩ := h
  rcases hd.tail_cases with rfl | ⟨p, hdp, hi⟩
  · exact .inl ⟨hr, w.roots_parent _ hr⟩
  · exact .inr ⟨p, w.contents_parent p i hi, ⟨r, hr, hdp⟩, hi⟩

theorem reachable_parent {s : Sys} (w : WF s) {i q : Nat} (h : reachable s i) (hp : (s.ob i).parent = some q) :
    reachable s q := by
  rcases reachable_cases w h with ⟨_, hn⟩ | ⟨p, hp', hr, _⟩
  · rw [hn] at hp; cases hp
  · rw [hp] at hp'; cases hp'; exact hr

theorem reachable_of_desc {s : Sys} (w : WF s) {a i : Nat} (hd : Desc s a i) (hr : reachable s i) : reachable s a := by
  induction hd with
  | refl i => exact hr
  | @head a c i hm _ ih => exact reachable_parent w (ih hr) (w.contents_parent a c hm)

/-- since cb98646 a visible object is its parent's `contents` entry, all the way up to a root -/
theorem visible_reachable {s : Sys} (w : WF s) : ∀ f i, visibleAux s f i = true → reachable s i := by
  intro f
  induction f with
  | zero => intro i h; simp [visibleAux] at h
  | succ f ih =>
    intro i h
    obtain ⟨h1, h2⟩ := visibleAux_succ h
    cases hp : (s.ob i).parent with
    | none => exact ⟨i, w.orphan_root i (lt_of_not_hidden h1) hp, .refl i⟩
    | some p => exact reachable_child (ih p (h2 p hp).2) (List.mem_of_find?_eq_some (h2 p hp).1)

theorem reachable_of_visible {s : Sys} (w : WF s) {i : Nat} (h : visible s i = true) : reachable s i :=
  visible_reachable w _ i h

theorem superseded_not_reachable {s : Sys} (w : WF s) {i : Nat} (h : superseded s i = true) : ¬ reachable s i := by
  intro hr
  unfold superseded at h
  rcases reachable_cases w hr with ⟨hroot, hp⟩ | ⟨p, hp, _, hc⟩
  · simp [hp, hroot] at h
  · simp [hp, hc] at h

theorem inside_superseded_not_reachable {s : Sys} (w : WF s) {a i : Nat} (h : superseded s a = true)
    (hd : Desc s a i) : ¬ reachable s i :=
  fun hr => superseded_not_reachable w h (reachable_of_desc w hd hr)

/-- **C11 (fixed in cb98646)** a superseded duplicate `'x 0'`, and everything inside it, is not visible (so nothing
lists it or links it: `no_trace` in PdProps/C12.lean) -/
theorem superseded_invisible {s : Sys} (w : WF s) {a i : Nat} (h : superseded s a = true) (hd : Desc s a i) :
    visible s i = false :=
  Bool.eq_false_iff.mpr fun hv => inside_superseded_not_reachable w h hd (reachable_of_visible w hv)

/-! ### addresses: which `url`s lead to a written file and, for a member, to an anchor of it -/

theorem Kind.ownPage_of_isModule {k : Kind} (h : k.isModule = true) : k.ownPage = true := by
  cases k <;> simp_all [Kind.isModule, Kind.ownPage]

theorem pageFile_inj {s : Sys} (w : WF s) {p q : Nat} (hp : p < s.n) (hq : q < s.n)
    (h : pageFile s p = pageFile s q) : p = q := by
  refine w.names p q hp hq ?_
  revert h
  fun_cases pageFile s p <;> fun_cases pageFile s q
  case case1.case1 h1 h2 => exact fun _ => List.singleton_inj.mp (h1.symm.trans h2)
  case case2.case2 => exact File.page.inj
  all_goals nofun

theorem pageFile_ne_summary (s : Sys) (p : Nat) (x : SPage) : pageFile s p ≠ .summary x := by
  unfold pageFile; split <;> simp

theorem url_own {s : Sys} {i : Nat} (h : (s.ob i).kind.ownPage = true) : url s i = some ⟨pageFile s i, none⟩ := by
  simp [url, pageObject, h]

theorem url_member {s : Sys} (w : WF s) {i p : Nat} (hi : i < s.n) (h : (s.ob i).kind.ownPage = false)
    (hp : (s.ob i).parent = some p) : url s i = some ⟨pageFile s p, some (s.ob i).name⟩ := by
  have : p ≠ i := Nat.ne_of_lt (w.parent_lt i p hi hp)
  simp [url, pageObject, h, hp, this]

theorem mem_written_iff (s : Sys) (f : File) :
    f ∈ written s ↔ f ∈ summaryFiles s ∨ (∃ p, p ∈ pages s ∧ pageFile s p = f) ∨ f ∈ aliasFiles s := by
  simp [written, pageFiles]

theorem mem_summaryFiles {s : Sys} {f : File} :
    f ∈ summaryFiles s ↔ (∃ x, f = .summary x) ∨ (f = .index ∧ hasIndexPage s = true) := by
  simp only [summaryFiles, List.mem_append, List.mem_cons, List.mem_ite_nil_right, List.not_mem_nil, or_false]
  cases f with
  | summary x => cases x <;> simp
  | _ => simp

theorem mem_aliasFiles {s : Sys} {f : File} (h : f ∈ aliasFiles s) :
    ∃ r, r ∈ s.roots ∧ visible s r = true ∧ rootNames s = [(s.ob r).name] ∧ f = .page (s.ob r).name := by
  revert h
  fun_cases aliasFiles s
  case case2 nm hnm hc _ =>
    simp only [Bool.or_eq_true, Bool.not_eq_true', not_or, Bool.not_eq_false] at hc
    obtain ⟨r, hr, hrv⟩ := List.any_eq_true.mp hc.2
    have hn : (s.ob r).name = nm := by
      have : (s.ob r).name ∈ rootNames s := List.mem_eraseDups.mpr (List.mem_map.mpr ⟨r, hr, rfl⟩)
      rw [hnm] at this
      exact List.mem_singleton.mp this
    exact fun h => ⟨r, hr, hrv, hn ▸ hnm, hn ▸ List.mem_singleton.mp h⟩
  all_goals nofun

/-- the second case: index.html written as the project's `IndexPage` (several roots; since a09aa28 also when the
only root is hidden) -/
theorem pageFile_written {s : Sys} (w : WF s) {i : Nat} (hi : i < s.n) (h : pageFile s i ∈ written s) :
    i ∈ pages s ∨ (pageFile s i = .index ∧ hasIndexPage s = true) := by
  rcases (mem_written_iff s _).mp h with h | ⟨p, hp, he⟩ | h
  · rcases mem_summaryFiles.mp h with ⟨x, hx⟩ | hx
    · exact absurd hx (pageFile_ne_summary s i x)
    · exact .inr hx
  · exact .inl (pageFile_inj w (visible_lt (visible_of_mem_pages hp)) hi he ▸ hp)
  · -- the alias is named after the only root name: were it the page of `i`, that page would be index.html
    obtain ⟨r, _, _, hr, hf⟩ := mem_aliasFiles h
    unfold pageFile at hf
    split at hf
    · cases hf
    · rename_i hne
      exact absurd (File.page.inj hf ▸ hr) hne

theorem mem_anchorsOf_page {s : Sys} (w : WF s) {p : Nat} (hp : p < s.n) (a : Name) :
    a ∈ anchorsOf s (pageFile s p) ↔
      p ∈ pages s ∧ ∃ c, c ∈ methods s p ∧ (a = (s.ob c).name ∨ a = fullName s c) := by
  unfold anchorsOf
  simp only [pageFile_ne_summary, if_false, List.append_nil, List.mem_flatMap, List.mem_filter, decide_eq_true_eq,
    List.mem_cons, List.not_mem_nil, or_false]
  constructor
  · rintro ⟨q, ⟨hq, he⟩, hc⟩
    exact pageFile_inj w (visible_lt (visible_of_mem_pages hq)) hp he ▸ ⟨hq, hc⟩
  · exact fun ⟨hq, hc⟩ => ⟨p, ⟨hq, rfl⟩, hc⟩

theorem mem_methods {s : Sys} {p c : Nat} :
    c ∈ methods s p ↔ c ∈ (s.ob p).contents ∧ (s.ob c).kind.ownPage = false ∧ visible s c = true := by
  simp [methods, List.mem_filter]

theorem fullName_of_orphan {s : Sys} {r : Nat} (h : (s.ob r).parent = none) : fullName s r = (s.ob r).name := by
  unfold fullName
  rw [pathAux]
  simp [h, List.intercalate]

theorem fullName_of_parent {s : Sys} {i p : Nat} (hp : (s.ob i).parent = some p) :
    fullName s i = List.intercalate ['.'] (pathAux s s.n p ++ [(s.ob i).name]) := by
  unfold fullName
  rw [pathAux]
  simp [hp]

/-- of the two anchors of each member shown on a page, the short one belongs to the member of that name
(qualified names are pairwise different, and no member is named like the qualified name of another) -/
theorem name_anchor_iff {s : Sys} (w : WF s) {i p : Nat} (hi : i < s.n) (hp : (s.ob i).parent = some p) :
    (s.ob i).name ∈ anchorsOf s (pageFile s p) ↔ p ∈ pages s ∧ i ∈ methods s p := by
  rw [mem_anchorsOf_page w (Nat.lt_trans (w.parent_lt i p hi hp) hi)]
  refine and_congr_right fun _ => ⟨?_, fun hm => ⟨i, hm, .inl rfl⟩⟩
  rintro ⟨c, hc, ha⟩
  have hcc := (mem_methods.mp hc).1
  have hcp := w.contents_parent p c hcc
  have hcn := w.contents_lt p c hcc
  rcases ha with ha | ha
  · exact w.names i c hi hcn (by rw [fullName_of_parent hp, fullName_of_parent hcp, ha]) ▸ hc
  · exact absurd ha (w.spellings i c hi hcn (by simp [hcp]))

theorem resolvesHref_full (s : Sys) (pg f : File) (fr : Option Name) :
    resolvesHref s pg ⟨some f, fr⟩ = true ↔ f ∈ written s ∧ (∀ a, fr = some a → a ∈ anchorsOf s f) := by
  unfold resolvesHref resolvesHrefIn
  cases fr <;> simp

theorem pageFile_mem_written {s : Sys} {p : Nat} (h : p ∈ pages s) : pageFile s p ∈ written s :=
  (mem_written_iff s _).mpr (.inr (.inl ⟨p, h, rfl⟩))

/-- **C11** `url o` leads to a written file (and anchor) **iff** `o` is visible and reached through
`contents` from a root — in particular not for a superseded duplicate `'x 0'`, nor for anything inside one.
One address is shared: with a single root, index.html is the root's page; when that root is hidden the
project's `IndexPage` is written there instead (a09aa28), so the address of the hidden root leads to a
file that is not its page (`pages` does not contain it). -/
theorem url_resolves_iff {s : Sys} (w : WF s) {i : Nat} (hi : i < s.n) :
    urlResolves s i = true ↔
      (visible s i = true ∧ reachable s i) ∨
        ((s.ob i).kind.ownPage = true ∧ pageFile s i = .index ∧ hasIndexPage s = true) := by
  have vis : ∀ {j}, visible s j = true → visible s j = true ∧ reachable s j := fun h => ⟨h, reachable_of_visible w h⟩
  cases ho : (s.ob i).kind.ownPage with
  | true =>
    have : urlResolves s i = true ↔ pageFile s i ∈ written s := by
      simp [urlResolves, url_own ho, resolvesHref_full]
    rw [this]
    constructor
    · exact fun h => (pageFile_written w hi h).imp (fun hp => vis (visible_of_mem_pages hp)) fun hx => ⟨rfl, hx⟩
    · rintro (⟨hv, hr⟩ | ⟨_, hx⟩)
      · exact pageFile_mem_written ((mem_pages_iff w i).mpr ⟨hr, hv, ho⟩)
      · exact (mem_written_iff s _).mpr (.inl (mem_summaryFiles.mpr (.inr hx)))
  | false =>
    simp only [Bool.false_eq_true, false_and, or_false]
    cases hp : (s.ob i).parent with
    | none => rw [Kind.ownPage_of_isModule (w.orphan_module i hi hp)] at ho; cases ho
    | some p =>
      have : urlResolves s i = true ↔ pageFile s p ∈ written s ∧ (s.ob i).name ∈ anchorsOf s (pageFile s p) := by
        simp [urlResolves, url_member w hi ho hp, resolvesHref_full]
      rw [this, name_anchor_iff w hi hp]
      constructor
      · exact fun ⟨_, _, hm⟩ => vis (mem_methods.mp hm).2.2
      · rintro ⟨hv, hr⟩
        have hpp : p ∈ pages s :=
          (mem_pages_iff w p).mpr ⟨reachable_parent w hr hp, visible_parent hp hv, w.parent_page i p hi hp⟩
        exact ⟨pageFile_mem_written hpp, hpp, mem_methods.mpr ⟨visible_in_contents hp hv, ho, hv⟩⟩

theorem url_resolves_of_visible {s : Sys} (w : WF s) {i : Nat} (hv : visible s i = true) : urlResolves s i = true :=
  (url_resolves_iff w (visible_lt hv)).mpr (.inl ⟨hv, reachable_of_visible w hv⟩)

/-- **C11** `url o` leads to a written file (and anchor) exactly for the visible objects (the address index.html,
where the project's `IndexPage` may stand, aside) -/
theorem url_resolves_iff_visible {s : Sys} (w : WF s) {i : Nat} (hi : i < s.n)
    (hx : ¬ (pageFile s i = .index ∧ hasIndexPage s = true)) :
    urlResolves s i = true ↔ visible s i = true := by
  refine ⟨fun h => ?_, url_resolves_of_visible w⟩
  rcases (url_resolves_iff w hi).mp h with h | ⟨_, h⟩
  · exact h.1
  · exact absurd h hx

/-- **C11** every visible module, package and class reached through `contents` has its own page at the
address links use for it (`hr` follows from `w` and `hv`: `reachable_of_visible`) -/
theorem own_page_exists {s : Sys} (w : WF s) {i : Nat} (hr : reachable s i) (hv : visible s i = true)
    (ho : (s.ob i).kind.ownPage = true) : urlResolves s i = true :=
  url_resolves_of_visible w hv

/-- **C11** every visible function and variable reached through `contents` has an anchor on its
parent's page, at the address links use for it (`hr` as in `own_page_exists`) -/
theorem member_anchor_exists {s : Sys} (w : WF s) {i : Nat} (hr : reachable s i) (hv : visible s i = true)
    (ho : (s.ob i).kind.ownPage = false) : urlResolves s i = true :=
  url_resolves_of_visible w hv

/-! ### the `roots` dict of `findRootClasses`; what is listed in classIndex.html -/

theorem mem_subclassesFrom (s : Sys) : ∀ f c x, x ∈ subclassesFrom s f c → x = c ∨ visible s x = true := by
  intro f
  induction f with
  | zero => intro c x h; cases h
  | succ f ih =>
    intro c x h
    rw [subclassesFrom] at h
    rcases List.mem_cons.mp h with rfl | h
    · exact .inl rfl
    · obtain ⟨sc, hsc, hx⟩ := List.mem_flatMap.mp h
      have hv := (Bool.and_eq_true _ _ ▸ (List.mem_filter.mp hsc).2).2
      exact .inr ((ih sc x hx).elim (· ▸ hv) id)

theorem mem_rset {r : Roots} {k : List Char} {v : RootVal} {kv : List Char × RootVal} (h : kv ∈ rset r k v) :
    kv ∈ r ∨ kv = (k, v) := by
  induction r with
  | nil => exact .inr (List.mem_singleton.mp h)
  | cons x r ih =>
    obtain ⟨k', v'⟩ := x
    simp only [rset] at h
    split at h
    · rename_i hk
      rcases List.mem_cons.mp h with h | h
      · exact .inr (by rw [h, hk])
      · exact .inl (List.mem_cons_of_mem _ h)
    · rcases List.mem_cons.mp h with h | h
      · exact .inl (h ▸ List.mem_cons_self)
      · exact (ih h).imp_left (List.mem_cons_of_mem _)

theorem rset_forall {P : List Char × RootVal → Prop} {r : Roots} {k : List Char} {v : RootVal}
    (hr : ∀ kv, kv ∈ r → P kv) (hv : P (k, v)) : ∀ kv, kv ∈ rset r k v → P kv :=
  fun kv h => (mem_rset h).elim (hr kv) (· ▸ hv)

theorem rget_eq (r : Roots) (k : List Char) : rget r k = dget r k := by
  induction r with
  | nil => rfl
  | cons e r ih => simp only [rget, dget, ih]

theorem rset_eq : rset = dset := by
  funext r k v
  induction r with
  | nil => rfl
  | cons e r ih => simp only [rset, dset, ih]

theorem rset_has (r : Roots) (k : List Char) (v : RootVal) : (k, v) ∈ rset r k v :=
  rset_eq ▸ mem_of_dget (by rw [dget_dset, if_pos rfl])

theorem rget_mem {r : Roots} {k : List Char} {v : RootVal} (h : rget r k = some v) : (k, v) ∈ r :=
  mem_of_dget (rget_eq r k ▸ h)

theorem addBase_eq (r : Roots) (nm : List Char) (c : Nat) :
    addBase r nm c = rset r nm (.many ((rget r nm).elim [] RootVal.classes ++ [c])) := by
  unfold addBase
  cases rget r nm with
  | none => rfl
  | some v => cases v <;> rfl

/-- a property of the `roots` dict is kept by the loop body for a class `c` if it is kept by the assignments the
body makes: `roots[fullName] = …` for a class without bases, `addBase` (as the one assignment it is, `addBase_eq`)
for every base that is unresolved or not visible -/
theorem rootStep_induct {s : Sys} {P : Roots → Prop} {r : Roots} {c : Nat} (hr : P r)
    (hone : visible s c = true → (∀ l, rget r (fullName s c) ≠ some (.many l)) →
      P (rset r (fullName s c) (.one c)))
    (hmany : visible s c = true → ∀ l, rget r (fullName s c) = some (.many l) →
      P (rset r (fullName s c) (.many (l ++ [c]))))
    (hbase : hasSpace (s.ob c).name = false ∧ visible s c = true → ∀ r' nb,
      nb ∈ (s.ob c).baseNames.zip (s.ob c).bases → (∀ b, nb.2 = some b → visible s b = false) → P r' →
      P (rset r' nb.1 (.many ((rget r' nb.1).elim [] RootVal.classes ++ [c])))) :
    P (rootStep s r c) := by
  unfold rootStep
  simp only [addBase_eq]
  split
  · exact hr
  · rename_i hc
    have hc : hasSpace (s.ob c).name = false ∧ visible s c = true := by simpa using hc
    split
    · split
      · rename_i l hl; exact hmany hc.2 l hl
      · rename_i hn; exact hone hc.2 hn
    · refine List.foldlRecOn _ _ hr fun r' h nb hnb => ?_
      cases hb : nb.2 with
      | none => exact hbase hc r' nb hnb (fun b h' => by rw [hb] at h'; cases h') h
      | some b =>
        cases hvb : visible s b with
        | true => simpa [hvb] using h
        | false => simpa [hvb] using hbase hc r' nb hnb (fun b' h' => by rw [hb] at h'; cases h'; exact hvb) h

def RootsVisible (s : Sys) (r : Roots) : Prop := ∀ kv, kv ∈ r → ∀ c, c ∈ kv.2.classes → visible s c = true

theorem rootStep_visible {s : Sys} {r : Roots} {c : Nat} (hr : RootsVisible s r) : RootsVisible s (rootStep s r c) :=
  rootStep_induct hr
    (fun hv _ => rset_forall hr fun _ hx => List.mem_singleton.mp hx ▸ hv)
    (fun hv _ hl => rset_forall hr fun x hx =>
      (List.mem_append.mp hx).elim (hr _ (rget_mem hl) x) fun hx => List.mem_singleton.mp hx ▸ hv)
    (fun hc r' nb _ _ hr' => rset_forall hr' fun x hx => by
      rcases List.mem_append.mp hx with hx | hx
      · cases h : rget r' nb.1 with
        | none => rw [h] at hx; cases hx
        | some v => rw [h] at hx; exact hr' _ (rget_mem h) x hx
      · exact List.mem_singleton.mp hx ▸ hc.2)

theorem findRootClasses_visible (s : Sys) : RootsVisible s (findRootClasses s) :=
  List.foldlRecOn _ _ (fun _ h => nomatch h) fun _ h _ _ => rootStep_visible h

def Stored (r : Roots) (x : Nat) : Prop := ∃ kv, kv ∈ r ∧ x ∈ kv.2.classes

def KeysNodup (r : Roots) : Prop := (r.map (·.1)).Nodup

def OnesKeyed (s : Sys) (r : Roots) : Prop := ∀ k x, (k, RootVal.one x) ∈ r → k = fullName s x ∧ x < s.n

structure RootsInv (s : Sys) (r : Roots) : Prop where
  nodup : KeysNodup r
  ones : OnesKeyed s r

theorem rset_nodup {r : Roots} (hn : KeysNodup r) (k : List Char) (v : RootVal) : KeysNodup (rset r k v) :=
  rset_eq ▸ dset_uniq hn

theorem rset_inv {s : Sys} {r : Roots} (h : RootsInv s r) (k : List Char) {v : RootVal}
    (hv : ∀ x, v = .one x → k = fullName s x ∧ x < s.n) : RootsInv s (rset r k v) :=
  ⟨rset_nodup h.nodup k v, fun k' x hm => (mem_rset hm).elim (h.ones k' x) fun e => by cases e; exact hv x rfl⟩

theorem rootStep_inv {s : Sys} {r : Roots} (h : RootsInv s r) (c : Nat) : RootsInv s (rootStep s r c) :=
  rootStep_induct h
    (fun hv _ => rset_inv h _ fun x e => by cases e; exact ⟨rfl, visible_lt hv⟩)
    (fun _ _ _ => rset_inv h _ fun _ e => nomatch e)
    (fun _ _ _ _ _ h' => rset_inv h' _ fun _ e => nomatch e)

/-- with distinct keys, membership is lookup: `rset` replaces the entry under `k` and keeps the others -/
theorem stored_rset {r : Roots} {k : List Char} {v : RootVal} {x : Nat} (h : KeysNodup r ∧ Stored r x)
    (hsup : ∀ v0, rget r k = some v0 → ∀ y, y ∈ v0.classes → y ∈ v.classes) :
    KeysNodup (rset r k v) ∧ Stored (rset r k v) x := by
  obtain ⟨hn, ⟨k', v'⟩, hkv, hx⟩ := h
  refine ⟨rset_nodup hn k v, ?_⟩
  rw [rset_eq]
  by_cases hk : k' = k
  · exact ⟨(k, v), (mem_dset_iff hn).mpr (.inl ⟨rfl, rfl⟩), hsup v' (rget_eq r k ▸ hk ▸ dget_of_mem hn hkv) x hx⟩
  · exact ⟨(k', v'), (mem_dset_iff hn).mpr (.inr ⟨hk, hkv⟩), hx⟩

theorem addBase_stored_new (r : Roots) (nm : List Char) (c : Nat) : Stored (addBase r nm c) c :=
  addBase_eq r nm c ▸ ⟨_, rset_has _ _ _, List.mem_append_right _ (List.mem_singleton.mpr rfl)⟩

theorem rootStep_keep {s : Sys} (w : WF s) {r : Roots} (h : RootsInv s r) (c : Nat) {x : Nat} (hx : Stored r x) :
    Stored (rootStep s r c) x :=
  (rootStep_induct (P := fun r' => KeysNodup r' ∧ Stored r' x) ⟨h.nodup, hx⟩
    (fun hv hn => stored_rset ⟨h.nodup, hx⟩ fun v0 h0 y hy => by
      -- what `roots[fullName] = c` overwrites is a class of that qualified name: `c` itself
      cases v0 with
      | many l => exact absurd h0 (hn l)
      | one k' =>
        obtain ⟨hk, hlt⟩ := h.ones _ _ (rget_mem h0)
        rw [List.mem_singleton.mp hy, w.names k' c hlt (visible_lt hv) hk.symm]
        exact List.mem_singleton.mpr rfl)
    (fun _ l hl => stored_rset ⟨h.nodup, hx⟩ fun v0 h0 y hy => by
      rw [hl] at h0; cases h0; exact List.mem_append_left _ hy)
    (fun _ _ _ _ _ h' => stored_rset h' fun v0 h0 y hy => by rw [h0]; exact List.mem_append_left _ hy)).2

theorem visBases_nil {s : Sys} {c : Nat} (h : visBases s c = []) {b : Nat} (hb : some b ∈ (s.ob c).bases) :
    visible s b = false := by
  refine Bool.eq_false_iff.mpr fun hv => ?_
  simpa [hv] using List.filterMap_eq_nil_iff.mp h (some b) hb

/-- a listed class without a visible resolved base is put into the dict by its own loop iteration: under its
qualified name, or by the `addBase` for its last base -/
theorem rootStep_adds {s : Sys} (r : Roots) {c : Nat} (hv : visible s c = true)
    (hns : hasSpace (s.ob c).name = false) (hlen : (s.ob c).bases.length = (s.ob c).baseNames.length)
    (hvb : visBases s c = []) : Stored (rootStep s r c) c := by
  unfold rootStep
  simp only [hns, hv, Bool.not_true, Bool.or_self, Bool.false_eq_true, if_false]
  split
  · split <;> exact ⟨_, rset_has _ _ _, by simp [RootVal.classes]⟩
  · rename_i hne
    have hz : (s.ob c).baseNames.zip (s.ob c).bases ≠ [] := fun hz => by
      have hl := congrArg List.length hz
      rw [List.length_zip, hlen, Nat.min_self] at hl
      exact hne (by simpa using List.eq_nil_of_length_eq_zero hl)
    rw [← List.dropLast_concat_getLast hz, List.foldl_append, List.foldl_cons, List.foldl_nil]
    have hmem := (List.of_mem_zip (List.getLast_mem hz)).2
    cases hb : (List.getLast _ hz).2 with
    | none => exact addBase_stored_new _ _ _
    | some b =>
      rw [hb] at hmem
      simpa [visBases_nil hvb hmem] using addBase_stored_new _ _ _

theorem stored_of_no_visBase {s : Sys} (w : WF s) {c : Nat} (hc : c ∈ classes s) (hv : visible s c = true)
    (hns : hasSpace (s.ob c).name = false) (hlen : (s.ob c).bases.length = (s.ob c).baseNames.length)
    (hvb : visBases s c = []) : Stored (findRootClasses s) c := by
  unfold findRootClasses
  obtain ⟨pre, post, hsplit⟩ := List.append_of_mem hc
  rw [hsplit, List.foldl_append, List.foldl_cons]
  have h0 : RootsInv s [] := ⟨List.nodup_nil, fun _ _ h => nomatch h⟩
  have h1 : RootsInv s (pre.foldl (rootStep s) []) := List.foldlRecOn pre _ h0 fun _ h c _ => rootStep_inv h c
  exact (List.foldlRecOn (motive := fun r => RootsInv s r ∧ Stored r c) post _
    ⟨rootStep_inv h1 c, rootStep_adds _ hv hns hlen hvb⟩
    fun _ h x _ => ⟨rootStep_inv h.1 x, rootStep_keep w h.1 x h.2⟩).2

theorem mem_classIndexListed {s : Sys} {c : Nat} (h : c ∈ classIndexListed s) : visible s c = true := by
  unfold classIndexListed at h
  obtain ⟨kv, hkv, hc⟩ := List.mem_flatMap.mp h
  obtain ⟨r, hr, hc⟩ := List.mem_flatMap.mp hc
  rcases mem_subclassesFrom s _ _ _ hc with rfl | hv
  · exact findRootClasses_visible s kv hkv _ hr
  · exact hv

/-! ### where every emitted mention comes from (one pass over the producer table) -/

def ctxSelf (e : Emit) : Prop := e.ctx = none ∨ e.ctx = some e.page

def Shown (s : Sys) (pf : File) (o : Nat) : Prop :=
  ∃ p, p ∈ pages s ∧ pf = pageFile s p ∧ (o = p ∨ o ∈ methods s p)

/-- what the code path of each row establishes about an emitted mention -/
def Origin (s : Sys) (e : Emit) : Prop :=
  match e.row with
  | .table | .initTable =>
      e.ctx = some e.page ∧ e.marked = some (cssPrivate s e.target) ∧ visible s e.target = true ∧
      ∃ p, p ∈ pages s ∧ e.page = pageFile s p ∧ e.target ∈ (s.ob p).contents
  | .baseTable => e.ctx = some e.page ∧ e.marked = some (cssPrivate s e.target) ∧ visible s e.target = true
  | .detail =>
      e.marked = some (cssPrivate s e.target) ∧ visible s e.target = true ∧
      ∃ p, p ∈ pages s ∧ e.page = pageFile s p ∧ e.target ∈ methods s p
  | .sidebarTitle =>
      e.ctx = some (pageFile s e.target) ∧
      ∃ p, p ∈ pages s ∧ e.page = pageFile s p ∧
        (e.target = p ∨ (s.ob p).parent = some e.target ∨ (s.ob p).modul = some e.target)
  | .sidebarItem =>
      e.ctx = some e.page ∧ e.marked = some (isPrivate s e.target) ∧ visible s e.target = true ∧
      ∃ p, p ∈ pages s ∧ e.page = pageFile s p ∧
        ∃ a, (a = p ∨ (s.ob p).parent = some a ∨ (s.ob p).modul = some a) ∧ Desc s a e.target
  | .sidebarInherited => e.ctx = some e.page ∧ e.marked = some (isPrivate s e.target) ∧ visible s e.target = true
  | .heading =>
      e.ctx = some e.page ∧ (s.ob e.target).kind.ownPage = true ∧
      ∃ p, p ∈ pages s ∧ e.page = pageFile s p ∧ e.target ∈ chain s p
  | .classSig => e.ctx = some e.page ∧ ∃ p, p ∈ pages s ∧ some e.target ∈ (s.ob p).sigrefs
  | .knownSub | .overriddenIn => e.ctx = some e.page ∧ visible s e.target = true
  | .overrides =>
      e.ctx = some e.page ∧ ∃ p, p ∈ pages s ∧ ∃ b nm, b ∈ (s.ob p).mro.drop 1 ∧ member s b nm = some e.target ∧
        (nm = (s.ob p).name ∨ ∃ c, c ∈ methods s p ∧ nm = (s.ob c).name)
  | .baseName => e.ctx = some e.page ∧ ∃ a, a ∈ (s.ob e.target).contents ∧ visible s a = true
  | .baseVia => e.ctx = some e.page ∧ ∃ p, p ∈ pages s ∧ e.target ∈ (s.ob p).mro
  | .docXref =>
      ∃ o op, Shown s e.page o ∧ e.target ∈ (s.ob o).xrefs ∧ pageObject s o = some op ∧ e.ctx = some (pageFile s op)
  | .fieldXref =>
      ∃ o op, Shown s e.page o ∧ e.target ∈ (s.ob o).laterefs ∧ pageObject s o = some op ∧ e.ctx = some (pageFile s op)
  | .annXref =>
      ∃ o op, Shown s e.page o ∧ e.target ∈ (s.ob o).annrefs ∧ pageObject s o = some op ∧ e.ctx = some (pageFile s op)
  | .valXref =>
      ∃ o op, Shown s e.page o ∧ e.target ∈ (s.ob o).valrefs ∧ pageObject s o = some op ∧ e.ctx = some (pageFile s op)
  | .extraInfo => e.ctx = some e.page ∧ ∃ p, p ∈ pages s ∧ e.target ∈ (s.ob p).ctors
  | .sumCopy | .classIndexSum | .allDocsSum =>
      e.ctx = none ∧ ∃ o, visible s o = true ∧ e.target ∈ (s.ob o).xrefs
  | .modIndexSum => e.ctx = none ∧ ∃ o, (visible s o = true ∨ o ∈ s.roots) ∧ e.target ∈ (s.ob o).xrefs
  | .modIndexRoot => e.ctx = some e.page ∧ e.marked = some (isPrivate s e.target) ∧ e.target ∈ s.roots ∧ visible s e.target = true
  | .modIndex =>
      e.ctx = some e.page ∧ e.marked = some (isPrivate s e.target) ∧ visible s e.target = true ∧
      ∃ r, r ∈ s.roots ∧ Desc s r e.target
  | .classIndex => e.ctx = some e.page ∧ visible s e.target = true ∧ e.marked = some (classRowPrivate s e.target)
  | .nameIndex => e.ctx = some e.page ∧ visible s e.target = true ∧ e.marked = some (ctxPrivate s e.target)
  | .undoc => e.ctx = some e.page ∧ visible s e.target = true ∧ e.marked = some (ctxPrivate s e.target)
  | .allDocs => e.ctx = none ∧ e.marked = some ((s.ob e.target).privacy == .priv) ∧ visible s e.target = true
  | .indexRoots => e.ctx = some e.page ∧ e.target ∈ s.roots ∧ visible s e.target = true

theorem mem_sumLinks {s : Sys} {row : Row} {pg : File} {o : Nat} {e : Emit} (h : e ∈ sumLinks s row pg o) :
    e.row = row ∧ e.page = pg ∧ e.ctx = none ∧ e.target ∈ (s.ob o).xrefs := by
  unfold sumLinks at h
  split at h
  · cases h
  · obtain ⟨t, ht, rfl⟩ := List.mem_map.mp h
    exact ⟨rfl, rfl, rfl, ht⟩

/-- the common shape of `docLinks`, `lateLinks`, `annLinks`, `valLinks` (links made through an object's own linker):
one for each target, shortened for the page of the object -/
theorem mem_ownLinks {s : Sys} {row : Row} {p o : Nat} {refs : Obj → List Nat} {e : Emit} (hp : p ∈ pages s)
    (ho : o = p ∨ o ∈ methods s p)
    (h : e ∈ match pageObject s o with
      | none => []
      | some op => (refs (s.ob o)).map (link row (pageFile s p) (some (pageFile s op)))) :
    e.row = row ∧ ∃ o op, Shown s e.page o ∧ e.target ∈ refs (s.ob o) ∧ pageObject s o = some op ∧
      e.ctx = some (pageFile s op) := by
  split at h
  · cases h
  · rename_i op hop
    obtain ⟨t, ht, rfl⟩ := List.mem_map.mp h
    exact ⟨rfl, o, op, ⟨p, hp, rfl, ho⟩, ht, hop, rfl⟩

theorem mem_assemble {s : Sys} {l : List Nat} {i : Nat} (h : i ∈ assemble s l) : visible s i = true :=
  (Bool.and_eq_true _ _ ▸ (List.mem_filter.mp h).2).2

theorem mem_sideContent (s : Sys) (pf : File) : ∀ k ob e, e ∈ sideContent s pf k ob →
    e.page = pf ∧ e.ctx = some pf ∧ e.marked = some (isPrivate s e.target) ∧ visible s e.target = true ∧
      ((e.row = .sidebarItem ∧ Desc s ob e.target) ∨ e.row = .sidebarInherited) := by
  intro k
  induction k with
  | zero =>
    intro ob e h
    rw [sideContent] at h
    rcases List.mem_append.mp h with h | h
    · obtain ⟨c, hc, rfl⟩ := List.mem_map.mp h
      obtain ⟨hcc, hcv⟩ := List.mem_filter.mp hc
      exact ⟨rfl, rfl, rfl, hcv, .inl ⟨rfl, .head hcc (.refl _)⟩⟩
    · split at h
      · obtain ⟨c, hc, rfl⟩ := List.mem_map.mp h
        exact ⟨rfl, rfl, rfl, (Bool.and_eq_true _ _ ▸ (List.mem_filter.mp hc).2).1, .inr rfl⟩
      · cases h
  | succ k ih =>
    intro ob e h
    rw [sideContent] at h
    rcases List.mem_append.mp h with h | hin
    · obtain ⟨c, hc, he⟩ := List.mem_flatMap.mp h
      obtain ⟨hcc, hcv⟩ := List.mem_filter.mp hc
      rcases List.mem_cons.mp he with rfl | he
      · exact ⟨rfl, rfl, rfl, hcv, .inl ⟨rfl, .head hcc (.refl _)⟩⟩
      · split at he
        · obtain ⟨h1, h2, h3, h4, h5⟩ := ih c e he
          exact ⟨h1, h2, h3, h4, h5.imp_left fun ⟨hr, hd⟩ => ⟨hr, .head hcc hd⟩⟩
        · cases he
    · -- the inherited members close the list at every depth
      exact ih ob e (by cases k <;> (rw [sideContent]; exact List.mem_append_right _ hin))

theorem mem_submodules {s : Sys} {p c : Nat} (h : c ∈ submodules s p) :
    c ∈ (s.ob p).contents ∧ visible s c = true :=
  ⟨(List.mem_filter.mp h).1, (Bool.and_eq_true _ _ ▸ (List.mem_filter.mp h).2).2⟩

theorem origin_moduleSummary (s : Sys) : ∀ f isRoot m, visible s m = true → reachable s m →
    (isRoot = true → m ∈ s.roots) → ∀ e ∈ moduleSummary s f isRoot m, Origin s e := by
  intro f
  induction f with
  | zero => intro _ _ _ _ _ _ h; cases h
  | succ f ih =>
    intro isRoot m hv hr hroot
    rw [moduleSummary]
    simp only [List.forall_mem_cons, List.forall_mem_append, List.forall_mem_ite_nil, List.forall_mem_flatMap, and_assoc]
    refine ⟨?_, fun e h => ?_, fun _ c hc => ?_⟩
    · cases isRoot
      · simp only [Origin, entry, Bool.false_eq_true, if_false]
        exact ⟨trivial, trivial, hv, hr⟩
      · simp only [Origin, entry, if_true]
        exact ⟨trivial, trivial, hroot rfl, hv⟩
    · obtain ⟨h1, _, h3, h4⟩ := mem_sumLinks h
      simp only [Origin, h1]
      exact ⟨h3, m, .inl hv, h4⟩
    · obtain ⟨hcc, hcv⟩ := mem_submodules hc
      exact ih false c hcv (reachable_child hr hcc) (fun h => nomatch h)

theorem mem_visibleAll {s : Sys} {o : Nat} (h : o ∈ visibleAll s) : visible s o = true :=
  (List.mem_filter.mp h).2

theorem mem_unmaskedAttrs {s : Sys} {bl : List Nat} {a : Nat} (h : a ∈ unmaskedAttrs s bl) :
    visible s a = true ∧ ∃ b0 rest, bl = b0 :: rest ∧ a ∈ (s.ob b0).contents := by
  cases bl with
  | nil => cases h
  | cons b0 rest =>
    obtain ⟨hc, hv⟩ := List.mem_filter.mp h
    exact ⟨(Bool.and_eq_true _ _ ▸ hv).1, b0, rest, rfl, hc⟩

theorem mem_classMembers {s : Sys} {c : Nat} {bl attrs : List Nat} (h : (bl, attrs) ∈ classMembers s c) :
    attrs = unmaskedAttrs s bl ∧ attrs ≠ [] ∧ ∃ i, bl = ((s.ob c).mro.take (i+1)).reverse := by
  obtain ⟨bl', hbl, hh⟩ := List.mem_filterMap.mp h
  simp only at hh
  split at hh
  · cases hh
  · rename_i hne
    cases hh
    obtain ⟨i, _, hi⟩ := List.mem_map.mp hbl
    exact ⟨rfl, by simpa using hne, i, hi.symm⟩

theorem mem_baseLists {s : Sys} {c : Nat} {x : List Nat × List Nat} (h : x ∈ baseLists s c) : x ∈ classMembers s c := by
  unfold baseLists at h
  split at h
  · cases h
  · rename_i heq
    rw [heq]
    split at h
    · exact List.mem_cons_of_mem _ h
    · exact h

theorem mem_take_reverse_dropLast {l : List Nat} {i : Nat} {b0 : Nat} {rest : List Nat} {x : Nat}
    (h : (l.take (i+1)).reverse = b0 :: rest) (hx : x ∈ rest.dropLast.reverse) : x ∈ l := by
  have h1 : x ∈ rest := List.dropLast_subset _ (List.mem_reverse.mp hx)
  have h2 : x ∈ (l.take (i+1)).reverse := by rw [h]; exact List.mem_cons_of_mem _ h1
  exact List.mem_of_mem_take (List.mem_reverse.mp h2)

theorem mem_tableChildren {s : Sys} {p c : Nat} (h : c ∈ tableChildren s p) :
    c ∈ (s.ob p).contents ∧ visible s c = true := by
  unfold tableChildren at h
  split at h
  · exact mem_submodules h
  · exact List.mem_filter.mp h

theorem mem_initChildren {s : Sys} {p c : Nat} (h : c ∈ initChildren s p) :
    c ∈ (s.ob p).contents ∧ visible s c = true := by
  unfold initChildren at h
  split at h
  · exact ⟨(List.mem_filter.mp h).1, (Bool.and_eq_true _ _ ▸ (List.mem_filter.mp h).2).2⟩
  · cases h

theorem mem_sideSections {s : Sys} {p sec : Nat} (h : sec ∈ sideSections s p) :
    sec = p ∨ (s.ob p).parent = some sec ∨ (s.ob p).modul = some sec := by
  unfold sideSections moduleOf at h
  rcases List.mem_cons.mp h with rfl | h
  · exact .inl rfl
  · right
    split at h
    · split at h
      · cases h
      · rename_i q hq; exact .inl (List.mem_singleton.mp h ▸ hq)
    · split at h
      · cases h
      · rename_i m hm; exact .inr (List.mem_singleton.mp h ▸ hm)

theorem origin_of_sum {s : Sys} {row : Row} {pg : File} {o : Nat}
    (hrow : row = .sumCopy ∨ row = .classIndexSum ∨ row = .allDocsSum) (hv : visible s o = true) :
    ∀ e ∈ sumLinks s row pg o, Origin s e := by
  intro e h
  obtain ⟨h1, _, h3, h4⟩ := mem_sumLinks h
  rcases hrow with rfl | rfl | rfl <;> (simp only [Origin, h1]; exact ⟨h3, o, hv, h4⟩)

theorem origin_override {s : Sys} {p : Nat} {nm : Name} (hp : p ∈ pages s)
    (hnm : nm = (s.ob p).name ∨ ∃ c, c ∈ methods s p ∧ nm = (s.ob c).name) :
    ∀ e ∈ overrideInfo s (pageFile s p) p nm, Origin s e := by
  intro e h
  unfold overrideInfo at h
  split at h
  · cases h
  rcases List.mem_append.mp h with h | h
  · split at h
    · cases h
    · rename_i b hb
      split at h
      · cases h
      · rename_i t ht
        cases List.mem_singleton.mp h
        simp only [Origin, link]
        exact ⟨trivial, p, hp, b, nm, List.mem_of_find?_eq_some hb, ht, hnm⟩
  · obtain ⟨t, ht, rfl⟩ := List.mem_map.mp h
    simp only [Origin, link]
    exact ⟨trivial, mem_assemble ht⟩

theorem origin_ownLinks {s : Sys} {p o : Nat} (hp : p ∈ pages s) (ho : o = p ∨ o ∈ methods s p) :
    (∀ e ∈ docLinks s (pageFile s p) o, Origin s e) ∧ (∀ e ∈ lateLinks s (pageFile s p) o, Origin s e) ∧
    (∀ e ∈ annLinks s (pageFile s p) o, Origin s e) ∧ ∀ e ∈ valLinks s (pageFile s p) o, Origin s e := by
  refine ⟨fun e h => ?_, fun e h => ?_, fun e h => ?_, fun e h => ?_⟩
  · unfold docLinks at h
    split at h
    · cases h
    · obtain ⟨h1, h2⟩ := mem_ownLinks hp ho h
      simp only [Origin, h1]
      exact h2
  · unfold lateLinks at h
    split at h
    · cases h
    · obtain ⟨h1, h2⟩ := mem_ownLinks hp ho h
      simp only [Origin, h1]
      exact h2
  · obtain ⟨h1, h2⟩ := mem_ownLinks hp ho h
    simp only [Origin, h1]
    exact h2
  · obtain ⟨h1, h2⟩ := mem_ownLinks hp ho h
    simp only [Origin, h1]
    exact h2

theorem origin_page {s : Sys} {p : Nat} (hp : p ∈ pages s) : ∀ e ∈ pageEmits s p, Origin s e := by
  -- `∀ e ∈ …, Origin s e` distributes over `++`, `flatMap`, `map`, `::`, `filter`, `if`: what is left is the producer
  -- table, one conjunct for each row
  simp only [pageEmits, headingLinks, List.forall_mem_ite_nil, List.forall_mem_append, List.forall_mem_flatMap,
    List.forall_mem_map, List.forall_mem_cons, List.forall_mem_filter, List.forall_mem_filterMap, and_assoc]
  refine ⟨?_, ?_, (origin_ownLinks hp (.inl rfl)).1, (origin_ownLinks hp (.inl rfl)).2.1, ?_, ?_, ?_, ?_, ?_⟩
  · -- heading
    intro a hc ho
    simp only [Origin, link]
    exact ⟨trivial, ho, p, hp, rfl, hc⟩
  · -- class extras
    refine fun _ => ⟨?_, ?_, origin_override hp (.inl rfl), ?_⟩
    · rintro (_ | t) ht e he <;> cases he
      simp only [Origin, link]
      exact ⟨trivial, p, hp, ht⟩
    · intro t ht
      simp only [Origin, link]
      exact ⟨trivial, mem_assemble ht⟩
    · intro t ht
      simp only [Origin, link]
      exact ⟨trivial, p, hp, ht⟩
  · -- main table
    intro c hc
    obtain ⟨hcc, hcv⟩ := mem_tableChildren hc
    refine ⟨?_, origin_of_sum (.inl rfl) hcv⟩
    simp only [Origin, entry]
    exact ⟨trivial, trivial, hcv, p, hp, rfl, hcc⟩
  · -- inherited-member tables
    rintro _ ⟨bl, attrs⟩ hx
    obtain ⟨rfl, hne, i, hbl⟩ := mem_classMembers (mem_baseLists hx)
    constructor
    · intro e he
      cases bl with
      | nil => cases he
      | cons b0 rest =>
        rcases List.mem_cons.mp he with rfl | he
        · -- the base the members come from has a visible member
          obtain ⟨a, ha⟩ := List.exists_mem_of_ne_nil _ hne
          obtain ⟨hv, _, _, hb, hc⟩ := mem_unmaskedAttrs ha
          cases hb
          simp only [Origin, link]
          exact ⟨trivial, a, hc, hv⟩
        · obtain ⟨x, hx', rfl⟩ := List.mem_map.mp he
          simp only [Origin, link]
          exact ⟨trivial, p, hp, mem_take_reverse_dropLast hbl.symm hx'⟩
    · intro c hc
      have hv := (mem_unmaskedAttrs hc).1
      refine ⟨?_, origin_of_sum (.inl rfl) hv⟩
      simp only [Origin, entry]
      exact ⟨trivial, trivial, hv⟩
  · -- package __init__ table
    intro c hc
    obtain ⟨hcc, hcv⟩ := mem_initChildren hc
    refine ⟨?_, origin_of_sum (.inl rfl) hcv⟩
    simp only [Origin, entry]
    exact ⟨trivial, trivial, hcv, p, hp, rfl, hcc⟩
  · -- member details
    intro c hc
    refine ⟨?_, fun _ => origin_override hp (.inr ⟨c, hc, rfl⟩), origin_ownLinks hp (.inr hc)⟩
    simp only [Origin, entry]
    exact ⟨trivial, (mem_methods.mp hc).2.2, p, hp, rfl, hc⟩
  · -- sidebar
    intro e h
    unfold sidebarEmits at h
    split at h
    · cases h
    · obtain ⟨sec, hsec, he⟩ := List.mem_flatMap.mp h
      have hsec := mem_sideSections hsec
      rcases List.mem_cons.mp he with rfl | he
      · simp only [Origin, link]
        exact ⟨trivial, p, hp, rfl, hsec⟩
      · obtain ⟨h1, h2, h3, h4, h5⟩ := mem_sideContent s _ _ _ _ he
        rcases h5 with ⟨hr, hd⟩ | hr
        · simp only [Origin, hr]
          exact ⟨h2.trans (h1 ▸ rfl), h3, h4, p, hp, h1, sec, hsec, hd⟩
        · simp only [Origin, hr]
          exact ⟨h2.trans (h1 ▸ rfl), h3, h4⟩

theorem origin_summary {s : Sys} : ∀ e ∈ summaryEmits s, Origin s e := by
  simp only [summaryEmits, classIndexEmits, List.forall_mem_ite_nil, List.forall_mem_append, List.forall_mem_flatMap,
    List.forall_mem_map, List.forall_mem_cons, List.forall_mem_filter, and_assoc]
  refine ⟨?_, ?_, ?_, ?_, ?_, ?_⟩
  · -- module index
    exact fun r hr hrv => origin_moduleSummary s _ true r hrv ⟨r, hr, .refl r⟩ fun _ => hr
  · -- class index
    intro c hc
    have hv := mem_classIndexListed hc
    refine ⟨?_, origin_of_sum (.inr (.inl rfl)) hv⟩
    simp only [Origin, entry]
    exact ⟨trivial, hv, trivial⟩
  · intro o ho
    simp only [Origin, entry]
    exact ⟨trivial, mem_visibleAll ho, trivial⟩
  · intro o ho _
    simp only [Origin, entry]
    exact ⟨trivial, mem_visibleAll ho, trivial⟩
  · intro _ o ho1 ho2
    simp only [Origin, link]
    exact ⟨trivial, ho1, ho2⟩
  · intro o ho
    have hv := mem_visibleAll ho
    refine ⟨?_, origin_of_sum (.inr (.inr rfl)) hv⟩
    simp only [Origin, entry]
    exact ⟨trivial, trivial, hv⟩

theorem origin {s : Sys} {e : Emit} (h : e ∈ requests s) : Origin s e := by
  unfold requests at h
  rcases List.mem_append.mp h with h | h
  · obtain ⟨p, hp, he⟩ := List.mem_flatMap.mp h
    exact origin_page hp e he
  · exact origin_summary e h

/-! ### every emitted link resolves: its target is visible, and it was shortened for the page it is written into -/

theorem module_in_chain {s : Sys} (w : WF s) {p m : Nat} (hp : p < s.n) (h : (s.ob p).modul = some m) :
    m ∈ chain s p ∧ (s.ob m).kind.isModule = true := by
  rw [w.modules p hp] at h
  unfold moduleByChain at h
  exact ⟨List.mem_of_find?_eq_some h, by simpa using List.find?_some h⟩

/-- same-page shortening does not change where a link leads, as long as the link is written into the
page the shortening was computed for -/
theorem shorten_resolves (s : Sys) (pg : File) (u : Url) (ctx : Option File)
    (h : ctx = none ∨ ctx = some pg ∨ u.frag = none) :
    resolvesHref s pg (shorten u ctx) = resolvesHref s pg ⟨some u.file, u.frag⟩ := by
  unfold shorten
  rcases h with rfl | rfl | h
  · rfl
  · cases hf : u.frag with
    | none => rfl
    | some fr =>
      simp only
      split
      · rename_i he
        simp [resolvesHref, resolvesHrefIn, he]
      · rfl
  · cases ctx <;> simp [h]

def ctxOk (s : Sys) (e : Emit) : Prop :=
  e.ctx = none ∨ e.ctx = some e.page ∨ (s.ob e.target).kind.ownPage = true

theorem resolves_of_visible {s : Sys} (w : WF s) (e : Emit) (hv : visible s e.target = true)
    (hc : ctxOk s e) : resolves s e = true := by
  have hu := url_resolves_of_visible w hv
  unfold resolves resolvesIn href
  unfold urlResolves at hu
  cases hurl : url s e.target with
  | none => rw [hurl] at hu; cases hu
  | some u =>
    rw [hurl] at hu
    simp only [Option.map_some, Bool.or_eq_true, Bool.not_eq_true']
    right
    show resolvesHref s e.page (shorten u e.ctx) = true
    rw [shorten_resolves]
    · rw [resolvesHref_full] at hu ⊢; exact hu
    · rcases hc with h | h | h
      · exact .inl h
      · exact .inr (.inl h)
      · rw [url_own h] at hurl
        injection hurl with hurl
        subst hurl
        exact .inr (.inr rfl)

theorem shown_page {s : Sys} (w : WF s) {pg : File} {o op : Nat} (h : Shown s pg o) (hp : pageObject s o = some op) :
    pageFile s op = pg := by
  obtain ⟨p, hpp, rfl, rfl | ho⟩ := h
  · simp [pageObject, ((mem_pages_iff w o).mp hpp).2.2] at hp
    rw [hp]
  · obtain ⟨hc, hk, _⟩ := mem_methods.mp ho
    simp [pageObject, hk, w.contents_parent p o hc] at hp
    rw [hp]

/-- every `taglink` call is made with the address of the page the link is written into (or none), or for
a target that has its own page, whose address has no fragment to shorten (since 1da744b also for docstrings that
are inherited or whose object was re-exported) -/
theorem ctx_ok {s : Sys} (w : WF s) {e : Emit} (h : e ∈ requests s) (hl : e.row.isLink = true) : ctxOk s e := by
  have ho := origin h
  obtain ⟨row, page, ctx, target, marked, linked⟩ := e
  cases row
  case detail => cases hl
  case sidebarTitle =>
    obtain ⟨_, p, hp, _, ht⟩ := ho
    have hpp := (mem_pages_iff w p).mp hp
    rcases ht with ht | ht | ht
    · exact .inr (.inr (ht ▸ hpp.2.2))
    · exact .inr (.inr (w.parent_page p _ (visible_lt hpp.2.1) ht))
    · exact .inr (.inr (Kind.ownPage_of_isModule (module_in_chain w (visible_lt hpp.2.1) ht).2))
  case docXref | fieldXref | annXref | valXref =>
    obtain ⟨o, op, hs, _, hpo, hc⟩ := ho
    exact .inr (.inl (hc.trans (congrArg some (shown_page w hs hpo))))
  case sumCopy | classIndexSum | allDocsSum | modIndexSum | allDocs => exact .inl ho.1
  -- every other row passes the address of the page it writes
  all_goals exact .inr (.inl ho.1)

theorem taglinkGuard_some {s : Sys} {r e : Emit} (h : taglinkGuard s r = some e) :
    (e = r ∧ visible s r.target = true) ∨
      (e = { r with linked := false } ∧ visible s r.target = false ∧ r.row.isEntry = true) := by
  unfold taglinkGuard at h
  split at h
  · rename_i hv
    exact .inl ⟨(Option.some.inj h).symm, hv⟩
  · rename_i hv
    split at h
    · rename_i hrow
      exact .inr ⟨(Option.some.inj h).symm, by simpa using hv, hrow⟩
    · cases h

theorem mem_emits {s : Sys} {e : Emit} (h : e ∈ emits s) :
    (e ∈ requests s ∧ visible s e.target = true) ∨
      (e.linked = false ∧ visible s e.target = false ∧
        ∃ r, r ∈ requests s ∧ r.row.isEntry = true ∧ r.row = e.row ∧ r.target = e.target ∧ r.marked = e.marked) := by
  obtain ⟨r, hr, hg⟩ := List.mem_filterMap.mp h
  rcases taglinkGuard_some hg with ⟨rfl, hv⟩ | ⟨rfl, hv, hrow⟩
  · exact .inl ⟨hr, hv⟩
  · exact .inr ⟨rfl, hv, r, hr, hrow, rfl, rfl, rfl⟩

/-- the guard changes nothing but `linked`, of which `Origin` does not speak -/
theorem origin_emit {s : Sys} {e : Emit} (h : e ∈ emits s) : Origin s e := by
  obtain ⟨r, hr, hg⟩ := List.mem_filterMap.mp h
  rcases taglinkGuard_some hg with ⟨rfl, _⟩ | ⟨rfl, _⟩
  · exact origin hr
  · exact (origin hr : Origin s r)

/-- **C11, every producer row (30), full strength.** Every hyperlink the run emits leads to a file that
was written and, if it has a fragment, to an anchor of that file.
(Before cb98646 / aaed9bd / 1da744b / f972163 / 0ff33e4 this was false in five ways: see the `…_old` counterexamples.) -/
theorem links_resolve {s : Sys} (w : WF s) {e : Emit} (h : e ∈ emits s) : resolves s e = true := by
  rcases mem_emits h with ⟨hr, hv⟩ | ⟨hl, _⟩
  · cases hlink : e.row.isLink with
    | false => simp [resolves, resolvesIn, hlink]
    | true => exact resolves_of_visible w e hv (ctx_ok w hr hlink)
  · simp [resolves, resolvesIn, hl]

/-! ### "View In Hierarchy": every class page's anchor is in classIndex.html -/

theorem sf_self (s : Sys) (f c : Nat) : c ∈ subclassesFrom s (f+1) c := by
  rw [subclassesFrom]; exact List.mem_cons_self

theorem sf_mono_le (s : Sys) : ∀ {f g c x : Nat}, f ≤ g → x ∈ subclassesFrom s f c → x ∈ subclassesFrom s g c := by
  intro f
  induction f with
  | zero => intro g c x _ h; cases h
  | succ f ih =>
    intro g c x hle h
    cases g with
    | zero => exact absurd hle (Nat.not_succ_le_zero f)
    | succ g =>
      rw [subclassesFrom] at h ⊢
      rcases List.mem_cons.mp h with h | h
      · exact h ▸ List.mem_cons_self
      · obtain ⟨sc, hsc, hx⟩ := List.mem_flatMap.mp h
        exact List.mem_cons_of_mem _ (List.mem_flatMap.mpr ⟨sc, hsc, ih (Nat.le_of_succ_le_succ hle) hx⟩)

theorem sf_step (s : Sys) : ∀ f r x y, x ∈ subclassesFrom s f r →
    y ∈ ((s.ob x).subclasses.filter fun sc => !hasSpace (fullName s sc) && visible s sc) →
    y ∈ subclassesFrom s (f+1) r := by
  intro f
  induction f with
  | zero => intro r x y h; simp [subclassesFrom] at h
  | succ f ih =>
    intro r x y hx hy
    rw [subclassesFrom] at hx
    rw [subclassesFrom]
    rcases List.mem_cons.mp hx with hx | hx
    · subst hx
      exact List.mem_cons_of_mem _ (List.mem_flatMap.mpr ⟨y, hy, sf_self s f y⟩)
    · obtain ⟨sc, hsc, hxs⟩ := List.mem_flatMap.mp hx
      exact List.mem_cons_of_mem _ (List.mem_flatMap.mpr ⟨sc, hsc, ih sc x y hxs hy⟩)

/-- what `hierWf` says about one visible class -/
structure GoodClass (s : Sys) (c : Nat) : Prop where
  reg : c ∈ classes s
  vis : visible s c = true
  noSpace : hasSpace (s.ob c).name = false
  noSpaceFull : hasSpace (fullName s c) = false
  len : (s.ob c).bases.length = (s.ob c).baseNames.length
  depth : (baseDepth s s.n c).isSome = true
  bases : ∀ b, b ∈ visBases s c → (s.ob b).kind = .cls ∧ c ∈ (s.ob b).subclasses

theorem visBases_visible {s : Sys} {c b : Nat} (h : b ∈ visBases s c) : visible s b = true := by
  obtain ⟨_ | b', _, hb⟩ := List.mem_filterMap.mp h
  · cases hb
  · simp only at hb
    split at hb
    · rename_i hv; exact Option.some.inj hb ▸ hv
    · cases hb

theorem goodClass_of_hierWf {s : Sys} (hw : hierWf s = true) {c : Nat} (hk : (s.ob c).kind = .cls)
    (hv : visible s c = true) : GoodClass s c := by
  have := List.all_eq_true.mp hw c (List.mem_range.mpr (visible_lt hv))
  simp only [hk, hv, beq_self_eq_true, Bool.and_self, Bool.not_true, Bool.false_or, Bool.and_eq_true,
    List.contains_iff_mem, Bool.not_eq_true', beq_iff_eq, List.all_eq_true] at this
  obtain ⟨⟨⟨⟨⟨h1, h2⟩, h3⟩, h4⟩, h5⟩, h6⟩ := this
  exact ⟨List.mem_filter.mpr ⟨h1, by simp [hk]⟩, hv, h2, h3, h4, h5, h6⟩

theorem baseDepth_succ {s : Sys} {f c d : Nat} (h : baseDepth s (f+1) c = some d) :
    (visBases s c = [] ∧ d = 0) ∨ ∃ b db, b ∈ visBases s c ∧ baseDepth s f b = some db ∧ d = db + 1 := by
  rw [baseDepth] at h
  split at h
  · rename_i hvb
    exact .inl ⟨hvb, (Option.some.inj h).symm⟩
  · rename_i b _ hvb
    obtain ⟨db, hb, rfl⟩ := Option.map_eq_some_iff.mp h
    exact .inr ⟨b, db, hvb ▸ List.mem_cons_self, hb, rfl⟩

theorem baseDepth_lt (s : Sys) : ∀ f c d, baseDepth s f c = some d → d < f := by
  intro f
  induction f with
  | zero => intro c d h; cases h
  | succ f ih =>
    intro c d h
    rcases baseDepth_succ h with ⟨_, rfl⟩ | ⟨b, db, _, hb, rfl⟩
    · omega
    · have := ih b db hb
      omega

/-- every visible class is listed: below a class stored in the dict, at the depth of its chain of first
visible bases -/
theorem listed_of_depth {s : Sys} (w : WF s) (hw : hierWf s = true) : ∀ f c d, (s.ob c).kind = .cls →
    visible s c = true → baseDepth s f c = some d →
    ∃ r, Stored (findRootClasses s) r ∧ c ∈ subclassesFrom s (d+1) r := by
  intro f
  induction f with
  | zero => intro c d _ _ h; cases h
  | succ f ih =>
    intro c d hk hv h
    have g := goodClass_of_hierWf hw hk hv
    rcases baseDepth_succ h with ⟨hvb, rfl⟩ | ⟨b, db, hbm, hb, rfl⟩
    · exact ⟨c, stored_of_no_visBase w g.reg hv g.noSpace g.len hvb, sf_self s 0 c⟩
    · -- the first visible base is listed, and lists `c` among its subclasses
      obtain ⟨hbk, hsub⟩ := g.bases b hbm
      obtain ⟨r, hr, hbr⟩ := ih b db hbk (visBases_visible hbm) hb
      exact ⟨r, hr, sf_step s (db+1) r b c hbr (List.mem_filter.mpr ⟨hsub, by simp [g.noSpaceFull, hv]⟩)⟩

/-- **C11** the "View In Hierarchy" link of every class page (`classIndex.html#<qualified name>`) leads to an
anchor of classIndex.html: every visible class is listed there — under `hierWf s`, what post-processing establishes
about the class hierarchy (beyond `WF`). -/
theorem inhierarchy_resolves {s : Sys} (w : WF s) (hw : hierWf s = true) {x : File × Name} (h : x ∈ inHierarchy s) :
    x.2 ∈ anchorsOf s (.summary .classIndex) := by
  obtain ⟨p, hp, rfl⟩ := List.mem_map.mp h
  obtain ⟨hpp, hk⟩ := List.mem_filter.mp hp
  have hk : (s.ob p).kind = .cls := of_decide_eq_true hk
  have hv := visible_of_mem_pages hpp
  obtain ⟨d, hd⟩ := Option.isSome_iff_exists.mp (goodClass_of_hierWf hw hk hv).depth
  obtain ⟨r, ⟨kv, hkv, hr⟩, hpr⟩ := listed_of_depth w hw s.n p d hk hv hd
  have hpn : p ∈ subclassesFrom s s.n r := sf_mono_le s (baseDepth_lt s _ _ _ hd) hpr
  unfold anchorsOf
  simp only [if_true, List.mem_append]
  exact .inl (.inr (List.mem_map.mpr ⟨p, List.mem_flatMap.mpr ⟨kv, hkv, List.mem_flatMap.mpr ⟨r, hr, hpn⟩⟩, rfl⟩))

/-- **C11** the letter links of nameIndex.html (`#X` under every other letter) lead to a letter heading -/
theorem letter_links_resolve {s : Sys} {x : Char × Char} (h : x ∈ letterLinks s) :
    [x.2] ∈ anchorsOf s (.summary .nameIndex) := by
  unfold letterLinks at h
  obtain ⟨l, _, hx⟩ := List.mem_flatMap.mp h
  obtain ⟨o, ho, rfl⟩ := List.mem_map.mp hx
  unfold anchorsOf
  simp only [if_true, List.mem_append]
  right
  exact List.mem_map.mpr ⟨o, (List.mem_filter.mp ho).1, rfl⟩

/-- every visible object (with a non-empty name) is filed under a letter that has a heading -/
theorem letter_of_visible {s : Sys} {o : Nat} {c : Char} (h : o ∈ visibleAll s) (hc : initialOf s o = some c) :
    c ∈ letters s := by
  unfold letters
  exact List.mem_eraseDups.mpr (List.mem_filterMap.mpr ⟨o, h, hc⟩)

/-! ### historical counterexamples: how the statement failed before the fixes -/

theorem all_resolve {s : Sys} (h : wf s = true) : (emits s).all (resolves s) = true :=
  List.all_eq_true.mpr fun _ he => links_resolve (wf_iff s h) he

/-- an object of module 0 (the examples with a second module override `modul`) -/
def mkObj (name : Name) (kind : Kind) (parent : Option Nat) (privacy : Level) (contents : List Nat) : Obj :=
  { (default : Obj) with name := name, kind := kind, parent := parent, privacy := privacy, contents := contents,
                         modul := some 0 }

/-- `m.py`: `class C: pass` twice. Object 1 is the superseded first definition `'C 0'`: registered in
`allobjects`, not in `m.contents`. -/
def sSuperseded : Sys :=
  { objs := #[ mkObj ['m'] .module none .pub [2],
              mkObj ['C', ' ', '0'] .cls (some 0) .pub [],
              mkObj ['C'] .cls (some 0) .pub [] ],
    all := [0, 1, 2], roots := [0], depth := 1, nosidebar := false }

/-- DESIGN §8-4, before cb98646: the old `isVisible` called `'C 0'` visible, so nameIndex.html,
undoccedSummary.html, all-documents.html and the search index (which iterate the visible objects of
`allobjects`) linked `m.C%200.html`, which is never written. Now it is invisible and nothing mentions it. -/
theorem links_resolve_counterexample_superseded_old :
    wf sSuperseded = true ∧ superseded sSuperseded 1 = true ∧
    visibleOld sSuperseded 1 = true ∧ (visibleAllOld sSuperseded).contains 1 = true ∧
    url sSuperseded 1 = some ⟨.page ['m', '.', 'C', ' ', '0'], none⟩ ∧ urlResolves sSuperseded 1 = false ∧
    -- fixed code
    visible sSuperseded 1 = false ∧ (emits sSuperseded).all (fun e => e.target != 1 && resolves sSuperseded e) = true := by
  decide +kernel

/-- `class _H` is HIDDEN, `class V(_H)` is visible. -/
def sHidden : Sys :=
  { objs := #[ mkObj ['m'] .module none .pub [1, 2],
              mkObj ['_', 'H'] .cls (some 0) .hidden [],
              { mkObj ['V'] .cls (some 0) .pub [] with
                  bases := [some 1], baseNames := [['m', '.', '_', 'H']], mro := [2, 1], sigrefs := [some 1] } ],
    all := [0, 1, 2], roots := [0], depth := 1, nosidebar := false }

/-- DESIGN §8-11, before aaed9bd: every request was rendered as a link, also the class-signature request
for the hidden base (`format_class_signature` has no guard of its own). Now `taglink` refuses it. -/
theorem links_resolve_counterexample_hidden_old :
    wf sHidden = true ∧ visible sHidden 1 = false ∧ urlResolves sHidden 1 = false ∧
    ((requests sHidden).any fun e => e.row == .classSig && e.target == 1) = true ∧
    -- fixed code
    (emits sHidden).all (fun e => e.target != 1 && resolves sHidden e) = true := by
  decide +kernel

/-- `class B` with `meth` and `o` (docstring: see `L{meth}`); `class S(B)` redefines `o` without docstring.
`S.o` (5) shows the docstring of `B.o` (3), whose linker remembers the page of `B` (`docCtx = 1`). -/
def sContext : Sys :=
  { objs := #[ mkObj ['m'] .module none .pub [1, 4],
              { mkObj ['B'] .cls (some 0) .pub [2, 3] with mro := [1] },
              mkObj ['m', 'e', 't', 'h'] .function (some 1) .pub [],
              { mkObj ['o'] .function (some 1) .pub [] with docSource := some 3, docCtx := some 1, xrefs := [2], hasDoc := true },
              { mkObj ['S'] .cls (some 0) .pub [5] with
                  bases := [some 1], baseNames := [['m', '.', 'B']], mro := [4, 1], sigrefs := [some 1] },
              { mkObj ['o'] .function (some 4) .pub [] with docSource := some 3, docCtx := some 1, xrefs := [2], hasDoc := true } ],
    all := [0, 1, 2, 3, 4, 5], roots := [0], depth := 1, nosidebar := false }

/-- before 1da744b: the link to the visible, reached `B.meth` was shortened to `#meth` relative to
`m.B.html` and written into `m.S.html`, which has no such anchor. Now the context is `m.S.html`. -/
theorem links_resolve_counterexample_context_old :
    wf sContext = true ∧ visible sContext 2 = true ∧ urlResolves sContext 2 = true ∧
    ((docLinksOld sContext (.page ['m', '.', 'S']) 5).any fun e =>
        e.ctx == some (.page ['m', '.', 'B']) && !resolves sContext e) = true ∧
    -- fixed code
    ((docLinks sContext (.page ['m', '.', 'S']) 5).all fun e =>
        e.ctx == some (.page ['m', '.', 'S']) && resolves sContext e) = true ∧
    (emits sContext).all (resolves sContext) = true :=
  have hwf : wf sContext = true := by decide +kernel
  ⟨hwf, by decide +kernel, by decide +kernel, by decide +kernel, by decide +kernel, all_resolve hwf⟩

/-- `sContext` with `L{meth}` in a `@see` field (`laterefs`), which `FieldHandler.format()` formats -/
def sLateField : Sys :=
  { objs := #[ mkObj ['m'] .module none .pub [1, 4],
              { mkObj ['B'] .cls (some 0) .pub [2, 3] with mro := [1] },
              mkObj ['m', 'e', 't', 'h'] .function (some 1) .pub [],
              { mkObj ['o'] .function (some 1) .pub [] with docSource := some 3, docCtx := some 1, laterefs := [2], hasDoc := true },
              { mkObj ['S'] .cls (some 0) .pub [5] with
                  bases := [some 1], baseNames := [['m', '.', 'B']], mro := [4, 1], sigrefs := [some 1] },
              { mkObj ['o'] .function (some 4) .pub [] with docSource := some 3, docCtx := some 1, laterefs := [2], hasDoc := true } ],
    all := [0, 1, 2, 3, 4, 5], roots := [0], depth := 1, nosidebar := false }

/-- before 0ff33e4: the `@see` field of the inherited docstring was formatted outside `switch_context(obj)`, so its
link to `B.meth` was shortened to `#meth` relative to `m.B.html` and written into `m.S.html`. -/
theorem links_resolve_counterexample_field_old :
    wf sLateField = true ∧ visible sLateField 2 = true ∧ urlResolves sLateField 2 = true ∧
    ((lateLinksOld sLateField (.page ['m', '.', 'S']) 5).any fun e =>
        e.row == .fieldXref && e.ctx == some (.page ['m', '.', 'B']) && !resolves sLateField e) = true ∧
    -- fixed code
    ((lateLinks sLateField (.page ['m', '.', 'S']) 5).all fun e =>
        e.row == .fieldXref && e.ctx == some (.page ['m', '.', 'S']) && resolves sLateField e) = true ∧
    ((emits sLateField).any fun e => e.row == .fieldXref && e.page == .page ['m', '.', 'S']) = true ∧
    (emits sLateField).all (resolves sLateField) = true :=
  have hwf : wf sLateField = true := by decide +kernel
  ⟨hwf, by decide +kernel, by decide +kernel, by decide +kernel, by decide +kernel, by decide +kernel, all_resolve hwf⟩

/-- `pk/_i.py`: `D = 1`, `def f(x=D)`; `pk/__init__.py` re-exports `f` (`__all__ = ['f']`).
Object 3 is `pk.f` (moved), its linker still remembers the page of `pk._i` (`ownCtx = 1`). -/
def sValue : Sys :=
  { objs := #[ { mkObj ['p', 'k'] .package none .pub [1, 3] with modul := some 0 },
              { mkObj ['_', 'i'] .module (some 0) .priv [2] with modul := some 1 },
              { mkObj ['D'] .attribute (some 1) .pub [] with modul := some 1 },
              { mkObj ['f'] .function (some 0) .pub [] with modul := some 0, valrefs := [2], ownCtx := some 1 } ],
    all := [0, 1, 2, 3], roots := [0], depth := 1, nosidebar := false }

/-- before f972163: the default value of the re-exported `pk.f` linked `pk._i.D` as `#D` on index.html,
where no such anchor exists (the linker kept the page of `pk._i`); the target itself is visible and its
address resolves. Now the linker's page is refreshed by `reparent`. -/
theorem links_resolve_counterexample_value_old :
    wf sValue = true ∧ visible sValue 2 = true ∧ urlResolves sValue 2 = true ∧
    ((valLinksOld sValue .index 3).any fun e =>
        e.target == 2 && e.ctx == some (.page ['p', 'k', '.', '_', 'i']) && !resolves sValue e) = true ∧
    -- fixed code
    (emits sValue).all (resolves sValue) = true ∧
    ((emits sValue).any fun e => e.row == .valXref && e.target == 2 && e.ctx == some .index) = true :=
  have hwf : wf sValue = true := by decide +kernel
  ⟨hwf, by decide +kernel, by decide +kernel, by decide +kernel, all_resolve hwf, by decide +kernel⟩

/-- the module `s` is the only root and HIDDEN -/
def sSoloHidden : Sys :=
  { objs := #[ mkObj ['s'] .module none .hidden [1], mkObj ['A'] .cls (some 0) .pub [] ],
    all := [0, 1], roots := [0], depth := 1, nosidebar := false }

/-- before a09aa28 no index.html was written for a project whose only root is hidden, although every summary page
links to it; since then the project's `IndexPage` is.  The address of the hidden root (index.html) leads to that page,
which is not a page *for* it. -/
theorem index_page_counterexample_old :
    wf sSoloHidden = true ∧ hasIndexPageOld sSoloHidden = false ∧ (pageFiles sSoloHidden).contains .index = false ∧
    -- fixed code
    (written sSoloHidden).contains .index = true ∧ pages sSoloHidden = [] ∧ urlResolves sSoloHidden 0 = true := by
  decide +kernel

/-- `class C` twice, `class D(C)` in between: D's base is the superseded `'C 0'`. -/
def sHierarchy : Sys :=
  { objs := #[ mkObj ['m'] .module none .pub [2, 3],
              mkObj ['C', ' ', '0'] .cls (some 0) .pub [],
              mkObj ['C'] .cls (some 0) .pub [],
              { mkObj ['D'] .cls (some 0) .pub [] with
                  bases := [some 1], baseNames := [['m', '.', 'C', ' ', '0']], mro := [3, 1], sigrefs := [some 1] } ],
    all := [0, 1, 2, 3], roots := [0], depth := 1, nosidebar := false }

/-- "View In Hierarchy" (`classIndex.html#m.D`), before cb98646: the base was visible, so `D` was neither a
root nor grouped under a name, and `findRootClasses` skips `'C 0'` (`' ' in cls.name`): `D` was not listed.
Now the base is invisible and `D` is listed under its name. -/
theorem inhierarchy_counterexample_old :
    wf sHierarchy = true ∧ (classIndexListedOld sHierarchy).contains 3 = false ∧
    -- fixed code
    ((inHierarchy sHierarchy).all fun (_, a) => (anchorsOf sHierarchy (.summary .classIndex)).contains a) = true := by
  decide +kernel

/-- `class K` (no bases, object 2) and `C_r` (object 1) whose base `m.K` could not be resolved; `C_r` is
registered first. -/
def sCollision : Sys :=
  { objs := #[ mkObj ['m'] .module none .pub [1, 2],
              { mkObj ['C', '_', 'r'] .cls (some 0) .pub [] with
                  bases := [none], baseNames := [['m', '.', 'K']], mro := [1], sigrefs := [none] },
              { mkObj ['K'] .cls (some 0) .pub [] with mro := [2] } ],
    all := [0, 1, 2], roots := [0], depth := 1, nosidebar := false }

/-- before 97be2c0: `roots['m.K'] = [C_r]` was overwritten by `roots['m.K'] = K`; `C_r` vanished from
classIndex.html and its "View In Hierarchy" link had no anchor. -/
theorem inhierarchy_counterexample_collision_old :
    wf sCollision = true ∧ (classIndexListedOld sCollision).contains 1 = false ∧
    -- fixed code
    (classIndexListed sCollision).contains 1 = true ∧
    ((inHierarchy sCollision).all fun (_, a) => (anchorsOf sCollision (.summary .classIndex)).contains a) = true := by
  decide +kernel

/-! ### non-vacuity: the hypotheses of the theorems above are met by systems with output -/

/-- `m.py`: `class K: def f(self): …`, everything visible -/
def sPlain : Sys :=
  { objs := #[ mkObj ['m'] .module none .pub [1],
              { mkObj ['K'] .cls (some 0) .priv [2] with mro := [1] },
              mkObj ['f'] .function (some 1) .pub [] ],
    all := [0, 1, 2], roots := [0], depth := 2, nosidebar := false }

example : wf sPlain = true ∧ (emits sPlain).length = 25 ∧
    ((emits sPlain).filter fun e => e.row.isLink && e.linked).length = 24 ∧
    (emits sPlain).all (resolves sPlain) = true := by decide +kernel
example : urlResolves sPlain 1 = true ∧ urlResolves sPlain 2 = true ∧
    url sPlain 2 = some ⟨.page ['m', '.', 'K'], some ['f']⟩ ∧ url sPlain 0 = some ⟨.index, none⟩ := by decide +kernel
example : urlResolves sSuperseded 1 = false ∧ urlResolves sSuperseded 2 = true := by decide +kernel
example : superseded sSuperseded 1 = true ∧ visible sSuperseded 1 = false := by decide +kernel

end Output
