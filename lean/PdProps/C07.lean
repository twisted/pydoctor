/-
C07 — a re-exported object is documented once, where exported, and stays reachable.

A re-export is a `Documentable.reparent`.  Onto a free name it leaves every object registered once, nothing registered
under the old name, and in the old parent an alias from the old name to the new one (`reparent_once`,
`reparent_leaves_alias`).  `System.find_object` on the old name walks from the root module along `contents` to the old
parent, follows that alias and walks on (`old_member_name_finds_of_forall`); `resolveName` falls back on it
(`old_import_resolves`).  For an arbitrary reference "stays reachable" is false: the two layouts at the end of the file.
Also here: the level of a relative import, pydoctor's arithmetic against importlib's (`relative_level`); the equations
of the `expandName` loop and what one component can produce (`expandLoop_component`); and that in a registry with the invariant where only modules are roots `expandName` returns and
`find_object` raises nothing but `LookupError` (`expandLoop_some`, `findObject_nocrash`).
-/
import PdModel.Names
import PdProps.C02

namespace Names
open Registry

theorem relativeBase_package (mp : Path) (k : Nat) :
    relativeBase mp true (k + 1) = pythonRelativeBase mp true (k + 1) := by
  cases mp with
  | nil => rfl
  | cons a t => simp [relativeBase, pythonRelativeBase]

theorem relativeBase_module (mp : Path) (k : Nat) :
    relativeBase mp false (k + 1) = relativeBase mp.dropLast true (k + 1) := by
  rcases List.eq_nil_or_concat mp with rfl | ⟨init, a, rfl⟩
  · rfl
  · simp only [relativeBase, Bool.false_eq_true, if_false, if_true, List.concat_eq_append, List.dropLast_concat,
      List.length_append, List.length_singleton, Nat.add_sub_cancel, Nat.add_lt_add_iff_right,
      Nat.add_sub_add_right, List.take_append_of_le_length (Nat.sub_le _ _)]

/-- for every importing module (package or not) and every level ≥ 1, the package pydoctor resolves a relative import
against is the one importlib computes — or both refuse ("relative import level too high" / ImportError) -/
theorem relative_level (mp : Path) (isPkg : Bool) (level : Nat) (h : 1 ≤ level) :
    relativeBase mp isPkg level = pythonRelativeBase mp isPkg level := by
  cases level with
  | zero => exact absurd h (Nat.not_succ_le_zero 0)
  | succ k =>
    cases isPkg
    · exact (relativeBase_module mp k).trans (relativeBase_package mp.dropLast k)
    · exact relativeBase_package mp k

example : relativeBase [['a'], ['b'], ['c']] false 2 = some [['a']] := by decide +kernel
example : pythonRelativeBase [['a'], ['b']] true 1 = some [['a'], ['b']] := by decide +kernel

/-- what the guard of fix 996ac8b changes: `find_object` answers as before or, when the root does not bind the first
component of the rest of the name, with `LookupError` -/
theorem findObject_old_or (e : Env) (full : Path) :
    findObject e full = findObjectOld e full ∨
    (findObject e full = .lookupError ∧
      ∃ r first tl ro, full = r :: first :: tl ∧ objFor e full = none ∧
        e.st.roots.find? (fun ro => match getObj e.st ro with | some o => o.name = r | none => false) = some ro ∧
        rootBinds e ro first = false) := by
  unfold findObject findObjectOld
  cases h1 : objFor e full with
  | some o => exact Or.inl rfl
  | none =>
    cases full with
    | nil => exact Or.inl rfl
    | cons r rest =>
      simp only
      cases hf : e.st.roots.find? (fun ro => match getObj e.st ro with | some o => o.name = r | none => false) with
      | none => exact Or.inl rfl
      | some ro =>
        cases rest with
        | nil => exact Or.inl rfl
        | cons first tl =>
          simp only
          cases hb : rootBinds e ro first with
          | true => exact Or.inl rfl
          | false => exact Or.inr ⟨rfl, r, first, tl, ro, rfl, trivial, hf, hb⟩

/-- `find_object` answers with an object: the name is registered, or the root module called like its first component
binds the second and the rest, expanded in that root, is a registered name -/
theorem findObject_inv {e : Env} {full : Path} {j : Nat} (h : findObject e full = .obj j) :
    objFor e full = some j ∨
      (objFor e full = none ∧ ∃ r f tl ro p, full = r :: f :: tl ∧
        e.st.roots.find? (fun ro => match getObj e.st ro with | some o => o.name = r | none => false) = some ro ∧
        rootBinds e ro f = true ∧ expandName e ro (f :: tl) = some p ∧ objFor e p = some j) := by
  unfold findObject at h
  split at h
  · next o ho => exact .inl (Found.obj.inj h ▸ ho)
  next hnone =>
  refine .inr ⟨hnone, ?_⟩
  split at h
  · cases h
  next r rest =>
  split at h
  · cases h
  next ro hfind =>
  split at h
  · cases h
  next f tl =>
  split at h
  · cases h
  next hb =>
  split at h
  · cases h
  next p hx =>
  split at h
  · next o ho => exact ⟨r, f, tl, ro, p, rfl, hfind, by simpa using hb, hx, Found.obj.inj h ▸ ho⟩
  · cases h

theorem findObject_registered (e : Env) (full : Path) (i : Nat) (h : findObject e full = .obj i) :
    ∃ p, dget e.st.all p = some i := by
  rcases findObject_inv h with h | ⟨_, _, _, _, _, p, _, _, _, _, h⟩
  · exact ⟨_, h⟩
  · exact ⟨p, h⟩

theorem findObject_old_of_obj {e : Env} {full : Path} {i : Nat} (h : findObject e full = .obj i) :
    findObjectOld e full = .obj i := by
  rcases findObject_old_or e full with h1 | ⟨h1, _⟩
  · exact h1 ▸ h
  · cases h1.symm.trans h

theorem findObject_ne_of_old {e : Env} {full : Path} {F : Found} (hF : F ≠ .lookupError)
    (h : findObjectOld e full ≠ F) : findObject e full ≠ F := by
  rcases findObject_old_or e full with h1 | ⟨h1, _⟩
  · exact h1 ▸ h
  · exact h1 ▸ hF.symm

theorem canContain_cases {c : Cls} (h : canContainImports c = true) :
    c = .module ∨ c = .package ∨ c = .cls := by
  revert h
  cases c <;> decide

theorem localName_contents {e : Env} {y c : Nat} {yo : Obj} {p : Name} (f : Nat)
    (hy : getObj e.st y = some yo) (hc : canContainImports yo.cls = true)
    (hd : dget yo.contents p = some c) : localName e (f+1) y p = path e.st c := by
  unfold localName
  rcases canContain_cases hc with h | h | h <;> simp [hy, h, hd]

theorem localName_alias {e : Env} {y : Nat} {yo : Obj} {p : Name} {t : Path} (f : Nat)
    (hy : getObj e.st y = some yo) (hc : canContainImports yo.cls = true)
    (hd : dget yo.contents p = none) (ha : dget yo.aliases p = some t) :
    localName e (f+1) y p = some t := by
  unfold localName
  rcases canContain_cases hc with h | h | h <;> simp [hy, h, hd, ha]

theorem componentName_first (e : Env) (obj : Nat) (p : Name) :
    componentName e obj true p = localName e (fuelOf e) obj p := by
  unfold componentName
  cases getObj e.st obj <;> simp

theorem componentName_contents {e : Env} {y : Nat} {yo : Obj} {p : Name} {c : Nat} (first : Bool)
    (hy : getObj e.st y = some yo) (hd : dget yo.contents p = some c) :
    componentName e y first p = localName e (fuelOf e) y p := by
  unfold componentName
  simp [hy, hd]

theorem componentName_alias {e : Env} {y : Nat} {yo : Obj} {p : Name} {t : Path} (first : Bool)
    (hy : getObj e.st y = some yo) (ha : dget yo.aliases p = some t) :
    componentName e y first p = localName e (fuelOf e) y p := by
  unfold componentName
  simp [hy, ha]

theorem expand_single_local (e : Env) (obj : Nat) (p : Name) :
    expandName e obj [p] = localName e (fuelOf e) obj p := by
  unfold expandName expandLoop
  rw [componentName_first]
  cases h : localName e (fuelOf e) obj p with
  | none => simp
  | some fn =>
    simp only [Bool.not_true, Bool.and_false, Bool.false_eq_true, if_false]
    cases objFor e fn <;> simp

/-- how the `expandName` loop goes on after a component resolved to the registered object `nxt`, called `fn` -/
def afterStep (e : Env) (fn : Path) (nxt : Nat) (rest : List Name) : Option Path :=
  match rest with
  | [] => some fn
  | _ :: _ => expandLoop e nxt false rest

@[simp] theorem afterStep_nil (e : Env) (fn : Path) (nxt : Nat) : afterStep e fn nxt [] = some fn := rfl
@[simp] theorem afterStep_cons (e : Env) (fn : Path) (nxt : Nat) (a : Name) (l : List Name) :
    afterStep e fn nxt (a :: l) = expandLoop e nxt false (a :: l) := rfl

/-- the rest of the loop of `expandName` once a component has become the dotted name `fn` -/
def contLoop (e : Env) (fn : Path) (rest : List Name) : Option Path :=
  match objFor e fn with
  | none => some (fn ++ rest)
  | some nxt => match rest with
    | [] => some fn
    | _ :: _ => expandLoop e nxt false rest

/-- one round of the `expandName` loop in which the component `y` has become the dotted name `fn` (on a later round: not
`y` itself): the loop stops at an unregistered name and goes on in the object registered under it (`contLoop e fn rest`,
written out) -/
theorem expandLoop_found {e : Env} {i : Nat} {first : Bool} {y : Name} {rest : List Name} {fn : Path}
    (hc : componentName e i first y = some fn) (hne : (decide (fn = [y]) && !first) = false) :
    expandLoop e i first (y :: rest) =
      match objFor e fn with
      | none => some (fn ++ rest)
      | some nxt => match rest with
        | [] => some fn
        | _ :: _ => expandLoop e nxt false rest := by
  rw [expandLoop]
  simp only [hc, hne, Bool.false_eq_true, if_false]
  cases objFor e fn <;> cases rest <;> rfl

/-- … and a last component becomes `fn`, registered or not -/
theorem expandLoop_found_last {e : Env} {i : Nat} {first : Bool} {y : Name} {fn : Path}
    (hc : componentName e i first y = some fn) (hne : (decide (fn = [y]) && !first) = false) :
    expandLoop e i first [y] = some fn := by
  rw [expandLoop_found hc hne]
  cases objFor e fn <;> simp

theorem expandLoop_step {e : Env} {y : Nat} {first : Bool} {p : Name} {rest : List Name} {fn : Path}
    {nxt : Nat} (hg : componentName e y first p = localName e (fuelOf e) y p)
    (hl : localName e (fuelOf e) y p = some fn) (hne : fn ≠ [p])
    (ho : objFor e fn = some nxt) :
    expandLoop e y first (p :: rest) = afterStep e fn nxt rest := by
  rw [expandLoop_found (hg.trans hl) (by simp [hne]), ho]
  cases rest <;> rfl

theorem expandLoop_notfound {e : Env} {i : Nat} {y : Name} {rest : List Name} {o : Obj} {op : Path}
    (hc : componentName e i false y = some [y]) (ho : getObj e.st i = some o) (hcls : o.cls ≠ .cls)
    (hp : path e.st i = some op) :
    expandLoop e i false (y :: rest) = some (op ++ [y] ++ rest) := by
  rw [expandLoop]
  simp [hc, ho, hcls, hp]

/-- one round of the `expandName` loop on a later component that nothing in scope binds (the lookup hands it back as it is) -/
theorem expandLoop_unbound {e : Env} {i : Nat} {y : Name} {o : Obj} {op : Path}
    (hc : componentName e i false y = some [y]) (ho : getObj e.st i = some o) (hp : path e.st i = some op) :
    (∀ rest, expandLoop e i false (y :: rest) = some (op ++ y :: rest)) ∨
    ∃ q, o.cls = .cls ∧ classLookup e i y = some q ∧ q ≠ [y] ∧
      ∀ rest, expandLoop e i false (y :: rest) = contLoop e q rest := by
  by_cases hcls : o.cls = .cls
  · cases hq : classLookup e i y with
    | none => exact .inl fun rest => by rw [expandLoop]; simp [hc, ho, hcls, hq, hp]
    | some q =>
      by_cases hne : q = [y]
      · exact .inl fun rest => by rw [expandLoop]; simp [hc, ho, hcls, hq, hne, hp]
      · refine .inr ⟨q, hcls, rfl, hne, fun rest => ?_⟩
        rw [expandLoop, contLoop]
        simp only [hc, ho, hcls, hq, hne, decide_true, Bool.not_false, Bool.and_self, if_true, if_false]
        cases objFor e q <;> cases rest <;> rfl
  · exact .inl fun rest => by simpa using expandLoop_notfound hc ho hcls hp

theorem localName_module {e : Env} {t : Nat} {o : Obj} (ho : getObj e.st t = some o)
    (hm : isModuleCls o.cls = true) (x : Name) :
    localName e (fuelOf e) t x =
      match dget o.contents x with
      | some c => path e.st c
      | none => match dget o.aliases x with
        | some tg => some tg
        | none => some [x] := by
  unfold fuelOf
  rw [localName.eq_def]
  simp only [ho]
  cases hc : o.cls <;> simp [hc, isModuleCls] at hm ⊢ <;> rfl

end Names

namespace Registry

/-- every object that is not a module has a parent: only modules are roots -/
def NoOrphan (st : State) : Prop :=
  ∀ (i : Nat) (o : Obj), st.objs[i]? = some o → isModuleCls o.cls = false → ∃ q, o.parent = some q

theorem prefix_registered {s : State} (hI : Inv s) {p q : Path} {v : Nat} (h : (p ++ q, v) ∈ s.all)
    (hp : p ≠ []) : ∃ z, (p, z) ∈ s.all ∧ Below s.objs z v := by
  obtain ⟨z, hz, hb⟩ := (hI.reg.hasPath h).walk p q rfl hp
  exact ⟨z, mem_of_hasPath hI hz, hb⟩

theorem below_of_prefix {s : State} (hI : Inv s) {A q : Path} {obj v : Nat} (hA : (A, obj) ∈ s.all)
    (h : (A ++ q, v) ∈ s.all) : Below s.objs obj v := by
  obtain ⟨z, hz, hb⟩ := prefix_registered hI h (hI.reg.hasPath hA).ne_nil
  exact uniq_val hI.reg.uniq hz hA ▸ hb

theorem parent_of_snoc {s : State} (hI : Inv s) {p : Path} {n : Name} {i : Nat} (h : (p ++ [n], i) ∈ s.all) :
    ∃ o, s.objs[i]? = some o ∧ o.name = n ∧
      ((o.parent = none ∧ p = []) ∨ ∃ q, o.parent = some q ∧ (p, q) ∈ s.all) := by
  have hP := hI.reg.hasPath h
  obtain ⟨o, ho⟩ : ∃ o, s.objs[i]? = some o := ⟨_, List.getElem?_eq_getElem hP.lt⟩
  cases hp : o.parent with
  | none =>
    obtain ⟨e1, e2⟩ := List.append_inj' (s₂ := []) (hP.root_inv ho hp) rfl
    exact ⟨o, ho, (List.cons.inj e2).1.symm, .inl ⟨hp, e1⟩⟩
  | some q =>
    obtain ⟨pq, hpq, e⟩ := hP.child_inv ho hp
    obtain ⟨rfl, e2⟩ := List.append_inj' e rfl
    exact ⟨o, ho, (List.cons.inj e2).1.symm, .inr ⟨q, hp, mem_of_hasPath hI hpq⟩⟩

theorem root_of_find {s : State} (hI : Inv s) {r : Name} {ro : Nat}
    (h : s.roots.find? (fun ro => match getObj s ro with | some o => o.name = r | none => false) = some ro) :
    ∃ o, getObj s ro = some o ∧ path s ro = some [r] := by
  obtain ⟨o, ho, hpar⟩ := hI.tree.rootsOk ro (List.mem_of_find?_eq_some h)
  have hg : getObj s ro = some o := ho
  have hpred := List.find?_some h
  simp only [hg, decide_eq_true_eq] at hpred
  exact ⟨o, hg, hpred ▸ pathAux_root ho hpar⟩

theorem find_root {s : State} (hI : Inv s) {r : Name} {t : Path} {v : Nat} (h : (r :: t, v) ∈ s.all) :
    ∃ ro, s.roots.find? (fun ro => match getObj s ro with | some o => o.name = r | none => false) = some ro ∧
      ([r], ro) ∈ s.all := by
  obtain ⟨z0, hz0, _⟩ := prefix_registered hI (p := [r]) (q := t) h (by simp)
  obtain ⟨zo, hzo, hzname, ⟨hzpar, _⟩ | ⟨q, _, hq⟩⟩ := parent_of_snoc hI (p := []) hz0
  · generalize hf : List.find? _ s.roots = found
    cases found with
    | none =>
      have := List.find?_eq_none.1 hf z0 ((hI.tree.listed z0 zo hzo).1 hzpar)
      have hg : getObj s z0 = some zo := hzo
      simp [hg, hzname] at this
    | some ro =>
      obtain ⟨_, _, hp⟩ := root_of_find hI hf
      exact ⟨ro, rfl, mem_of_path hI hp⟩
  · exact absurd rfl (hI.reg.hasPath hq).ne_nil

theorem child_in_contents {s : State} (hI : Inv s) {py rest' : Path} {n1 : Name} {y x : Nat}
    (hy : (py, y) ∈ s.all) (hx : (py ++ n1 :: rest', x) ∈ s.all) (hsup : isSupersededName n1 = false) :
    ∃ yo y1, s.objs[y]? = some yo ∧ dget yo.contents n1 = some y1 ∧ (py ++ [n1], y1) ∈ s.all := by
  obtain ⟨y1, hy1, _⟩ := prefix_registered hI (p := py ++ [n1]) (q := rest') (by simpa using hx) (by simp)
  obtain ⟨y1o, hy1o, hname, ⟨_, hnil⟩ | ⟨q, hq, hqm⟩⟩ := parent_of_snoc hI hy1
  · exact absurd hnil (hI.reg.hasPath hy).ne_nil
  · obtain rfl : y = q := uniq_val hI.reg.uniq hy hqm
    obtain ⟨yo, hyo, hlist⟩ := (hI.tree.listed y1 y1o hy1o).2 y hq
    rw [hname, hsup] at hlist
    exact ⟨yo, y1, hyo, hlist.resolve_right Bool.false_ne_true, hy1⟩

/-- a name that is neither an entry of an object nor superseded is free below that object -/
theorem fresh_of_not_content {st : State} (hI : Inv st) {ctx : Nat} {o : Obj} {pp : Path} {n : Name}
    (ho : st.objs[ctx]? = some o) (hp : path st ctx = some pp)
    (hn : isSupersededName n = false) (hd : dget o.contents n = none) : dget st.all (pp ++ [n]) = none :=
  dget_none_iff.2 fun j hj => by
    obtain ⟨yo, y1, hyo, hy1, _⟩ := child_in_contents hI (rest' := []) (mem_of_path hI hp) hj hn
    cases ho.symm.trans hyo
    cases hd.symm.trans hy1

theorem no_key_under_free {s : State} (hI : Inv s) {B : Path} (hB : B ≠ []) (hfree : dget s.all B = none)
    (t : Path) (z : Nat) : (B ++ t, z) ∉ s.all := fun h => by
  obtain ⟨z', hz', _⟩ := prefix_registered hI h hB
  exact dget_none_iff.1 hfree z' hz'

/-- holds whether the destination name was free or taken: the object it was taken by only changes its `name` -/
theorem ReparentFacts.fields {s s' : State} {obj newParent : Nat} {newName : Name} {o : Obj} {op : Nat}
    {opo : Obj} {oc : List (Name × Nat)} {A pnp : Path}
    (F : ReparentFacts s s' obj newParent newName o op opo oc A pnp) (w : Nat) :
    ∃ G : Obj → Obj, s'.objs[w]? = (s.objs[w]?).map G ∧ ∀ os, (G os).cls = os.cls ∧
      (G os).contents = (if w = newParent then dset (if w = op then oc else os.contents) newName obj
                          else (if w = op then oc else os.contents)) ∧
      (G os).aliases = (if w = op then dset os.aliases o.name (pnp ++ [newName]) else os.aliases) := by
  obtain ⟨Fm, h1, h2⟩ := modify3_get s.objs obj op newParent newName oc o.name (pnp ++ [newName]) w
  have hF := fun os => And.intro (h2 os).2.2.2.1 (And.intro (h2 os).2.2.1 (h2 os).2.2.2.2)
  rcases F.branch with ⟨_, b, _, _⟩ | ⟨prev, nm', _, _, _, b⟩
  · exact ⟨Fm, b ▸ h1, hF⟩
  · by_cases hp : w = prev
    · refine ⟨fun a => { Fm a with name := nm' }, ?_, hF⟩
      rw [b, hp, getElem?_modify_eq, ← hp, h1, Option.map_map]
      rfl
    · exact ⟨Fm, by rw [b, getElem?_modify_ne _ hp, h1], hF⟩

theorem reparent_cls {s s' : State} {obj newParent : Nat} {newName : Name} (hI : Inv s)
    (h : reparent s obj newParent newName = .ok s') {w : Nat} {wo' : Obj} (hw : s'.objs[w]? = some wo') :
    ∃ wo, s.objs[w]? = some wo ∧ wo'.cls = wo.cls := by
  obtain ⟨_, o, op, opo, oc, A, pnp, F⟩ := reparent_spec hI h
  obtain ⟨G, hG, hGf⟩ := F.fields w
  obtain ⟨wo, hwo, rfl⟩ := Option.map_eq_some_iff.1 (hG ▸ hw)
  exact ⟨wo, hwo, (hGf wo).1⟩

/-- `reparent` onto a free name: the facts of `reparent_spec` with the names identified -/
theorem reparent_free {s s' : State} {obj newParent : Nat} {newName : Name} {A pnp : Path}
    (hI : Inv s) (h : reparent s obj newParent newName = .ok s')
    (hA : path s obj = some A) (hpnp : path s newParent = some pnp)
    (hfree : dget s.all (pnp ++ [newName]) = none) :
    Inv s' ∧ ∃ o op opo oc, ReparentFacts s s' obj newParent newName o op opo oc A pnp ∧
      s'.objs = moveObjs s.objs obj op newParent newName oc o.name (pnp ++ [newName]) ∧
      (∀ k v, (k, v) ∈ s.all → ¬Below s.objs obj v → (k, v) ∈ s'.all) ∧
      (∀ k v, (k, v) ∈ s'.all → (((k, v) ∈ s.all ∧ ¬Below s.objs obj v) ∨ Below s.objs obj v)) := by
  obtain ⟨hI', o, op, opo, oc, A', pnp', F⟩ := reparent_spec hI h
  obtain rfl : A = A' := Option.some.inj (hA.symm.trans (hI.reg.keys _ _ F.hA))
  obtain rfl : pnp = pnp' := Option.some.inj (hpnp.symm.trans (hI.reg.keys _ _ F.hpnp))
  refine ⟨hI', o, op, opo, oc, F, ?_⟩
  rcases F.branch with ⟨_, b⟩ | ⟨prev, _, hprev, _⟩
  · exact b
  · exact absurd hprev (dget_none_iff.1 hfree prev)

/-- the names after a move onto a free name, as `path` computes them -/
theorem reparent_free_paths {s s' : State} {obj newParent : Nat} {newName : Name} {A pnp : Path}
    (hI : Inv s) (h : reparent s obj newParent newName = .ok s')
    (hA : path s obj = some A) (hpnp : path s newParent = some pnp)
    (hfree : dget s.all (pnp ++ [newName]) = none) :
    (∀ i k, path s i = some k → ¬Below s.objs obj i → path s' i = some k) ∧
    (∀ i rest, path s i = some (A ++ rest) → path s' i = some (pnp ++ [newName] ++ rest)) := by
  obtain ⟨hI', o, op, opo, oc, F, _, hkeep, _⟩ := reparent_free hI h hA hpnp hfree
  refine ⟨fun i k hk hnb => hI'.reg.keys _ _ (hkeep _ _ (mem_of_path hI hk) hnb), fun i rest hp => ?_⟩
  have hm := mem_of_path hI hp
  obtain ⟨rest', e, hp'⟩ := F.moved i _ hm (below_of_prefix hI F.hA hm)
  exact List.append_cancel_left e ▸ hp'

theorem reparent_key_origin {s s' : State} {obj newParent : Nat} {newName : Name} {A pnp : Path}
    (hI : Inv s) (h : reparent s obj newParent newName = .ok s')
    (hA : path s obj = some A) (hpnp : path s newParent = some pnp)
    (hfree : dget s.all (pnp ++ [newName]) = none) {k : Path} {w : Nat} (hk : (k, w) ∈ s'.all) :
    ((k, w) ∈ s.all ∧ ¬Below s.objs obj w) ∨ ∃ t, k = pnp ++ [newName] ++ t ∧ (A ++ t, w) ∈ s.all := by
  obtain ⟨hI', o, op, opo, oc, F, _, _, hsplit⟩ := reparent_free hI h hA hpnp hfree
  refine (hsplit k w hk).imp_right fun hb => ?_
  have hw : w < s.objs.length := by
    cases hb with
    | refl => exact (hI.reg.hasPath F.hA).lt
    | step hv _ _ => exact (List.getElem?_eq_some_iff.1 hv).1
  obtain ⟨kw, hkw⟩ := hI.full w hw
  obtain ⟨t, rfl, hw'⟩ := F.moved w kw hkw hb
  exact ⟨t, Option.some.inj ((hI'.reg.keys _ _ hk).symm.trans hw'), hkw⟩

/-- C07, "no longer documented under the defining module": after a move onto a free name, no registered name starts
with the old qualified name of the moved object -/
theorem no_key_under_old_name {s s' : State} {obj newParent : Nat} {newName : Name} {A pnp : Path}
    (hI : Inv s) (h : reparent s obj newParent newName = .ok s')
    (hA : path s obj = some A) (hpnp : path s newParent = some pnp)
    (hfree : dget s.all (pnp ++ [newName]) = none) :
    ∀ k v t, (k, v) ∈ s'.all → k ≠ A ++ t := by
  obtain ⟨hI', o, op, opo, oc, F, _⟩ := reparent_free hI h hA hpnp hfree
  rintro _ v t hk rfl
  -- then the old name itself is registered, for some `z`
  obtain ⟨z, hz, _⟩ := prefix_registered hI' hk (hI.reg.hasPath F.hA).ne_nil
  rcases reparent_key_origin hI h hA hpnp hfree hz with ⟨a, b⟩ | ⟨t', e, _⟩
  · exact b (uniq_val hI.reg.uniq F.hA a ▸ Below.refl)
  · -- the destination would be a registered prefix of the old name
    exact no_key_under_free hI (by simp) hfree t' obj (e ▸ F.hA)

/-- C07, "documented once, where exported": after a successful move of `obj` onto a free name of `newParent`, every
object is registered exactly once; `obj` and everything that was below it is registered under
`path newParent ++ [newName] ++ (its name relative to obj)`; no registered name starts with the old name of `obj`;
everything else keeps its key. -/
theorem reparent_once {s s' : State} {obj newParent : Nat} {newName : Name} {A pnp : Path}
    (hI : Inv s) (h : reparent s obj newParent newName = .ok s')
    (hA : path s obj = some A) (hpnp : path s newParent = some pnp)
    (hfree : dget s.all (pnp ++ [newName]) = none) :
    (∀ x, x < s'.objs.length → (s'.all.filter (fun e => e.2 = x)).length = 1) ∧
    path s' newParent = some pnp ∧
    (∀ x, x < s.objs.length → isBelow s obj x = true →
      ∃ rest, path s x = some (A ++ rest) ∧ path s' x = some (pnp ++ [newName] ++ rest) ∧
        dget s'.all (pnp ++ [newName] ++ rest) = some x) ∧
    (∀ k v t, (k, v) ∈ s'.all → k ≠ A ++ t) ∧
    (∀ k v, (k, v) ∈ s.all → isBelow s obj v = false → (k, v) ∈ s'.all) := by
  obtain ⟨hI', o, op, opo, oc, F, _, hkeep, _⟩ := reparent_free hI h hA hpnp hfree
  refine ⟨?_, ?_, ?_, no_key_under_old_name hI h hA hpnp hfree, ?_⟩
  · exact hI'.once
  · exact hI'.reg.keys _ _ (hkeep _ _ F.hpnp F.hnb)
  · intro x hx hb
    obtain ⟨kx, hkx⟩ := hI.full x hx
    have hpx := hI.reg.keys kx x hkx
    have hbx : Below s.objs obj x := (isBelow_iff hpx).1 hb
    obtain ⟨rest, e, hx'⟩ := F.moved x kx hkx hbx
    exact ⟨rest, e ▸ hpx, hx', dget_of_path hI' hx'⟩
  · exact fun k v hk hb => hkeep k v hk fun hbv =>
      Bool.false_ne_true (hb.symm.trans ((isBelow_iff (hI.reg.keys k v hk)).2 hbv))

/-- the old parent (a module, package or class) keeps an alias from the old name to the new qualified name, and no
longer lists the old name in its `contents` (unless the move was onto the very same place); destination free or taken -/
theorem reparent_leaves_alias {s s' : State} {obj newParent : Nat} {newName : Name} {o : Obj} {op : Nat}
    {pnp : Path} (hI : Inv s) (h : reparent s obj newParent newName = .ok s')
    (ho : s.objs[obj]? = some o) (hop : o.parent = some op) (hpnp : path s newParent = some pnp) :
    ∃ opo opo' : Obj, s.objs[op]? = some opo ∧ s'.objs[op]? = some opo' ∧ opo'.cls = opo.cls ∧
      canContainImports opo.cls = true ∧
      dget opo'.aliases o.name = some (pnp ++ [newName]) ∧
      ((newParent ≠ op ∨ newName ≠ o.name) → dget opo'.contents o.name = none) := by
  obtain ⟨_, o1, op1, opo, oc, A, pnp', F⟩ := reparent_spec hI h
  obtain rfl : pnp = pnp' := Option.some.inj (hpnp.symm.trans (hI.reg.keys _ _ F.hpnp))
  obtain rfl : o = o1 := Option.some.inj (ho.symm.trans F.ho)
  obtain rfl : op = op1 := Option.some.inj (hop.symm.trans F.hop)
  obtain ⟨G, hG, hGf⟩ := F.fields op
  obtain ⟨hcls, hc, ha⟩ := hGf opo
  rw [F.hopo] at hG
  rw [if_pos rfl] at hc ha
  refine ⟨opo, G opo, F.hopo, hG, hcls, F.hcc, ha ▸ dset_get_same _ _ _, fun hne => ?_⟩
  -- `oc` is the old `contents` without the old name
  have hoc : dget oc o.name = none :=
    dget_none_iff.2 fun v hv => (((ddel_spec (hI.tree.cuniq op opo F.hopo) F.hdd).2 _ _).1 hv).1 rfl
  rw [hc]
  by_cases hnp : op = newParent
  · rw [if_pos hnp, dset_get_other _ _ _ _ fun e => (hne.resolve_left fun a => a hnp.symm) e.symm]
    exact hoc
  · rw [if_neg hnp]
    exact hoc

end Registry

namespace Names
open Registry

/-- the `expandName` loop walks along `contents` from `y` (named `py`) to its descendant `x` (named `py ++ rest`), when
every object named by a proper prefix is a module, package or class and no component is a superseded `name i` -/
theorem expandLoop_descend (e : Env) (hI : Inv e.st) :
    ∀ (rest : List Name) (y x : Nat) (py : Path) (first : Bool) (more : List Name), rest ≠ [] →
      (py, y) ∈ e.st.all → (py ++ rest, x) ∈ e.st.all →
      (∀ w wo t u, e.st.objs[w]? = some wo → (py ++ t, w) ∈ e.st.all → rest = t ++ u → u ≠ [] →
        canContainImports wo.cls = true) →
      (∀ n ∈ rest, isSupersededName n = false) →
      expandLoop e y first (rest ++ more) = afterStep e (py ++ rest) x more := by
  intro rest
  induction rest with
  | nil => exact fun _ _ _ _ _ h => absurd rfl h
  | cons n1 rest' ih =>
    intro y x py first more _ hy hx hcont hnames
    obtain ⟨yo, y1, hyo, hd, hy1⟩ := child_in_contents hI hy hx (hnames n1 List.mem_cons_self)
    have hcy : canContainImports yo.cls = true :=
      hcont y yo [] (n1 :: rest') hyo ((List.append_nil py).symm ▸ hy) rfl (List.cons_ne_nil _ _)
    have hl : localName e (fuelOf e) y n1 = some (py ++ [n1]) :=
      (localName_contents _ hyo hcy hd).trans (hI.reg.keys _ _ hy1)
    have hne : py ++ [n1] ≠ [n1] := fun h => (hI.reg.hasPath hy).ne_nil (List.append_left_eq_self.1 h)
    rw [List.cons_append,
      expandLoop_step (componentName_contents first hyo hd) hl hne (dget_of_mem hI.reg.uniq hy1)]
    cases rest' with
    | nil =>
      cases uniq_val hI.reg.uniq hx hy1
      rfl
    | cons n2 r =>
      rw [List.append_cons py n1 (n2 :: r)] at hx ⊢
      exact ih y1 x (py ++ [n1]) false more (List.cons_ne_nil _ _) hy1 hx
        (fun w wo t u hw hwk hr hu =>
          hcont w wo (n1 :: t) u hw (List.append_cons py n1 t ▸ hwk) (congrArg (n1 :: ·) hr) hu)
        (fun n hn => hnames n (List.mem_cons_of_mem _ hn))

/-! ### `expandName` returns, `find_object` raises nothing but `LookupError`: in a registry with the invariant where
only modules are roots -/

/-- the walk to the enclosing scopes does not run out of fuel: what `path` needs to name `i` is enough -/
theorem localName_some {e : Env} (hI : Inv e.st) (hpar : NoOrphan e.st) :
    ∀ (f i : Nat) (p : Path), pathAux e.st.objs f i = some p → ∀ y,
      (∃ r, localName e f i y = some r) ∧ (∃ r, localNameSkip e f i y = some r) := by
  intro f
  induction f with
  | zero => intro _ _ h; simp [pathAux] at h
  | succ f ih =>
    intro i p h y
    obtain ⟨o, ho, hcase⟩ := pathAux_inv h
    have hgo : getObj e.st i = some o := ho
    have hil := (List.getElem?_eq_some_iff.1 ho).1
    obtain ⟨pi, hpi⟩ := path_of_lt hI hil
    have hparent : isModuleCls o.cls = false → ∃ q, o.parent = some q ∧ (∃ r, localName e f q y = some r) ∧
        (∃ r, localNameSkip e f q y = some r) := by
      intro hc
      rcases hcase with ⟨hn, _⟩ | ⟨q, p', hq, hpq, _⟩
      · obtain ⟨q, hq⟩ := hpar i o ho hc
        cases hn.symm.trans hq
      · exact ⟨q, hq, ih q p' hpq y⟩
    have hmod : ∀ r0 : Option Path, (∃ r, r0 = some r) → ∃ r, (match dget o.contents y with
          | some c => path e.st c
          | none => match dget o.aliases y with
            | some t => some t
            | none => r0) = some r := by
      intro r0 h0
      cases hd : dget o.contents y with
      | some c => exact ⟨_, path_child hI ho hd hpi⟩
      | none =>
        cases ha : dget o.aliases y with
        | some t => exact ⟨t, rfl⟩
        | none => exact h0
    constructor
    · rw [localName.eq_def]
      simp only [hgo]
      cases hc : o.cls with
      | module | package => exact hmod _ ⟨_, rfl⟩
      | cls =>
        obtain ⟨q, hq, _, h2⟩ := hparent (by rw [hc]; rfl)
        simp only [hq]
        exact hmod _ h2
      | function | «attribute» =>
        obtain ⟨q, hq, h1, _⟩ := hparent (by rw [hc]; rfl)
        simp only [hq]; exact h1
    · rw [localNameSkip.eq_def]
      simp only [hgo]
      cases hc : o.cls with
      | module | package => exact hmod _ ⟨_, rfl⟩
      | cls =>
        obtain ⟨q, hq, h1, h2⟩ := hparent (by rw [hc]; rfl)
        simp only [hq]
        split
        · split
          · exact h2
          · exact hmod _ h1
        · exact hmod _ h1
      | function | «attribute» =>
        obtain ⟨q, hq, h1, _⟩ := hparent (by rw [hc]; rfl)
        simp only [hq]; exact h1

theorem expandLoop_some {e : Env} (hI : Inv e.st) (hpar : NoOrphan e.st) :
    ∀ (ys : List Name) (i : Nat) (first : Bool), ys ≠ [] → i < e.st.objs.length →
      ∃ p, expandLoop e i first ys = some p := by
  intro ys
  induction ys with
  | nil => intro _ _ h; exact absurd rfl h
  | cons y rest ih =>
    intro i first _ hi
    obtain ⟨pi, hpi⟩ := path_of_lt hI hi
    have hgo : getObj e.st i = some e.st.objs[i] := List.getElem?_eq_getElem hi
    obtain ⟨fn, hfn⟩ : ∃ fn, componentName e i first y = some fn := by
      unfold componentName
      simp only [hgo]
      split
      · exact ⟨_, rfl⟩
      · exact (localName_some hI hpar _ i pi hpi y).1
    -- with whatever dotted name the loop goes on, it returns
    have hcont : ∀ full : Path, ∃ p, contLoop e full rest = some p := by
      intro full
      unfold contLoop
      cases hof : objFor e full with
      | none => exact ⟨_, rfl⟩
      | some nxt =>
        have hreg : dget e.st.all full = some nxt := hof
        cases rest with
        | nil => exact ⟨_, rfl⟩
        | cons y2 r => exact ih nxt false (by simp) (path_lt (hI.reg.keys _ _ (mem_of_dget hreg)))
    by_cases hnf : (decide (fn = [y]) && !first) = false
    · rw [expandLoop_found hfn hnf]; exact hcont fn
    · obtain ⟨rfl, rfl⟩ : fn = [y] ∧ first = false := by simpa using hnf
      rcases expandLoop_unbound hfn hgo hpi with h | ⟨q, _, _, _, h⟩
      · exact ⟨_, h rest⟩
      · rw [h]; exact hcont q

/-- **one component of `expandName`, by what the object holds.**  `D` says which dotted names are acceptable for the
component `y`.  If whatever the lookup can produce is acceptable — the qualified name of a `contents` entry (`hcont`),
an alias target (`halias`), what the linearisation of a class finds when the class has no entry of its own
(`hmember`), the bare name at the first position in a module (`hbare`) — then the loop goes on with an acceptable name,
or it ends with the qualified name of the object followed by what is left. -/
theorem expandLoop_component {e : Names.Env} (hI : Inv e.st) (hmro : ∀ c, ∃ t, Names.mroOf e c = c :: t)
    {D : Path → Prop} {i : Nat} {f : Bool} {o : Obj} {y : Name} {op : Path}
    (ho : getObj e.st i = some o) (hp : path e.st i = some op) (hcan : canContainImports o.cls = true)
    (hcont : ∀ c, dget o.contents y = some c → D (op ++ [y]))
    (halias : ∀ tgt, dget o.contents y = none → dget o.aliases y = some tgt → D tgt ∧ tgt ≠ [])
    (hmember : dget o.contents y = none → dget o.aliases y = none → o.cls = .cls → f = false ∧
      ∀ b bo, b ∈ Names.mroOf e i → getObj e.st b = some bo →
        (∀ c, dget bo.contents y = some c → ∃ kb, path e.st c = some kb ∧ D kb ∧ kb ≠ []) ∧
        (∀ q, dget bo.contents y = none → dget bo.aliases y = some q → D q ∧ q ≠ []))
    (hbare : dget o.contents y = none → dget o.aliases y = none → o.cls ≠ .cls → f = true → D [y]) :
    (∃ fn, D fn ∧ fn ≠ [] ∧ ∀ rest, Names.expandLoop e i f (y :: rest) = contLoop e fn rest) ∨
    ∀ rest, Names.expandLoop e i f (y :: rest) = some (op ++ y :: rest) := by
  have next : ∀ fn, D fn → fn ≠ [] → (decide (fn = [y]) && !f) = false → Names.componentName e i f y = some fn →
      ∃ fn, D fn ∧ fn ≠ [] ∧ ∀ rest, Names.expandLoop e i f (y :: rest) = contLoop e fn rest :=
    fun fn hd hne hnb hcn => ⟨fn, hd, hne, fun _ => expandLoop_found hcn hnb⟩
  cases hdc : dget o.contents y with
  | some c =>
    have hne : op ++ [y] ≠ [y] := fun h =>
      (hI.reg.hasPath (mem_of_path hI hp)).ne_nil (List.append_left_eq_self.1 h)
    refine Or.inl (next _ (hcont c hdc) (by simp) (by simp [hne]) ?_)
    rw [Names.componentName_contents f ho hdc, Names.fuelOf, Names.localName_contents _ ho hcan hdc]
    exact path_child hI ho hdc hp
  | none =>
    cases hda : dget o.aliases y with
    | some tgt =>
      obtain ⟨hd, hne⟩ := halias tgt hdc hda
      have hcn : Names.componentName e i f y = some tgt := by
        rw [Names.componentName_alias f ho hda, Names.fuelOf]
        exact Names.localName_alias _ ho hcan hdc hda
      by_cases hnb : (decide (tgt = [y]) && !f) = false
      · exact Or.inl (next tgt hd hne hnb hcn)
      · -- the alias maps the name to itself and this is not the first component: "not found" — in a class also by
        -- the inherited-member step, which starts with the class itself
        obtain ⟨ht, hf⟩ : tgt = [y] ∧ f = false := by simpa using hnb
        subst hf; rw [ht] at hcn
        refine Or.inr ((expandLoop_unbound hcn ho hp).resolve_right fun ⟨q, _, hq, hqy, _⟩ => hqy ?_)
        obtain ⟨t, ht'⟩ := hmro i
        simpa [Names.classLookup, ht', ho, hdc, hda, ht] using hq.symm
    | none =>
      by_cases hcl : o.cls = .cls
      · -- a class without an entry of its own: the linearisation is searched
        obtain ⟨hf, hm⟩ := hmember hdc hda hcl
        subst hf
        have hcn : Names.componentName e i false y = some [y] := by simp [Names.componentName, ho, hcl, hdc, hda]
        rcases expandLoop_unbound hcn ho hp with h | ⟨q, _, hq, _, h⟩
        · exact .inr h
        suffices hd : D q ∧ q ≠ [] from .inl ⟨q, hd.1, hd.2, h⟩
        obtain ⟨b, hbm, hb⟩ := List.exists_of_findSome?_eq_some hq
        cases hgb : getObj e.st b with
        | none => simp [hgb] at hb
        | some bo =>
          simp only [hgb] at hb
          obtain ⟨h1, h2⟩ := hm b bo hbm hgb
          cases hbc : dget bo.contents y with
          | some c =>
            obtain ⟨kb, hkb, hd, hne⟩ := h1 c hbc
            simp only [hbc, hkb, Option.getD_some, Option.some.injEq] at hb
            exact hb ▸ ⟨hd, hne⟩
          | none => exact h2 q hbc (by simpa [hbc] using hb)
      · -- a module that neither defines nor imports the name
        have hmo : isModuleCls o.cls = true := by
          revert hcan hcl; cases o.cls <;> simp [canContainImports, isModuleCls]
        have hcn : Names.componentName e i f y = some [y] := by
          unfold Names.componentName
          simp only [ho, hcl, decide_false, Bool.and_false, Bool.false_and, Bool.false_eq_true, if_false]
          rw [localName_module ho hmo]; simp [hdc, hda]
        cases f with
        | true => exact Or.inl (next [y] (hbare hdc hda hcl rfl) (by simp) (by simp) hcn)
        | false => exact Or.inr ((expandLoop_unbound hcn ho hp).resolve_right fun ⟨_, hc, _⟩ => hcl hc)

theorem findObject_nocrash {e : Env} (hI : Inv e.st) (hpar : NoOrphan e.st) (T : Path) :
    findObject e T ≠ .indexError ∧ findObject e T ≠ .crash := by
  unfold findObject
  cases hof : objFor e T with
  | some i => simp
  | none =>
    cases T with
    | nil => simp
    | cons r rest =>
      simp only
      split
      · simp
      · rename_i ro hfind
        obtain ⟨oo, hoo, hpro⟩ := root_of_find hI hfind
        cases rest with
        | nil => cases hof.symm.trans (dget_of_path hI hpro)   -- the root itself is registered under `[r]`
        | cons f tl =>
          simp only
          split
          · simp
          · obtain ⟨p2, hp2⟩ := expandLoop_some hI hpar (f :: tl) ro true (List.cons_ne_nil _ _)
              (List.getElem?_eq_some_iff.1 hoo).1
            have : expandName e ro (f :: tl) = some p2 := hp2
            simp only [this]
            cases objFor e p2 <;> simp

theorem findObject_of_objFor {e : Env} {p : Path} {o : Nat} (h : objFor e p = some o) : findObject e p = .obj o := by
  unfold findObject
  rw [h]

theorem resolveName_of_findObject {e : Env} {obj o : Nat} {name p : Path}
    (hx : expandName e obj name = some p) (hf : findObject e p = .obj o) : resolveName e obj name = some o := by
  simp only [resolveName, hx]
  cases hO : objFor e p with
  | some o' => exact congrArg some (Found.obj.inj ((findObject_of_objFor hO).symm.trans hf))
  | none => simp only [hf]

theorem expandName_imported {e : Env} {scope : Nat} {so : Obj} {y : Name} {t : Path}
    (hs : getObj e.st scope = some so) (hm : so.cls = .module ∨ so.cls = .package)
    (hc : dget so.contents y = none) (ha : dget so.aliases y = some t) : expandName e scope [y] = some t := by
  have hcc : canContainImports so.cls = true := by
    rcases hm with e | e <;> simp [canContainImports, e]
  rw [expand_single_local]
  exact localName_alias _ hs hcc hc ha

/-- `findObject_inv` for a name that is not registered, the root object named by its qualified name -/
theorem findObject_obj {e : Env} (hI : Inv e.st) {p : Path} {j : Nat} (hof : objFor e p = none)
    (h : findObject e p = .obj j) :
    ∃ r rest ro o p2, p = r :: rest ∧ rest ≠ [] ∧ getObj e.st ro = some o ∧ path e.st ro = some [r] ∧
      (∀ f tl, rest = f :: tl → rootBinds e ro f = true) ∧
      expandName e ro rest = some p2 ∧ objFor e p2 = some j := by
  rcases findObject_inv h with h | ⟨_, r, f, tl, ro, p2, rfl, hfind, hb, hx, hp2⟩
  · cases hof.symm.trans h
  · obtain ⟨o, hg, hp⟩ := root_of_find hI hfind
    exact ⟨r, _, ro, o, p2, rfl, by simp, hg, hp, fun f' tl' he => by cases he; exact hb, hx, hp2⟩

theorem findObject_of_expand {e : Env} (hI : Inv e.st) {r f : Name} {tl p : Path} {ro x : Nat}
    (hnone : objFor e (r :: f :: tl) = none) (hro : ([r], ro) ∈ e.st.all) (hb : rootBinds e ro f = true)
    (hx : expandName e ro (f :: tl) = some p) (hp : objFor e p = some x) :
    findObject e (r :: f :: tl) = .obj x := by
  obtain ⟨ro', hfind, hro'⟩ := find_root hI hro
  cases uniq_val hI.reg.uniq hro' hro
  simp only [findObject, hnone]
  -- `find_root` states the search predicate with its own `match`, equal to the one in `findObject` by unfolding only
  erw [hfind]
  simp only [hb, hx, hp, Bool.not_true, Bool.false_eq_true, if_false]

/-- `old_member_name_finds` with the class hypothesis as a quantified statement.  The walk goes from the root module
along `contents` to the old parent, where the alias left by `reparent` redirects it to the new name, and on along
`contents`.  The code needs the hypotheses: every object whose name is a proper prefix of the queried name is a module,
package or class (so that `_localNameToFullName` looks into its `contents`), and no component is a superseded
`name i`. -/
theorem old_member_name_finds_of_forall {s s' : State} {obj newParent : Nat} {newName : Name}
    (m : List (Nat × List Nat)) (hI : Inv s) (h : reparent s obj newParent newName = .ok s')
    {A pnp : Path} (hA : path s obj = some A) (hpnp : path s newParent = some pnp)
    (hfree : dget s.all (pnp ++ [newName]) = none)
    (x : Nat) (rest : List Name) (hx : path s x = some (A ++ rest))
    (hcont : ∀ (w : Nat) (wo : Obj) (t u : Path), s.objs[w]? = some wo → path s w = some t →
      A ++ rest = t ++ u → u ≠ [] → canContainImports wo.cls = true)
    (hnames : ∀ n ∈ A ++ rest, isSupersededName n = false) :
    findObject ⟨s', m⟩ (A ++ rest) = .obj x := by
  obtain ⟨hI', o, op, opo, oc, F, _, hkeep, _⟩ := reparent_free hI h hA hpnp hfree
  have hfresh := no_key_under_free hI (B := pnp ++ [newName]) (by simp) hfree
  -- the moved object and `x` under their new names
  have hBobj : (pnp ++ [newName], obj) ∈ s'.all := mem_of_path hI' F.newPath
  have hx' : (pnp ++ [newName] ++ rest, x) ∈ s'.all :=
    mem_of_path hI' ((reparent_free_paths hI h hA hpnp hfree).2 x rest hx)
  -- the old parent keeps its name `r :: mid` and holds the alias
  obtain ⟨pop, hpopP, hAeq⟩ := (hI.reg.hasPath F.hA).child_inv F.ho F.hop
  obtain ⟨r, mid, rfl⟩ := List.exists_cons_of_ne_nil hpopP.ne_nil
  have hopm : (r :: mid, op) ∈ s.all := mem_of_hasPath hI hpopP
  have hopm' : (r :: mid, op) ∈ s'.all :=
    hkeep _ _ hopm (not_below_parent (hI.reg.hasPath F.hA) F.ho F.hop)
  obtain ⟨opo0, opo', hopo0, hopo', hcls', hcc, halias, hcontents⟩ :=
    reparent_leaves_alias hI h F.ho F.hop hpnp
  have hcnone : dget opo'.contents o.name = none := by
    refine hcontents (Decidable.not_and_iff_not_or_not.1 fun ⟨h1, h2⟩ => ?_)
    -- otherwise the destination is the old name
    have e : pnp = r :: mid := Option.some.inj ((hI.reg.keys _ _ F.hpnp).symm.trans (h1 ▸ hI.reg.keys _ _ hopm))
    exact dget_none_iff.1 hfree obj (by rw [e, h2, ← hAeq]; exact F.hA)
  have hfull : A ++ rest = r :: (mid ++ o.name :: rest) := by rw [hAeq]; simp
  rw [hfull] at hcont hnames ⊢
  have hnone : objFor ⟨s', m⟩ (r :: (mid ++ o.name :: rest)) = none :=
    dget_none_iff.2 fun v hv => no_key_under_old_name hI h hA hpnp hfree _ v rest hv hfull.symm
  have hobjx : objFor ⟨s', m⟩ (pnp ++ [newName] ++ rest) = some x := dget_of_mem hI'.reg.uniq hx'
  -- at the old parent the alias leads to the moved object, and the walk goes on below it
  have hstep : ∀ fst, expandLoop ⟨s', m⟩ op fst (o.name :: rest) = some (pnp ++ [newName] ++ rest) := by
    intro fst
    have hl : localName ⟨s', m⟩ (fuelOf ⟨s', m⟩) op o.name = some (pnp ++ [newName]) :=
      localName_alias (e := ⟨s', m⟩) _ hopo' (hcls' ▸ hcc) hcnone halias
    have hne : pnp ++ [newName] ≠ [o.name] := fun e =>
      (hI.reg.hasPath F.hpnp).ne_nil (List.append_inj' (s₂ := []) e rfl).1
    rw [expandLoop_step (componentName_alias (e := ⟨s', m⟩) fst hopo' halias) hl hne (dget_of_mem hI'.reg.uniq hBobj)]
    cases rest with
    | nil => exact congrArg some (List.append_nil _).symm
    | cons n1 rest' =>
      have := expandLoop_descend ⟨s', m⟩ hI' (n1 :: rest') obj x (pnp ++ [newName]) false []
        (List.cons_ne_nil _ _) hBobj hx' ?_
        fun n hn => hnames n (List.mem_cons_of_mem _ (List.mem_append_right _ (List.mem_cons_of_mem _ hn)))
      · rwa [List.append_nil] at this
      · intro w wo' t u hw hwk htu hu
        obtain ⟨wo, hwo, hc⟩ := reparent_cls hI h hw
        rw [hc]
        rcases reparent_key_origin hI h hA hpnp hfree hwk with ⟨a, _⟩ | ⟨t', e, a⟩
        · exact absurd a (hfresh _ _)
        · cases List.append_cancel_left e
          exact hcont w wo (A ++ t) u hwo (hI.reg.keys _ _ a) (by rw [← hfull, htu]; simp) hu
  obtain ⟨ro, hro, _⟩ := prefix_registered hI' (p := [r]) (q := mid) hopm' (List.cons_ne_nil _ _)
  cases mid with
  | nil =>
    -- the old parent is the root, and binds the old name as the alias
    obtain rfl : op = ro := uniq_val hI'.reg.uniq hopm' hro
    have hg : getObj s' op = some opo' := hopo'
    exact findObject_of_expand hI' hnone hro (by simp [rootBinds, hg, halias, hcls' ▸ hcc]) (hstep true) hobjx
  | cons n1 mid' =>
    -- the root lists the next component in `contents`, and the walk descends to the old parent
    obtain ⟨yo, y1, hyo, hd, _⟩ := child_in_contents hI' (py := [r]) hro hopm' (hnames n1 (by simp))
    have hg : getObj s' ro = some yo := hyo
    refine findObject_of_expand hI' hnone hro (by simp [rootBinds, hg, hd]) ?_ hobjx
    refine (expandLoop_descend ⟨s', m⟩ hI' (n1 :: mid') ro op [r] true (o.name :: rest)
      (List.cons_ne_nil _ _) hro hopm' ?_
      fun n hn => hnames n (List.mem_cons_of_mem _ (List.mem_append_left _ hn))).trans (hstep false)
    intro w wo' t u hw hwk htu hu
    obtain ⟨wo, hwo, hc⟩ := reparent_cls hI h hw
    rw [hc]
    rcases reparent_key_origin hI h hA hpnp hfree hwk with ⟨a, _⟩ | ⟨t', e, _⟩
    · exact hcont w wo ([r] ++ t) (u ++ o.name :: rest) hwo (hI.reg.keys _ _ a) (by simp [htu]) (by simp [hu])
    · -- the destination would be a registered prefix of the old parent's name
      refine absurd ?_ (hfresh (t' ++ u) op)
      rw [← List.append_assoc, ← e, List.append_assoc, ← htu]
      exact hopm

theorem old_name_finds_of_forall {s s' : State} {obj newParent : Nat} {newName : Name}
    (m : List (Nat × List Nat)) (hI : Inv s) (h : reparent s obj newParent newName = .ok s')
    {A pnp : Path} (hA : path s obj = some A) (hpnp : path s newParent = some pnp)
    (hfree : dget s.all (pnp ++ [newName]) = none)
    (hcont : ∀ (w : Nat) (wo : Obj) (t u : Path), s.objs[w]? = some wo → path s w = some t →
      A = t ++ u → u ≠ [] → canContainImports wo.cls = true)
    (hnames : ∀ n ∈ A, isSupersededName n = false) :
    findObject ⟨s', m⟩ A = .obj obj := by
  have := old_member_name_finds_of_forall (rest := []) m hI h hA hpnp hfree obj
  simp only [List.append_nil] at this
  exact this hA hcont hnames

/-- decidable form of "every object whose qualified name is a proper prefix of `q` is a module,
package or class" -/
def prefixesAreContainers (s : State) (q : Path) : Bool :=
  (List.range s.objs.length).all fun w =>
    match s.objs[w]?, path s w with
    | some wo, some t => !(t.isPrefixOf q && t != q) || canContainImports wo.cls
    | _, _ => true

theorem prefixesAreContainers_spec {s : State} {q : Path} (h : prefixesAreContainers s q = true) :
    ∀ (w : Nat) (wo : Obj) (t u : Path), s.objs[w]? = some wo → path s w = some t →
      q = t ++ u → u ≠ [] → canContainImports wo.cls = true := by
  intro w wo t u hw hp hq hu
  simp only [prefixesAreContainers, List.all_eq_true, List.mem_range] at h
  have := h w (List.getElem?_eq_some_iff.1 hw).1
  have h1 : t.isPrefixOf q = true := List.isPrefixOf_iff_prefix.2 (hq ▸ List.prefix_append t u)
  have h2 : (t != q) = true := bne_iff_ne.2 fun e => hu (List.self_eq_append_right.1 (e.trans hq))
  simpa [hw, hp, h1, h2] using this

/-- C07, "references by the old qualified name still lead to it": after `obj` (old name `A`) was moved onto a free
name, `System.find_object(A ++ rest)` returns the object `x` that used to be called `A ++ rest` — the moved object for
`rest = []`, a member below it otherwise — for every class-linearisation table `m`, when every object named by a proper
prefix of `A ++ rest` is a module, package or class and no component is a superseded `name i`. -/
theorem old_member_name_finds {s s' : State} {obj newParent : Nat} {newName : Name}
    (m : List (Nat × List Nat)) (hI : Inv s) (h : reparent s obj newParent newName = .ok s')
    {A pnp : Path} (hA : path s obj = some A) (hpnp : path s newParent = some pnp)
    (hfree : dget s.all (pnp ++ [newName]) = none)
    (x : Nat) (rest : List Name) (hx : path s x = some (A ++ rest))
    (hcont : prefixesAreContainers s (A ++ rest) = true)
    (hnames : ∀ n ∈ A ++ rest, isSupersededName n = false) :
    findObject ⟨s', m⟩ (A ++ rest) = .obj x :=
  old_member_name_finds_of_forall m hI h hA hpnp hfree x rest hx (prefixesAreContainers_spec hcont) hnames

/-- after a move onto a free name, `System.find_object(old qualified name)` returns the moved object (same two conditions
on the old name as in `old_member_name_finds`; that the name is free cannot be dropped:
`same_name_submodule_counterexample`) -/
theorem old_name_finds {s s' : State} {obj newParent : Nat} {newName : Name}
    (m : List (Nat × List Nat)) (hI : Inv s) (h : reparent s obj newParent newName = .ok s')
    {A pnp : Path} (hA : path s obj = some A) (hpnp : path s newParent = some pnp)
    (hfree : dget s.all (pnp ++ [newName]) = none)
    (hcont : prefixesAreContainers s A = true)
    (hnames : ∀ n ∈ A, isSupersededName n = false) :
    findObject ⟨s', m⟩ A = .obj obj :=
  old_name_finds_of_forall m hI h hA hpnp hfree (prefixesAreContainers_spec hcont) hnames

/-- the new qualified name is registered for the moved object (free or taken destination alike), and a module that
imported it *from the re-exporting module* (alias table maps a local name to the new qualified name) resolves that
local name to it -/
theorem new_name_resolves {s s' : State} {obj newParent : Nat} {newName : Name}
    (m : List (Nat × List Nat)) (hI : Inv s) (h : reparent s obj newParent newName = .ok s')
    {pnp : Path} (hpnp : path s newParent = some pnp) :
    objFor ⟨s', m⟩ (pnp ++ [newName]) = some obj ∧
    ∀ (scope : Nat) (so : Obj) (y : Name), getObj s' scope = some so →
      (so.cls = .module ∨ so.cls = .package) → dget so.contents y = none →
      dget so.aliases y = some (pnp ++ [newName]) → resolveName ⟨s', m⟩ scope [y] = some obj := by
  obtain ⟨hI', o, op, opo, oc, A, pnp', F⟩ := reparent_spec hI h
  obtain rfl : pnp = pnp' := Option.some.inj (hpnp.symm.trans (hI.reg.keys _ _ F.hpnp))
  have hobj : objFor ⟨s', m⟩ (pnp ++ [newName]) = some obj := dget_of_path hI' F.newPath
  exact ⟨hobj, fun _ _ _ hs hm hc ha =>
    resolveName_of_findObject (expandName_imported hs hm hc ha) (findObject_of_objFor hobj)⟩

/-- true of the code since fix 0a53e96: a module that imported the object *from the module that defines it* — its
alias table maps a local name to the OLD qualified name — resolves that local name to the moved object: nothing is
registered under the old name any more, and `resolveName` then follows the alias `reparent` left there
(`find_object`); under the hypotheses of `old_name_finds` (destination name free, containers along the old name, no
superseded component) -/
theorem old_import_resolves {s s' : State} {obj newParent : Nat} {newName : Name}
    (m : List (Nat × List Nat)) (hI : Inv s) (h : reparent s obj newParent newName = .ok s')
    {A pnp : Path} (hA : path s obj = some A) (hpnp : path s newParent = some pnp)
    (hfree : dget s.all (pnp ++ [newName]) = none)
    (hcont : prefixesAreContainers s A = true)
    (hnames : ∀ n ∈ A, isSupersededName n = false) :
    ∀ (scope : Nat) (so : Obj) (y : Name), getObj s' scope = some so →
      (so.cls = .module ∨ so.cls = .package) → dget so.contents y = none →
      dget so.aliases y = some A → resolveName ⟨s', m⟩ scope [y] = some obj :=
  fun _ _ _ hs hm hc ha =>
    resolveName_of_findObject (expandName_imported hs hm hc ha) (old_name_finds m hI h hA hpnp hfree hcont hnames)

/-!
### The last clause of C07, "stays reachable", is false for arbitrary references

At full strength it reads, for every `scope` and `name`,
`resolveName ⟨s, m⟩ scope name = some obj → resolveName ⟨s', m⟩ scope name = some obj`, and the code does not satisfy
it: in the layouts of `second_name_in_definer_counterexample` and `same_name_submodule_counterexample` the consumer's
reference resolves before the move and to nothing after it.  It is proved for the reference shapes the property lists:
a local name imported from the re-exporting module (`new_name_resolves`), a local name imported from the defining
module (`old_import_resolves`), the old and new qualified names (`old_name_finds`, `old_member_name_finds`,
`new_name_resolves`).
-/

/-! ### a concrete re-export: package `pkg`, module `pkg._b` with class `X` with method `m`,
consumer module `pkg.c`; `X` is moved into `pkg` -/

def exHist : List Op :=
  [.add .package ['p','k','g'] none, .add .module ['_','b'] (some 0), .add .cls ['X'] (some 1),
   .add .function ['m'] (some 2), .add .module ['c'] (some 0)]

def exS : State := (run init exHist).1

def exS' : State :=
  match reparent exS 2 0 ['X'] with
  | .ok t => t
  | .error _ => exS

theorem exS_inv : Registry.Inv exS := inv_run exHist

theorem exS_reparent : reparent exS 2 0 ['X'] = .ok exS' := by
  have hok : (match reparent exS 2 0 ['X'] with | .ok _ => true | .error _ => false) = true := by decide +kernel
  unfold exS'
  cases h : reparent exS 2 0 ['X'] with
  | ok t => rfl
  | error e => rw [h] at hok; cases hok

def exOld : Path := [['p','k','g'], ['_','b'], ['X']]

theorem exS_move : path exS 2 = some exOld ∧ path exS 0 = some [['p','k','g']] ∧
    dget exS.all ([['p','k','g']] ++ [['X']]) = none := by decide +kernel

theorem exS_walk : prefixesAreContainers exS exOld = true ∧ ∀ n ∈ exOld, isSupersededName n = false := by
  decide +kernel

/-- non-vacuity: the hypotheses of `old_name_finds` hold in the example -/
example (m : List (Nat × List Nat)) : findObject ⟨exS', m⟩ exOld = .obj 2 :=
  old_name_finds m exS_inv exS_reparent exS_move.1 exS_move.2.1 exS_move.2.2 exS_walk.1 exS_walk.2

/-- `pkg._b.X.m` leads to the method now called `pkg.X.m` -/
example (m : List (Nat × List Nat)) : findObject ⟨exS', m⟩ (exOld ++ [['m']]) = .obj 3 :=
  old_member_name_finds m exS_inv exS_reparent exS_move.1 exS_move.2.1 exS_move.2.2 3 [['m']]
    (by decide +kernel) (by decide +kernel) (by decide +kernel)

example : path exS' 3 = some [['p','k','g'], ['X'], ['m']] ∧
    dget exS'.all exOld = none ∧ dget exS'.all (exOld ++ [['m']]) = none := by decide +kernel

example : path exS' 0 = some [['p','k','g']] ∧ ∀ k v t, (k, v) ∈ exS'.all → k ≠ exOld ++ t :=
  let h := Registry.reparent_once exS_inv exS_reparent exS_move.1 exS_move.2.1 exS_move.2.2
  ⟨h.2.1, h.2.2.2.1⟩

/-- what `reparent_leaves_alias` says of the old parent `pkg._b`, by evaluation -/
example : (match exS'.objs[1]? with
    | some b => dget b.aliases ['X'] == some [['p','k','g'], ['X']] && dget b.contents ['X'] == none
    | none => false) = true := by decide +kernel

example (m : List (Nat × List Nat)) : objFor ⟨exS', m⟩ [['p','k','g'], ['X']] = some 2 :=
  (new_name_resolves m exS_inv exS_reparent exS_move.2.1).1

/-- the consumer `pkg.c` did `from pkg._b import X` -/
def exC : State :=
  modifyObj exS' 4 (fun o => { o with aliases := [(['X'], exOld)] })

/-- `Documentable.resolveName` before fix 0a53e96: the expanded name is looked up, nothing else -/
def resolveNameOld (e : Env) (obj : Nat) (name : Path) : Option Nat :=
  match expandName e obj name with
  | some p => objFor e p
  | none => none

/-- HISTORICAL (the code before fix 0a53e96, `resolveNameOld`): in the example, after the move, the consumer's local
name `X` (imported from the defining module) expands to the old dotted name and resolved to nothing, although
`find_object` of that same old name returns the moved class -/
theorem consumer_of_definer_counterexample :
    expandName ⟨exC, []⟩ 4 [['X']] = some exOld ∧
    resolveNameOld ⟨exC, []⟩ 4 [['X']] = none ∧
    findObject ⟨exC, []⟩ exOld = .obj 2 ∧
    -- before the move the same reference did resolve
    resolveNameOld ⟨modifyObj exS 4 (fun o => { o with aliases := [(['X'], exOld)] }), []⟩ 4 [['X']] = some 2 ∧
    -- and today's code resolves it after the move as well
    resolveName ⟨exC, []⟩ 4 [['X']] = some 2 := by
  decide +kernel

/-- the conclusion of `old_import_resolves` for the consumer of the example, by evaluation: the theorem itself does not
apply to `exC`, where the consumer's alias is written after the move and not before it -/
example (m : List (Nat × List Nat)) : findObject ⟨exS', m⟩ exOld = .obj 2 ∧ resolveName ⟨exC, []⟩ 4 [['X']] = some 2 :=
  ⟨old_name_finds m exS_inv exS_reparent exS_move.1 exS_move.2.1 exS_move.2.2 exS_walk.1 exS_walk.2,
    consumer_of_definer_counterexample.2.2.2.2⟩

/-! ### two layouts in which a reference through the DEFINING module is lost -/

/-- package `pkg`, module `pkg._b` with `class _X` (method `m`) and the second name `X = _X`, consumer `pkg.c` -/
def ex2Hist : List Op :=
  [.add .package ['p','k','g'] none, .add .module ['_','b'] (some 0), .add .cls ['_','X'] (some 1),
   .add .function ['m'] (some 2), .add .module ['c'] (some 0)]

def ex2Old : Path := [['p','k','g'], ['_','b'], ['_','X']]
def ex2Second : Path := [['p','k','g'], ['_','b'], ['X']]

/-- before the move: `X = _X` in the defining module, `from pkg._b import X` in the consumer -/
def ex2S : State :=
  modifyObj (modifyObj (run init ex2Hist).1 1 (fun o => { o with aliases := [(['X'], ex2Old)] }))
    4 (fun o => { o with aliases := [(['X'], ex2Second)] })

/-- the package re-exports `X`: the class `_X` is moved to `pkg.X` -/
def ex2S' : State :=
  match reparent ex2S 2 0 ['X'] with
  | .ok t => t
  | .error _ => ex2S

/-- hunt/C07/4, open finding: `old_import_resolves` needs the consumer's alias to be the object's OWN old name.  When
the defining module binds the object under a second name and the consumer imports that one, the reference resolved
before the move and resolves to nothing after it: outdated names are followed for one hop (`find_object` expands once
from the root), here two are needed. -/
theorem second_name_in_definer_counterexample :
    -- before the move the consumer's reference resolves, by both names
    resolveName ⟨ex2S, []⟩ 4 [['X']] = some 2 ∧ findObject ⟨ex2S, []⟩ ex2Second = .obj 2 ∧
    -- the move happens, the class is `pkg.X`, and its own old name still finds it (one stale name: one hop)
    (match reparent ex2S 2 0 ['X'] with | .ok _ => true | .error _ => false) = true ∧
    objFor ⟨ex2S', []⟩ [['p','k','g'], ['X']] = some 2 ∧
    findObject ⟨ex2S', []⟩ ex2Old = .obj 2 ∧
    -- the second name is an alias of the old name, which is an alias of the new one: not followed
    expandName ⟨ex2S', []⟩ 4 [['X']] = some ex2Second ∧
    findObject ⟨ex2S', []⟩ ex2Second = .lookupError ∧
    resolveName ⟨ex2S', []⟩ 4 [['X']] = none := by
  decide +kernel

/-- package `pkg` with the module `pkg.X` that defines `class X` (method `m`), consumer `pkg.c` with
`from pkg.X import X` -/
def ex3Hist : List Op :=
  [.add .package ['p','k','g'] none, .add .module ['X'] (some 0), .add .cls ['X'] (some 1),
   .add .function ['m'] (some 2), .add .module ['c'] (some 0)]

def ex3Old : Path := [['p','k','g'], ['X'], ['X']]

def ex3S : State :=
  modifyObj (run init ex3Hist).1 4 (fun o => { o with aliases := [(['X'], ex3Old)] })

def ex3S' : State :=
  match reparent ex3S 2 0 ['X'] with
  | .ok t => t
  | .error _ => ex3S

/-- hunt/C07/2, open finding: the hypothesis "destination name free" of `old_name_finds` cannot be dropped.
`from .X import X` in the package moves the class onto the full name of its own defining module: the module is
superseded and the old name of the class finds nothing. -/
theorem same_name_submodule_counterexample :
    -- before the move the consumer's reference resolves
    resolveName ⟨ex3S, []⟩ 4 [['X']] = some 2 ∧
    -- the move happens onto the name of the defining module itself: the class is `pkg.X`, its method `pkg.X.m`,
    -- the module is superseded (`pkg.X 0`)
    (match reparent ex3S 2 0 ['X'] with | .ok _ => true | .error _ => false) = true ∧
    objFor ⟨ex3S', []⟩ [['p','k','g'], ['X']] = some 2 ∧
    path ex3S' 3 = some [['p','k','g'], ['X'], ['m']] ∧
    path ex3S' 1 = some [['p','k','g'], ['X', ' ', '0']] ∧
    -- the old name is now read as "member `X` of the class `pkg.X`": the alias left in the module is out of reach
    expandName ⟨ex3S', []⟩ 4 [['X']] = some ex3Old ∧
    findObject ⟨ex3S', []⟩ ex3Old = .lookupError ∧
    resolveName ⟨ex3S', []⟩ 4 [['X']] = none := by
  decide +kernel

end Names
