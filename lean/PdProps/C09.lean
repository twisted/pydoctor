/-
C09 — rendering a docstring keeps its text.

Theorems over `PdModel.Epytext`, with pydoctor's own data tables (`Generated.Tables`, re-extracted from the
repository under test on every run).  The long proof is `Epytext.colorize_conserves` (epytext inline markup): it first
replaces the slices of `_colorize` by the run of characters since the last brace (`scan2`, `scan_eq_scan2`), then
follows that machine step by step with `strip`'s (`StRel`, `sim`).  The other groups are independent: epytext block slicing,
plaintext, `doctest.py`, the field handler table and the paired fields, the Parameters table, `extract_fields`,
property docstrings, the reST field separator, napoleon's `_dedent`.
`PdModel.EpytextIO` is imported for the configuration built from the generated tables (`liveCfg`, `Tag.show`, `reParams`).
-/
import PdModel.Epytext
import PdModel.EpytextIO

namespace Epytext

/-- every entry of `SYMBOLS` is a key of `SYMBOL_TO_CODEPOINT`: `_to_node` never raises `KeyError` -/
def Cfg.Total (T : Cfg) : Prop := ∀ s, T.symbols.contains s = true → (T.codepoints.lookup s).isSome = true

/-- checked position by position, so that the kernel searches the whole table only where the two lists are out of
step (`SYMBOLS` and `SYMBOL_TO_CODEPOINT` run in step but for a few entries) -/
theorem all_lookup_of_zip {α β} [BEq α] [LawfulBEq α] (ss : List α) (kv : List (α × β))
    (h : (ss.zip kv).all (fun x => x.2.1 == x.1 || (kv.lookup x.1).isSome) = true)
    (htail : (ss.drop kv.length).all (fun s => (kv.lookup s).isSome) = true) :
    ss.all (fun s => (kv.lookup s).isSome) = true := by
  rw [List.all_eq_true] at h htail ⊢
  intro s hs
  obtain ⟨i, hi, rfl⟩ := List.mem_iff_getElem.mp hs
  by_cases hi' : i < kv.length
  · have := h (ss[i], kv[i]) (by
      rw [List.mem_iff_getElem]
      exact ⟨i, by rw [List.length_zip]; exact Nat.lt_min.mpr ⟨hi, hi'⟩, by simp⟩)
    rcases Bool.or_eq_true_iff.mp this with h1 | h1
    · exact List.lookup_isSome_iff.mpr ⟨kv[i], List.getElem_mem hi', by rw [beq_iff_eq.mp h1]; exact BEq.rfl⟩
    · exact h1
  · have hle := Nat.le_of_not_lt hi'
    refine htail _ (List.mem_iff_getElem.mpr ⟨i - kv.length, ?_, ?_⟩)
    · rw [List.length_drop]
      exact Nat.sub_lt_sub_right hle hi
    · simp only [List.getElem_drop, Nat.add_sub_of_le hle]

theorem symbols_total :
    Generated.Epytext.symbols.all (fun s => (Generated.Epytext.codepoints.lookup s).isSome) = true :=
  all_lookup_of_zip _ _ (by decide +kernel) (by decide +kernel)

theorem liveCfg_total (extra : List Char) : (liveCfg extra).Total := by
  intro s hs
  have h := symbols_total
  rw [List.all_eq_true] at h
  exact h s (by simpa [liveCfg] using hs)

/-- the literal tables of the model are today's tables of pydoctor -/
theorem tables_current :
    Generated.Epytext.colorizingTags.map (fun p => (colorizingTag p.1).map Tag.show) =
      Generated.Epytext.colorizingTags.map (fun p => some p.2) ∧
    Generated.Epytext.colorizingTags.map (·.1) = ['C', 'M', 'I', 'B', 'U', 'L', 'E', 'S'] ∧
    Generated.Epytext.escapes = escapes.map (fun p => (p.1, [p.2])) ∧
    Generated.Epytext.linkTags = [Tag.link.show, Tag.uri.show] := by
  decide +kernel

theorem visibleList_append {T : Cfg} {a b : List Inl} {x y : List Char}
    (ha : visibleList T a = some x) (hb : visibleList T b = some y) :
    visibleList T (a ++ b) = some (x ++ y) := by
  induction a generalizing x with
  | nil => cases ha; exact hb
  | cons c cs ih =>
    simp only [visibleList] at ha
    split at ha
    · next hc hcs => cases ha; simp [visibleList, hc, ih hcs]
    · cases ha

theorem visibleList_single {T : Cfg} {x : Inl} {v : List Char} (h : visible T x = some v) :
    visibleList T [x] = some v := by
  simp [visibleList, h]

theorem visibleList_single_text {T : Cfg} (s : List Char) : visibleList T [.text s] = some s :=
  visibleList_single rfl

/-! ## the abstraction from `_colorize`'s stack to the text buffers of `strip` -/

def lastText (cs : List Inl) : Option (List Char) :=
  match cs.getLast? with
  | some (.text s) => some s
  | _ => none

def butLastText (cs : List Inl) : List Inl :=
  match cs.getLast? with
  | some (.text _) => cs.dropLast
  | _ => cs

theorem lastText_snoc_text (cs : List Inl) (s : List Char) : lastText (cs ++ [.text s]) = some s := by
  simp [lastText]

theorem butLastText_snoc_text (cs : List Inl) (s : List Char) : butLastText (cs ++ [.text s]) = cs := by
  simp [butLastText]

theorem lastText_snoc_elem (cs : List Inl) (t : Tag) (k : List Inl) : lastText (cs ++ [.elem t k]) = none := by
  simp [lastText]

theorem butLastText_snoc_elem (cs : List Inl) (t : Tag) (k : List Inl) :
    butLastText (cs ++ [.elem t k]) = cs ++ [.elem t k] := by
  simp [butLastText]

theorem lastText_nil : lastText [] = none := rfl
theorem butLastText_nil : butLastText [] = [] := rfl

theorem last_cases (cs : List Inl) :
    (∃ cs' s, cs = cs' ++ [.text s]) ∨ (lastText cs = none ∧ butLastText cs = cs) := by
  cases h : cs.getLast? with
  | none => right; simp [lastText, butLastText, h]
  | some x =>
    cases x with
    | text s => exact .inl ⟨_, s, (List.getLast?_eq_some_iff.mp h).choose_spec⟩
    | elem t k => right; simp [lastText, butLastText, h]

/-- the tags an open frame can have in a run without errors: `unknown` is pushed together with an error, `name` and
`target` are made by `colorizeLink` inside a closed element only -/
def okTag : Tag → Bool
  | .unknown | .name | .target => false
  | _ => true

def kindOfTag : Tag → Kind
  | .litbrace => .lit | .escape => .esc | .symbol => .sym | .uri => .lnk | .link => .lnk
  | _ => .plain

/-- an open frame of `_colorize` and the frame of `strip`'s machine that stands for it: `sf.last` is the trailing plain
string of `f`'s children (where a link target is looked for), `sf.pre` the visible text of the others -/
structure FrameRel (T : Cfg) (f : Frame) (sf : SFrame) : Prop where
  kind : sf.kind = kindOfTag f.tag
  ok : okTag f.tag = true
  last : sf.last = lastText f.children
  pre : visibleList T (butLastText f.children) = some sf.pre

theorem FrameRel.snoc_text {T : Cfg} {f : Frame} {sf : SFrame} (h : FrameRel T f sf) {cs : List Inl} {s : List Char}
    (hc : f.children = cs ++ [.text s]) : sf.last = some s ∧ visibleList T cs = some sf.pre := by
  have hl := h.last
  have hp := h.pre
  rw [hc, lastText_snoc_text] at hl
  rw [hc, butLastText_snoc_text] at hp
  exact ⟨hl, hp⟩

theorem FrameRel.all {T : Cfg} {f : Frame} {sf : SFrame} (h : FrameRel T f sf) :
    visibleList T f.children = some sf.all := by
  rcases last_cases f.children with ⟨cs', s, hc⟩ | ⟨hn, hb⟩
  · obtain ⟨hl, hp⟩ := h.snoc_text hc
    rw [hc, visibleList_append hp (visibleList_single_text s)]
    simp [SFrame.all, hl]
  · have hp := h.pre
    rw [hb] at hp
    simp [SFrame.all, h.last, hn, hp]

theorem FrameRel.single {T : Cfg} {f : Frame} {sf : SFrame} (h : FrameRel T f sf) {s : List Char}
    (hc : f.children = [.text s]) : sf.all = s := by
  have := h.all
  rw [hc, visibleList_single_text] at this
  exact (Option.some.inj this).symm

theorem rel_push_text {T : Cfg} {f : Frame} {sf : SFrame} (h : FrameRel T f sf) (s : List Char) :
    FrameRel T (f.push (.text s)) (sf.addText s) where
  kind := h.kind
  ok := h.ok
  last := (lastText_snoc_text _ s).symm
  pre := by simpa [Frame.push, SFrame.addText, butLastText_snoc_text] using h.all

theorem rel_push_elem {T : Cfg} {f : Frame} {sf : SFrame} (h : FrameRel T f sf) (t : Tag) (k : List Inl)
    {v : List Char} (hv : visible T (.elem t k) = some v) :
    FrameRel T (f.push (.elem t k)) (sf.addVis v) where
  kind := h.kind
  ok := h.ok
  last := (lastText_snoc_elem _ t k).symm
  pre := by
    simp only [Frame.push, SFrame.addVis, butLastText_snoc_elem]
    exact visibleList_append h.all (visibleList_single hv)

theorem rel_flush {T : Cfg} {f : Frame} {sf : SFrame} (h : FrameRel T f sf) (cur : List Char) :
    FrameRel T (if cur ≠ [] then f.push (.text cur) else f) (sf.flush cur) := by
  cases cur with
  | nil => exact h
  | cons c cs => exact rel_push_text h (c :: cs)

theorem rel_new {T : Cfg} (t : Tag) (e : Nat) (k : Kind) (hk : k = kindOfTag t) (ho : okTag t = true) :
    FrameRel T ⟨t, [], e⟩ ⟨k, [], none⟩ :=
  ⟨hk, ho, rfl, rfl⟩

/-! ## `_colorize` with the slices replaced by the run of characters since the last brace -/

def litOpen (e : Nat) (cur : List Char) (st : St) : St :=
  ⟨⟨.litbrace, [], e⟩, (if cur ≠ [] then st.top.push (.text cur) else st.top) :: st.rest, st.errs⟩

def open2 (e : Nat) (cur : List Char) (st : St) : St :=
  match cur.getLast? with
  | none => litOpen e cur st
  | some c =>
    if isCapital c then
      let top := if cur.dropLast ≠ [] then st.top.push (.text cur.dropLast) else st.top
      match colorizingTag c with
      | none => ⟨⟨.unknown, [], e⟩, top :: st.rest, st.errs ++ [⟨.unknownTag, e - 1⟩]⟩
      | some t => ⟨⟨t, [], e⟩, top :: st.rest, st.errs⟩
    else litOpen e cur st

def close2 (T : Cfg) (e : Nat) (cur : List Char) (st : St) : St :=
  match st.rest with
  | [] => { st with errs := st.errs ++ [⟨.unbalancedClose, e⟩] }
  | parent :: rest =>
    let top := if cur ≠ [] then st.top.push (.text cur) else st.top
    let r := closeElem T top e
    { top := { parent with children := parent.children ++ r.1 }, rest := rest, errs := st.errs ++ r.2 }

def finish2 (cur : List Char) (st : St) : Result :=
  let top := if cur ≠ [] then st.top.push (.text cur) else st.top
  let errs := if st.rest.isEmpty then st.errs else st.errs ++ [⟨.unbalancedOpen, top.openAt⟩]
  let root := st.rest.foldl (fun child parent => parent.push (.elem child.tag child.children)) top
  ⟨.elem .para root.children, errs⟩

def scan2 (T : Cfg) : List Char → Nat → List Char → St → Result
  | [], _, cur, st => finish2 cur st
  | c :: cs, i, cur, st =>
    if c = '{' then scan2 T cs (i + 1) [] (open2 i cur st)
    else if c = '}' then scan2 T cs (i + 1) [] (close2 T i cur st)
    else scan2 T cs (i + 1) (cur ++ [c]) st

/-! ## one step of `_colorize` against one step of `strip` -/

inductive RestRel (T : Cfg) : List Frame → List SFrame → Prop
  | nil : RestRel T [] []
  | cons {f sf fs sfs} : FrameRel T f sf → RestRel T fs sfs → RestRel T (f :: fs) (sf :: sfs)

theorem RestRel.cons_inv {T : Cfg} {f : Frame} {fs : List Frame} {l : List SFrame} (h : RestRel T (f :: fs) l) :
    ∃ sf sfs, l = sf :: sfs ∧ FrameRel T f sf ∧ RestRel T fs sfs := by
  cases h with
  | cons a b => exact ⟨_, _, rfl, a, b⟩

theorem RestRel.nil_inv {T : Cfg} {l : List SFrame} (h : RestRel T [] l) : l = [] := by
  cases h; rfl

def StRel (T : Cfg) (st : St) (ss : SSt) : Prop :=
  FrameRel T st.top ss.top ∧ RestRel T st.rest ss.rest

theorem tag_kind {c : Char} {t : Tag} (h : colorizingTag c = some t) :
    kindOfLetter c = kindOfTag t ∧ okTag t = true := by
  unfold colorizingTag at h
  split at h <;> simp at h <;> subst h <;> exact ⟨by decide, by decide⟩

theorem stepS_open_cur (T : Cfg) (ss : SSt) : (stepS T ss '{').cur = [] := by
  unfold stepS
  rw [if_pos rfl]
  split
  · split <;> rfl
  · rfl

theorem stepS_close (T : Cfg) (ss : SSt) :
    stepS T ss '}' = match ss.rest with
      | [] => { ss with cur := [] }
      | p :: r => ⟨[], closeS T (ss.top.flush ss.cur) p, r⟩ := by
  unfold stepS
  rw [if_neg (by decide : ¬ '}' = '{'), if_pos rfl]
  cases ss.rest <;> rfl

theorem stepS_close_cur (T : Cfg) (ss : SSt) : (stepS T ss '}').cur = [] := by
  rw [stepS_close]
  split <;> rfl

theorem stepS_other (T : Cfg) (ss : SSt) {c : Char} (h1 : c ≠ '{') (h2 : c ≠ '}') :
    stepS T ss c = { ss with cur := ss.cur ++ [c] } := by
  simp [stepS, h1, h2]

theorem open2_errs {i : Nat} {cur : List Char} {st : St} (h : (open2 i cur st).errs = []) : st.errs = [] := by
  revert h
  -- only the branch of the unknown tag letter touches `errs`
  fun_cases open2 i cur st
  · exact id
  · simp
  · exact id
  · exact id

theorem close2_errs {T : Cfg} {i : Nat} {cur : List Char} {st : St} (h : (close2 T i cur st).errs = []) :
    st.errs = [] := by
  unfold close2 at h
  split at h <;> exact (List.append_eq_nil_iff.mp h).1

theorem sim_open {T : Cfg} {st : St} {ss : SSt} (h : StRel T st ss) (i : Nat)
    (he : (open2 i ss.cur st).errs = []) : StRel T (open2 i ss.cur st) (stepS T ss '{') := by
  obtain ⟨h1, h2⟩ := h
  unfold open2 litOpen at he ⊢
  unfold stepS
  rw [if_pos rfl]
  cases hcur : ss.cur.getLast? with
  | none =>
    have hc : ss.cur = [] := List.getLast?_eq_none_iff.mp hcur
    refine ⟨rel_new _ _ _ rfl rfl, ?_⟩
    simpa [hc] using RestRel.cons h1 h2
  | some l =>
    simp only [hcur] at he ⊢
    by_cases hcap : isCapital l = true
    · simp only [hcap, if_true] at he ⊢
      cases htag : colorizingTag l with
      | none => simp [htag] at he
      | some t =>
        obtain ⟨hk, ho⟩ := tag_kind htag
        exact ⟨rel_new _ _ _ hk ho, RestRel.cons (rel_flush h1 _) h2⟩
    · simp only [hcap, Bool.false_eq_true, if_false]
      exact ⟨rel_new _ _ _ rfl rfl, RestRel.cons (rel_flush h1 _) h2⟩

theorem decodeEscape_eq (x : List Char) :
    decodeEscape x = match escapes.lookup x with | some ch => [ch] | none => x := by
  unfold decodeEscape
  by_cases h1 : x = ['l', 'b']
  · subst h1; rfl
  · by_cases h2 : x = ['r', 'b']
    · subst h2; rfl
    · simp [escapes, List.lookup, beq_false_of_ne h1, beq_false_of_ne h2, h1, h2]

theorem colorizeLink_ok {T : Cfg} {tag : Tag} {cs : List Inl} {e : Nat}
    (h : (colorizeLink T tag cs e).2 = []) :
    ∃ vars t, (colorizeLink T tag cs e).1 = .elem tag [.elem .name vars, .elem .target [.text t]] ∧
      ((∃ cs' last txt tgt, cs = cs' ++ [.text last] ∧ splitTarget last = some (txt, tgt) ∧
          vars = cs' ++ [.text txt]) ∨
       (∃ last, cs = [.text last] ∧ splitTarget last = none ∧ vars = cs)) := by
  revert h
  unfold colorizeLink
  extract_lets bad build
  have hbuild : ∀ vars target, (build vars target).2 = [] →
      ∃ t, (build vars target).1 = .elem tag [.elem .name vars, .elem .target [.text t]] := by
    intro vars target
    dsimp only [build]
    by_cases hu : tag = .uri
    · rw [if_pos hu]
      exact fun _ => ⟨_, rfl⟩
    · rw [if_neg hu]
      generalize validDotted T _ = v
      cases v
      · intro h; cases h
      · exact fun _ => ⟨_, rfl⟩
  cases hl : cs.getLast? with
  | none => intro h; cases h
  | some x =>
    obtain ⟨cs', rfl⟩ := List.getLast?_eq_some_iff.mp hl
    cases x with
    | elem t k => intro h; cases h
    | text last =>
      dsimp only
      cases hs : splitTarget last with
      | some p =>
        intro h
        obtain ⟨t, ht⟩ := hbuild _ _ h
        exact ⟨_, t, ht, .inl ⟨cs', last, p.1, p.2, rfl, hs, by rw [List.dropLast_concat]⟩⟩
      | none =>
        cases cs' with
        | cons a as => intro h; cases as <;> cases h
        | nil =>
          intro h
          obtain ⟨t, ht⟩ := hbuild _ _ h
          exact ⟨_, t, ht, .inr ⟨last, rfl, hs, rfl⟩⟩

theorem link_rel {T : Cfg} {tag : Tag} (htag : tag = .uri ∨ tag = .link) {f : Frame} {sf : SFrame}
    {parent : Frame} {sp : SFrame} (hf : FrameRel T f sf) (hp : FrameRel T parent sp) (e : Nat)
    (hr : (colorizeLink T tag f.children e).2 = []) :
    FrameRel T (parent.push (colorizeLink T tag f.children e).1) (sp.addVis (linkText sf)) := by
  obtain ⟨vars, t, h1, h2⟩ := colorizeLink_ok hr
  rw [h1]
  apply rel_push_elem hp
  have hvis : visible T (.elem tag [.elem .name vars, .elem .target [.text t]]) = visibleList T vars := by
    rcases htag with rfl | rfl <;> simp [visible]
  rw [hvis]
  rcases h2 with ⟨cs', last, txt, tgt, hc, hs, rfl⟩ | ⟨last, hc, hs, rfl⟩
  · obtain ⟨hl, hpre⟩ := hf.snoc_text hc
    rw [visibleList_append hpre (visibleList_single_text txt)]
    simp [linkText, hl, hs]
  · rw [hf.all]
    simp [linkText, (hf.snoc_text (cs := []) hc).1, hs]

theorem closeElem_rel {T : Cfg} (hT : T.Total) {f : Frame} {sf : SFrame} {parent : Frame} {sp : SFrame}
    (hf : FrameRel T f sf) (hp : FrameRel T parent sp) (e : Nat) (hr : (closeElem T f e).2 = []) :
    FrameRel T { parent with children := parent.children ++ (closeElem T f e).1 } (closeS T sf sp) := by
  have hk := hf.kind
  have hok := hf.ok
  have hall := hf.all
  unfold closeElem at hr ⊢
  unfold closeS
  cases htag : f.tag <;> simp only [htag, kindOfTag, okTag, Bool.false_eq_true] at hk hok hr ⊢ <;> simp only [hk]
  case para | code | math | italic | bold => exact rel_push_elem hp _ _ (by simpa [visible] using hall)
  case uri => exact link_rel (Or.inl rfl) hf hp e hr
  case link => exact link_rel (Or.inr rfl) hf hp e hr
  case litbrace =>
    refine ⟨hp.kind, hp.ok, ?_, ?_⟩
    · simp only [← List.append_assoc, lastText_snoc_text]
    · simp only [← List.append_assoc, butLastText_snoc_text]
      rw [visibleList_append (visibleList_append hp.all (visibleList_single_text _)) hall]
      simp
  case escape =>
    split at hr
    · next escp hch =>
      simp only [hch, hf.single hch, decodeEscape_eq]
      split at hr
      · next hlk => simp only [hlk]; exact rel_push_text hp _
      · next hlk =>
        simp only [hlk]
        split at hr
        · next hlen => simp only [hlen, if_true]; exact rel_push_text hp _
        · simp at hr
    · simp at hr
  case symbol =>
    split at hr
    · next symb hch =>
      simp only [hch, hf.single hch]
      split at hr
      · next hmem =>
        obtain ⟨cp, hcp⟩ := Option.isSome_iff_exists.mp (hT symb hmem)
        simp only [hmem, if_true]
        exact rel_push_elem hp _ _ (by simp [visible, symbolChar, hcp])
      · simp at hr
    · simp at hr

theorem sim_close {T : Cfg} (hT : T.Total) {st : St} {ss : SSt} (h : StRel T st ss) (i : Nat)
    (he : (close2 T i ss.cur st).errs = []) : StRel T (close2 T i ss.cur st) (stepS T ss '}') := by
  obtain ⟨h1, h2⟩ := h
  unfold close2 at he ⊢
  rw [stepS_close]
  cases hrest : st.rest with
  | nil => simp [hrest] at he
  | cons parent rest =>
    rw [hrest] at h2
    obtain ⟨sp, sr, hss, hp, hr⟩ := h2.cons_inv
    simp only [hrest] at he
    simp only [hss]
    exact ⟨closeElem_rel hT (rel_flush h1 _) hp i (List.append_eq_nil_iff.mp he).2, hr⟩

theorem scan2_errs (T : Cfg) : ∀ (cs : List Char) (i : Nat) (cur : List Char) (st : St),
    (scan2 T cs i cur st).errs = [] → st.errs = [] := by
  intro cs i cur st
  fun_induction scan2 T cs i cur st with
  | case1 _ cur st =>
    intro h
    simp only [finish2] at h
    split at h
    · exact h
    · exact (List.append_eq_nil_iff.mp h).1
  | case2 _ _ _ _ ih => exact fun h => open2_errs (ih h)
  | case3 _ _ _ _ _ ih => exact fun h => close2_errs (ih h)
  | case4 _ _ _ _ _ _ _ ih => exact ih

/-- the text `strip` returns from a state -/
def finalS (s : SSt) : List Char :=
  (s.rest.foldl (fun child parent => parent.addVis child.all) (s.top.flush s.cur)).all

theorem sim (T : Cfg) (hT : T.Total) : ∀ (cs : List Char) (i : Nat) (cur : List Char) (st : St) (ss : SSt),
    ss.cur = cur → StRel T st ss → (scan2 T cs i cur st).errs = [] →
    visible T (scan2 T cs i cur st).tree = some (finalS (cs.foldl (stepS T) ss)) := by
  intro cs i cur st
  fun_induction scan2 T cs i cur st with
  | case1 _ _ st =>
    rintro ss rfl ⟨h1, h2⟩ he
    simp only [finish2] at he ⊢
    cases hrest : st.rest with
    | cons a b => simp [hrest] at he
    | nil =>
      rw [hrest] at h2
      simp only [List.foldl_nil, finalS, h2.nil_inv]
      simpa [visible] using (rel_flush h1 ss.cur).all
  | case2 _ i _ _ ih =>
    rintro ss rfl h he
    exact ih _ (stepS_open_cur T ss) (sim_open h i (scan2_errs T _ _ _ _ he)) he
  | case3 _ i _ _ _ ih =>
    rintro ss rfl h he
    exact ih _ (stepS_close_cur T ss) (sim_close hT h i (scan2_errs T _ _ _ _ he)) he
  | case4 _ _ _ _ _ h1 h2 ih =>
    rintro ss rfl h he
    rw [List.foldl_cons, stepS_other T ss h1 h2]
    exact ih _ rfl h he

/-! ## the slices of `_colorize` are the runs of characters between braces -/

theorem append_singleton_ne_nil {α} (l : List α) (a : α) : l ++ [a] ≠ [] := by simp

theorem slice_self {α} (t : List α) (a : Nat) : slice t a a = [] := by
  simp [slice]

theorem slice_length {α} (t : List α) (a b : Nat) : (slice t a b).length = min b t.length - a := by
  simp [slice]

theorem slice_succ {α} {t : List α} {i a : Nat} {c : α} (h : t[i]? = some c) (ha : a ≤ i) :
    slice t a (i + 1) = slice t a i ++ [c] := by
  have hi : i < t.length := (List.getElem?_eq_some_iff.mp h).1
  unfold slice
  rw [List.take_add_one, h]
  simp only [Option.toList_some]
  rw [List.drop_append_of_le_length (by simp; omega)]

theorem slice_ne_nil {α} (t : List α) (a b : Nat) : slice t a b ≠ [] ↔ a < min b t.length := by
  rw [← List.length_pos_iff, slice_length]
  omega

theorem openBrace_eq {text : List Char} {start e : Nat} (st : St) (hs : start ≤ e) (he : e < text.length)
    -- when the run is empty the character before the brace is the one at `start - 1`, the previous brace: not a capital
    (hprev : start = 0 ∨ ∃ b, text[start - 1]? = some b ∧ isCapital b = false) :
    openBrace text start e st = open2 e (slice text start e) st := by
  unfold openBrace open2 litOpen
  by_cases hlt : start < e
  · -- the run is not empty; its last character is the one before the brace
    obtain ⟨k, rfl⟩ : ∃ k, e = k + 1 := ⟨e - 1, by omega⟩
    have hk : k < text.length := Nat.lt_of_succ_lt he
    have hc : text[k]? = some text[k] := List.getElem?_eq_getElem hk
    simp only [Nat.add_one_sub_one, Nat.zero_lt_succ, if_true, hc, slice_succ hc (Nat.le_of_lt_succ hlt),
      List.getLast?_concat, List.dropLast_concat, slice_ne_nil, Nat.min_eq_left (Nat.le_of_lt hk), gt_iff_lt]
    by_cases hcap : isCapital text[k] = true
    · simp only [hcap, if_true]
      cases colorizingTag text[k] <;> rfl
    · simp [hcap, hlt]
  · obtain rfl : start = e := Nat.le_antisymm hs (Nat.le_of_not_lt hlt)
    simp only [slice_self, List.getLast?_nil, Nat.lt_irrefl, if_false]
    rcases hprev with rfl | ⟨b, hb, hcap⟩
    · rfl
    · cases start with
      | zero => rfl
      | succ k =>
        simp only [Nat.add_one_sub_one] at hb
        simp only [Nat.add_one_sub_one, Nat.zero_lt_succ, if_true, hb, hcap]
        rfl

theorem closeBrace_eq {T : Cfg} {text : List Char} {start e : Nat} (st : St) (he : e ≤ text.length) :
    closeBrace T text start e st = close2 T e (slice text start e) st := by
  unfold closeBrace close2
  simp only [slice_ne_nil, Nat.min_eq_left he]
  cases st.rest <;> rfl

theorem finish_eq {text : List Char} {start i : Nat} (st : St) (hi : text.length ≤ i) :
    finish text start st = finish2 (slice text start i) st := by
  have hsl : slice text start i = text.drop start := by simp [slice, List.take_of_length_le hi]
  simp only [finish, finish2, hsl, ne_eq, List.drop_eq_nil_iff, Nat.not_le]

theorem scan_eq_scan2 (T : Cfg) (text : List Char) : ∀ (cs : List Char) (i start : Nat) (st : St),
    text.drop i = cs → start ≤ i →
    (start = 0 ∨ ∃ b, text[start - 1]? = some b ∧ isCapital b = false) →
    scan T text cs i start st = scan2 T cs i (slice text start i) st := by
  intro cs
  induction cs with
  | nil =>
    intro i start st hcs _ _
    simp only [scan, scan2]
    exact finish_eq st (List.drop_eq_nil_iff.mp hcs)
  | cons c cs ih =>
    intro i start st hcs hs hprev
    have hci : text[i]? = some c := by rw [← List.head?_drop, hcs]; rfl
    have hi : i < text.length := (List.getElem?_eq_some_iff.mp hci).1
    have hnext : text.drop (i + 1) = cs := by rw [← List.tail_drop, hcs]; rfl
    simp only [scan, scan2]
    by_cases h1 : c = '{'
    · subst h1
      simp only [if_true]
      rw [ih (i + 1) (i + 1) _ hnext (Nat.le_refl _) (Or.inr ⟨'{', by simpa using hci, by decide⟩)]
      rw [slice_self, openBrace_eq st hs hi hprev]
    · simp only [h1, if_false]
      by_cases h2 : c = '}'
      · subst h2
        simp only [if_true]
        rw [ih (i + 1) (i + 1) _ hnext (Nat.le_refl _) (Or.inr ⟨'}', by simpa using hci, by decide⟩)]
        rw [slice_self, closeBrace_eq st (Nat.le_of_lt hi)]
      · simp only [h2, if_false]
        rw [ih (i + 1) start st hnext (Nat.le_succ_of_le hs) hprev, slice_succ hci hs]

/-- **C09, inline markup.** If `_colorize` reports no error for the paragraph `text`, then converting
its result with `_to_node` does not raise and the visible text is exactly `strip text`: the input
with tag letters and their braces removed, escapes and symbols decoded, link targets dropped —
nothing else changed, nothing lost, in order.  (`T`: any symbol tables in which every accepted
symbol has a code point — `liveCfg_total` for pydoctor's.) -/
theorem colorize_conserves (T : Cfg) (hT : T.Total) (text : List Char)
    (h : (colorize T text).errs = []) :
    visible T (colorize T text).tree = some (strip T text) := by
  have hbridge : colorize T text = scan2 T text 0 [] ⟨⟨.para, [], 0⟩, [], []⟩ := by
    unfold colorize
    rw [scan_eq_scan2 T text text 0 0 _ rfl (Nat.le_refl _) (Or.inl rfl), slice_self]
  rw [hbridge] at h ⊢
  exact sim T hT text 0 [] _ ⟨[], ⟨.plain, [], none⟩, []⟩ rfl ⟨rel_new _ _ _ rfl rfl, RestRel.nil⟩ h

theorem colorize_conserves_live (extra : List Char) (text : List Char)
    (h : (colorize (liveCfg extra) text).errs = []) :
    visible (liveCfg extra) (colorize (liveCfg extra) text).tree = some (strip (liveCfg extra) text) :=
  colorize_conserves _ (liveCfg_total extra) text h

def noWord : Cfg := ⟨[['l', 'e']], [(['l', 'e'], 8804)], fun _ => false⟩

/-- non-vacuity: nested markup, a link with target, an escape, a symbol and literal braces -/
example :
    let text := "xI{a B{b}} L{t u <m.f>}E{lb}S{le}{q}".toList
    (colorize noWord text).errs = [] ∧ strip noWord text = "xa b t u{≤{q}".toList := by
  -- a string literal is `String.ofList` of its characters: unpacked by the lemma, the kernel does not have to
  -- decode UTF-8 to evaluate `toList` (far dearer than the model's own run)
  repeat rw [String.toList_ofList]
  decide +kernel

theorem strip_plain (T : Cfg) (text : List Char) (h : ∀ c ∈ text, c ≠ '{' ∧ c ≠ '}') : strip T text = text := by
  have key : ∀ (s : List Char) (ss : SSt), (∀ c ∈ s, c ≠ '{' ∧ c ≠ '}') →
      s.foldl (stepS T) ss = { ss with cur := ss.cur ++ s } := by
    intro s
    induction s with
    | nil => intro ss _; simp
    | cons c cs ih =>
      intro ss hc
      rw [List.foldl_cons, stepS_other T ss (hc c (by simp)).1 (hc c (by simp)).2,
        ih _ fun x hx => hc x (by simp [hx])]
      simp
  rw [strip, key text _ h]
  cases text <;> simp [SFrame.flush, SFrame.addText, SFrame.all]

/-! ## block slicing: literal and doctest blocks -/

def SpacesOnly (l : Line) : Prop := ∀ c ∈ l, c = ' '

theorem SpacesOnly.all {R : Line} (h : SpacesOnly R) (p : Char → Bool) (hp : p ' ' = true) : ∀ x ∈ R, p x = true :=
  fun x hx => by rw [h x hx]; exact hp

theorem isSpNl_space : isSpNl ' ' = true := by decide

theorem indentOf_eq (l : Line) : indentOf l = (l.takeWhile pyIsSpace).length := by
  have := congrArg List.length (List.takeWhile_append_dropWhile (p := pyIsSpace) (l := l))
  rw [List.length_append] at this
  unfold indentOf
  omega

theorem all_take_of_le {α} (p : α → Bool) (l : List α) {n : Nat} (h : n ≤ (l.takeWhile p).length) :
    (l.take n).all p = true := by
  rw [← List.takeWhile_append_dropWhile (p := p) (l := l), List.take_append_of_le_length h, List.all_eq_true]
  exact fun x hx => List.all_eq_true.mp List.all_takeWhile x (List.mem_of_mem_take hx)

theorem dropWhile_spaces {l : Line} (h : SpacesOnly l) : l.dropWhile pyIsSpace = [] := by
  simpa using List.dropWhile_append_of_pos (l₂ := []) (h.all pyIsSpace (by decide))

theorem blank_of_spaces {l : Line} (h : SpacesOnly l) : l.length = indentOf l := by
  simp [indentOf, dropWhile_spaces h]

theorem spaces_drop {l : Line} (h : SpacesOnly l) (n : Nat) : SpacesOnly (l.drop n) :=
  fun c hc => h c (List.mem_of_mem_drop hc)

/-- the lines the `_tokenize_literal` loop walks over: blank, or indented deeper than the paragraph -/
def Continues (bi : Nat) (l : Line) : Prop := l.length = indentOf l ∨ bi < indentOf l

theorem litLoop_run (bi : Nat) (after : List Line)
    (ha : after = [] ∨ ∃ a as, after = a :: as ∧ a.length ≠ indentOf a ∧ indentOf a ≤ bi) :
    ∀ (xs : List Line) (n : Nat), (∀ l ∈ xs, Continues bi l) → litLoop bi (xs ++ after) n = n + xs.length := by
  intro xs
  induction xs with
  | nil =>
    intro n _
    rcases ha with rfl | ⟨a, as, rfl, h1, h2⟩
    · simp [litLoop]
    · simp [litLoop, h1, h2]
  | cons x xs ih =>
    intro n hx
    have hc := hx x (by simp)
    have : ¬(x.length ≠ indentOf x ∧ indentOf x ≤ bi) := by
      rcases hc with h | h
      · simp [h]
      · intro ⟨_, h2⟩; omega
    simp only [List.cons_append, litLoop, this, if_false]
    rw [ih (n + 1) (fun l hl => hx l (by simp [hl]))]
    simp; omega

theorem block_at {α} (before : List α) (x : α) (xs after : List α) :
    (before ++ (x :: xs) ++ after).drop (before.length + 1) = xs ++ after ∧
    slice (before ++ (x :: xs) ++ after) before.length (before.length + 1 + xs.length) = x :: xs := by
  constructor
  · rw [List.append_assoc, ← List.drop_drop, List.drop_left]
    rfl
  · unfold slice
    rw [Nat.add_assoc, Nat.add_comm 1, ← List.length_cons (a := x), ← List.length_append, List.take_left' rfl]
    exact List.drop_left' rfl

theorem tokenizeLiteral_block (before block after : List Line) (bi : Nat) (hne : block ≠ [])
    (hb : ∀ l ∈ block.tail, Continues bi l)
    (ha : after = [] ∨ ∃ a as, after = a :: as ∧ a.length ≠ indentOf a ∧ indentOf a ≤ bi) :
    tokenizeLiteral (before ++ block ++ after) before.length bi =
      (stripBlankEnds (joinNL (block.map (·.drop bi))), before.length + block.length) := by
  obtain ⟨x, xs, rfl⟩ := List.exists_cons_of_ne_nil hne
  obtain ⟨hdrop, hsl⟩ := block_at before x xs after
  unfold tokenizeLiteral
  rw [hdrop, litLoop_run bi after ha xs _ hb]
  dsimp only
  rw [hsl, Nat.add_assoc, Nat.add_comm 1, ← List.length_cons (a := x)]

/-! ### `re.sub(r'(\A[ \n]*\n)|(\n[ \n]*\Z)', '', contents)` removes the blank lines around the block and nothing else -/

theorem takeWhile_stop {α} (p : α → Bool) (l : List α) (c : α) (r : List α) (h : ∀ x ∈ l, p x = true)
    (hc : p c = false) : (l ++ c :: r).takeWhile p = l := by
  rw [List.takeWhile_append_of_pos h, List.takeWhile_cons_of_neg (by simp [hc]), List.append_nil]

theorem spaces_no_nl {R : Line} (h : SpacesOnly R) : R.contains '\n' = false := by
  simpa using fun hm => absurd (h _ hm) (by decide)

def LeadBlank (pre : List Char) : Prop := (∀ x ∈ pre, isSpNl x = true) ∧ (pre = [] ∨ ∃ p, pre = p ++ ['\n'])

def InkFirst (s : List Char) : Prop := ∃ R c rest, s = R ++ c :: rest ∧ SpacesOnly R ∧ isSpNl c = false

theorem InkFirst.append {s : List Char} (h : InkFirst s) (t : List Char) : InkFirst (s ++ t) := by
  obtain ⟨R, c, rest, rfl, hR, hc⟩ := h
  exact ⟨R, c, rest ++ t, by simp, hR, hc⟩

theorem cutLead_blank (pre s : List Char) (hpre : LeadBlank pre) (hs : InkFirst s) : cutLead (pre ++ s) = s := by
  obtain ⟨R, c, rest, rfl, hR, hc⟩ := hs
  obtain ⟨hall, hend⟩ := hpre
  unfold cutLead
  -- the run of blanks and newlines in front is `pre ++ R`
  rw [List.takeWhile_append_of_pos hall, takeWhile_stop _ R c rest (hR.all _ isSpNl_space) hc]
  rcases hend with rfl | ⟨p, rfl⟩
  · simp only [List.nil_append, spaces_no_nl hR, Bool.false_eq_true, if_false]
  · -- its last newline is the one that ends `pre`
    have hrev : ((p ++ ['\n']) ++ R).reverse = R.reverse ++ '\n' :: p.reverse := by simp
    rw [if_pos (by simp), hrev, takeWhile_stop (· ≠ '\n') R.reverse '\n' p.reverse
      (fun x hx => hR.all (· ≠ '\n') (by decide) x (List.mem_reverse.mp hx)) (by decide),
      List.reverse_reverse, ← List.append_assoc, List.drop_left]

/-- the second alternative of the regex is the first one read backwards -/
theorem cutTrail_eq (s : List Char) : cutTrail s = (cutLead s.reverse).reverse := by
  unfold cutTrail cutLead
  simp only [List.contains_reverse]
  split
  · simp [List.reverse_drop]
  · simp

theorem joinNL_cons (l : Line) (ls : List Line) (h : ls ≠ []) : joinNL (l :: ls) = l ++ '\n' :: joinNL ls := by
  cases ls with
  | nil => exact absurd rfl h
  | cons a as => rfl

def leadChars (A : List Line) : List Char := (A.map (· ++ ['\n'])).flatten
def trailChars (C : List Line) : List Char := (C.map ('\n' :: ·)).flatten

theorem joinNL_lead (A B : List Line) (hB : B ≠ []) : joinNL (A ++ B) = leadChars A ++ joinNL B := by
  induction A with
  | nil => rfl
  | cons a as ih =>
    have : as ++ B ≠ [] := by simp [hB]
    rw [List.cons_append, joinNL_cons a _ this, ih]
    simp [leadChars]

theorem joinNL_eq (c : Line) (cs : List Line) : joinNL (c :: cs) = c ++ trailChars cs := by
  induction cs generalizing c with
  | nil => simp [joinNL, trailChars]
  | cons d ds ih =>
    rw [joinNL_cons c _ (by simp), ih d]
    simp [trailChars]

theorem joinNL_trail (B C : List Line) (hB : B ≠ []) : joinNL (B ++ C) = joinNL B ++ trailChars C := by
  obtain ⟨b, bs, rfl⟩ := List.exists_cons_of_ne_nil hB
  simp [joinNL_eq, trailChars]

theorem leadChars_blank {A : List Line} (hA : ∀ l ∈ A, SpacesOnly l) : LeadBlank (leadChars A) := by
  constructor
  · intro x hx
    simp only [leadChars, List.mem_flatten, List.mem_map] at hx
    obtain ⟨l, ⟨a, ha, rfl⟩, hxl⟩ := hx
    rcases List.mem_append.mp hxl with h | h
    · rw [hA a ha x h]; decide
    · simp at h; subst h; decide
  · cases hA' : A.getLast? with
    | none => exact .inl (by rw [List.getLast?_eq_none_iff.mp hA']; rfl)
    | some z =>
      obtain ⟨A', rfl⟩ := List.getLast?_eq_some_iff.mp hA'
      exact .inr ⟨leadChars A' ++ z, by simp [leadChars]⟩

theorem trailChars_reverse (C : List Line) : (trailChars C).reverse = leadChars (C.reverse.map List.reverse) := by
  simp [trailChars, leadChars, List.reverse_flatten, List.map_reverse, Function.comp_def]

theorem trailChars_blank {C : List Line} (hC : ∀ l ∈ C, SpacesOnly l) : LeadBlank (trailChars C).reverse := by
  rw [trailChars_reverse]
  refine leadChars_blank fun l hl => ?_
  obtain ⟨a, ha, rfl⟩ := List.mem_map.mp hl
  exact fun c hc => hC a (List.mem_reverse.mp ha) c (List.mem_reverse.mp hc)
def HasInk (l : Line) : Prop := (∀ c ∈ l, c ≠ '\n') ∧ ∃ c ∈ l, c ≠ ' '

theorem ink_first {l : Line} (h : HasInk l) : InkFirst l := by
  obtain ⟨hnl, c0, hc0, hne⟩ := h
  induction l with
  | nil => simp at hc0
  | cons a as ih =>
    by_cases ha : a = ' '
    · have hmem : c0 ∈ as := by
        rcases List.mem_cons.mp hc0 with h | h
        · exact absurd (h ▸ ha) hne
        · exact h
      obtain ⟨R, c, rest, hl, hR, hc⟩ := ih (fun x hx => hnl x (by simp [hx])) hmem
      exact ⟨a :: R, c, rest, by simp [hl], fun x hx => by
        rcases List.mem_cons.mp hx with h | h
        · exact h ▸ ha
        · exact hR x h, hc⟩
    · refine ⟨[], a, as, rfl, (fun _ h => nomatch h), ?_⟩
      have hn := hnl a (by simp)
      simp [isSpNl, ha, hn]

theorem hasInk_reverse {l : Line} (h : HasInk l) : HasInk l.reverse :=
  ⟨fun c hc => h.1 c (List.mem_reverse.mp hc), by
    obtain ⟨c, hc, hne⟩ := h.2
    exact ⟨c, List.mem_reverse.mpr hc, hne⟩⟩

theorem stripBlankEnds_joinNL (A B C : List Line) (hA : ∀ l ∈ A, SpacesOnly l) (hC : ∀ l ∈ C, SpacesOnly l)
    (hf : ∃ f Bt, B = f :: Bt ∧ HasInk f) (hz : ∃ Bi z, B = Bi ++ [z] ∧ HasInk z) :
    stripBlankEnds (joinNL (A ++ B ++ C)) = joinNL B := by
  have hne : B ≠ [] := by obtain ⟨f, Bt, rfl, -⟩ := hf; simp
  have hfirst : InkFirst (joinNL B) := by
    obtain ⟨f, Bt, rfl, hfi⟩ := hf
    rw [joinNL_eq]
    exact (ink_first hfi).append _
  have hlast : InkFirst (joinNL B).reverse := by
    obtain ⟨Bi, z, rfl, hzi⟩ := hz
    rw [joinNL_lead Bi [z] (by simp), List.reverse_append]
    exact (ink_first (hasInk_reverse hzi)).append _
  rw [joinNL_trail (A ++ B) C (by simp [hne]), joinNL_lead A B hne]
  unfold stripBlankEnds
  rw [List.append_assoc, cutLead_blank _ _ (leadChars_blank hA) (hfirst.append _), cutTrail_eq, List.reverse_append,
    cutLead_blank _ _ (trailChars_blank hC) hlast, List.reverse_reverse]

theorem hasInk_drop {l : Line} {bi : Nat} (hnl : ∀ c ∈ l, c ≠ '\n') (hd : bi ≤ indentOf l) (hb : indentOf l < l.length) :
    HasInk (l.drop bi) := by
  refine ⟨fun c hc => hnl c (List.mem_of_mem_drop hc), ?_⟩
  have hsplit := List.takeWhile_append_dropWhile (p := pyIsSpace) (l := l)
  have hlen := indentOf_eq l
  cases hdw : l.dropWhile pyIsSpace with
  | nil =>
    have := congrArg List.length hsplit
    simp [hdw] at this
    omega
  | cons c cs =>
    have hcns : pyIsSpace c = false := by
      have := List.head_dropWhile_not (p := pyIsSpace) (l := l) (by simp [hdw])
      simpa [hdw] using this
    refine ⟨c, ?_, ?_⟩
    · rw [← hsplit, hdw, List.drop_append_of_le_length (by omega)]
      simp
    · intro h; subst h; revert hcns; decide

theorem removed_prefix_is_space {l : Line} {bi : Nat} (hd : bi ≤ indentOf l) : (l.take bi).all pyIsSpace = true := by
  rw [indentOf_eq] at hd
  exact all_take_of_le pyIsSpace l hd

/-- **C09, literal blocks.**  `lines = before ++ lead ++ src ++ trail ++ after`, the paragraph ending in
`::` has indentation `bi` and ends on the line before `lead`:
* `lead`, `trail`: blank lines (spaces only) around the block;
* `src`: the block — every line blank or indented deeper than `bi`, first and last line not blank, no
  newline characters inside lines;
* `after`: nothing, or a non-blank line indented no deeper than `bi`.
Then the literal-block token holds exactly the lines of `src`, each without its first `bi` characters
(white space, `removed_prefix_is_space`): every other character is kept — relative indentation, blank
lines inside the block, trailing blanks of every line — the blank lines around the block are dropped,
and tokenizing resumes at the first line of `after`. -/
theorem literal_block_exact (before lead src trail after : List Line) (bi : Nat)
    (hlead : ∀ l ∈ lead, SpacesOnly l) (htrail : ∀ l ∈ trail, SpacesOnly l)
    (hsrc : ∀ l ∈ src, (SpacesOnly l ∨ bi < indentOf l) ∧ ∀ c ∈ l, c ≠ '\n')
    (hf : ∃ f t, src = f :: t ∧ bi < indentOf f ∧ indentOf f < f.length)
    (hz : ∃ i z, src = i ++ [z] ∧ bi < indentOf z ∧ indentOf z < z.length)
    (ha : after = [] ∨ ∃ a as, after = a :: as ∧ a.length ≠ indentOf a ∧ indentOf a ≤ bi) :
    tokenizeLiteral (before ++ lead ++ src ++ trail ++ after) before.length bi =
      (joinNL (src.map (·.drop bi)), before.length + lead.length + src.length + trail.length) := by
  obtain ⟨f, t, hsf, hf1, hf2⟩ := hf
  obtain ⟨i, z, hsz, hz1, hz2⟩ := hz
  have hcont : ∀ l ∈ lead ++ src ++ trail, Continues bi l := by
    simp only [List.mem_append]
    rintro l ((h | h) | h)
    · exact .inl (blank_of_spaces (hlead l h))
    · exact (hsrc l h).1.imp blank_of_spaces id
    · exact .inl (blank_of_spaces (htrail l h))
  have hne : lead ++ src ++ trail ≠ [] := by simp [hsf]
  have hlines : before ++ lead ++ src ++ trail ++ after = before ++ (lead ++ src ++ trail) ++ after := by
    simp only [List.append_assoc]
  rw [hlines, tokenizeLiteral_block before _ after bi hne (fun l hl => hcont l (List.mem_of_mem_tail hl)) ha,
    List.map_append, List.map_append, stripBlankEnds_joinNL]
  · simp only [List.length_append, Nat.add_assoc]
  · exact List.forall_mem_map.mpr fun l hl => spaces_drop (hlead l hl) bi
  · exact List.forall_mem_map.mpr fun l hl => spaces_drop (htrail l hl) bi
  · exact ⟨f.drop bi, t.map (·.drop bi), by simp [hsf],
      hasInk_drop (hsrc f (by simp [hsf])).2 (Nat.le_of_lt hf1) hf2⟩
  · exact ⟨i.map (·.drop bi), z.drop bi, by simp [hsz],
      hasInk_drop (hsrc z (by simp [hsz])).2 (Nat.le_of_lt hz1) hz2⟩

/-- non-vacuity: paragraph at indentation 2, block lines at 6 and 8 with a blank line inside and trailing blanks,
blank lines around, then a dedented line -/
example :
    tokenizeLiteral ["  p::".toList, "".toList, "      a = 1  ".toList, "".toList, "        b".toList, "  ".toList, "  next".toList] 1 2
      = ("    a = 1  \n\n      b".toList, 6) := by
  repeat rw [String.toList_ofList]
  decide +kernel

/-! ### `_tokenize_doctest` -/

theorem indentOf_pad (k : Nat) (l : Line) : indentOf (List.replicate k ' ' ++ l) = k + indentOf l := by
  rw [indentOf_eq, indentOf_eq, List.takeWhile_append_of_pos fun a ha => by rw [List.eq_of_mem_replicate ha]; decide,
    List.length_append, List.length_replicate]

theorem dtLoop_run (bi : Nat) (after : List Line)
    (ha : after = [] ∨ ∃ a as, after = a :: as ∧ indentOf a = a.length) (m : Nat) (es : List Nat) :
    ∀ (xs : List Line) (n : Nat), (∀ l ∈ xs, indentOf l ≠ l.length ∧ bi ≤ indentOf l) →
      dtLoop bi (xs ++ after) n m es = (n + xs.length, m, es) := by
  intro xs
  induction xs with
  | nil =>
    intro n _
    rcases ha with rfl | ⟨a, as, rfl, h1⟩
    · simp [dtLoop]
    · simp [dtLoop, h1]
  | cons x xs ih =>
    intro n hx
    obtain ⟨h1, h2⟩ := hx x (by simp)
    have h3 : ¬ indentOf x < bi := by omega
    simp only [List.cons_append, dtLoop, h1, h3, if_false]
    rw [ih (n + 1) (fun l hl => hx l (by simp [hl]))]
    simp; omega

/-- **C09, doctest blocks.**  `lines = before ++ (body indented by bi) ++ after`; `body` starts with the
`>>> ` line, its other lines are not blank (any relative indentation, any trailing blanks); `after` is
nothing or starts with a blank line.  Then the doctest token holds exactly `body` joined by newlines —
every character of every line — no error is recorded and tokenizing resumes at the blank line. -/
theorem doctest_block_exact (before : List Line) (first : Line) (more after : List Line) (bi : Nat)
    (hmore : ∀ l ∈ more, indentOf l < l.length)
    (ha : after = [] ∨ ∃ a as, after = a :: as ∧ indentOf a = a.length) :
    tokenizeDoctest (before ++ (first :: more).map (List.replicate bi ' ' ++ ·) ++ after) before.length bi =
      (joinNL (first :: more), before.length + 1 + more.length, []) := by
  obtain ⟨hdrop, hsl⟩ := block_at before (List.replicate bi ' ' ++ first) (more.map (List.replicate bi ' ' ++ ·)) after
  have hrun := dtLoop_run bi after ha bi [] (more.map (List.replicate bi ' ' ++ ·)) (before.length + 1) (by
    intro l hl
    obtain ⟨a, ha', rfl⟩ := List.mem_map.mp hl
    have := hmore a ha'
    rw [indentOf_pad]
    simp
    omega)
  have hid : ((fun x => List.drop bi x) ∘ fun x => List.replicate bi ' ' ++ x) = id := by
    funext x
    simp [List.drop_left']
  unfold tokenizeDoctest
  rw [List.map_cons, hdrop, hrun]
  dsimp only
  rw [hsl, ← List.map_cons, List.map_map, hid, List.map_id, List.length_map]

/-- non-vacuity, and what happens to a line dedented below the prompt (an error is recorded and the
common indentation shrinks — outside the hypothesis) -/
example :
    tokenizeDoctest ["  >>> f()".toList, "  1  ".toList, "".toList, "  x".toList] 0 2 = (">>> f()\n1  ".toList, 2, []) ∧
    tokenizeDoctest ["  >>> f()".toList, " 1".toList] 0 2 = (" >>> f()\n1".toList, 2, [1]) := by
  repeat rw [String.toList_ofList]
  decide +kernel

/-! ## `_tokenize_para`: what is taken for a heading underline -/

theorem allSame_iff (c : Char) (l : List Char) : allSame c l = true ↔ ∀ x ∈ l, x = c := by
  induction l with
  | nil => simp [allSame]
  | cons a as ih =>
    by_cases h : a = c
    · simp [allSame, h, ih]
    · simp [allSame, h]

theorem underline_of_not_para (c0 : List Char) (a : Char) (t : List Char) (h : headingOf c0 (some (a :: t)) ≠ .para) :
    a ∈ headingChars ∧ (∀ x ∈ a :: t, x = a) ∧
      headingOf c0 (some (a :: t)) = if c0.length ≠ (a :: t).length then .typo else .heading (headingChars.idxOf a) := by
  simp only [headingOf] at h ⊢
  by_cases h1 : (!headingChars.contains a || farApart c0.length (a :: t).length) = true
  · exact absurd (if_pos h1) h
  rw [if_neg h1] at h ⊢
  by_cases h2 : (!allSame a (a :: t)) = true
  · exact absurd (if_pos h2) h
  rw [if_neg h2]
  simp at h1
  exact ⟨h1.1, (allSame_iff a (a :: t)).mp (by simpa using h2), rfl⟩

/-- if the second line of a paragraph is not a run of one repeated `=`, `-` or `~`, the paragraph is an ordinary
paragraph — no heading, and not even the "possible heading typo" warning; both lines stay text -/
theorem not_underline_of_other_char (c0 c1 : List Char) (hne : c1 ≠ [])
    (h : ¬ ∃ hc, hc ∈ headingChars ∧ ∀ x ∈ c1, x = hc) : headingOf c0 (some c1) = .para := by
  cases c1 with
  | nil => exact absurd rfl hne
  | cons a t =>
    refine Decidable.byContradiction fun hp => h ?_
    have hu := underline_of_not_para c0 a t hp
    exact ⟨a, hu.1, hu.2.1⟩

/-- a paragraph becomes a heading only when its second line is a run of one heading character exactly as
long as the first line; the level is the position of that character in `=-~` -/
theorem heading_underline (c0 c1 : List Char) (l : Nat) (h : headingOf c0 (some c1) = .heading l) :
    ∃ hc, headingChars[l]? = some hc ∧ (∀ x ∈ c1, x = hc) ∧ c1.length = c0.length ∧ c1 ≠ [] := by
  cases c1 with
  | nil => simp [headingOf] at h
  | cons a t =>
    obtain ⟨hmem, hsame, he⟩ := underline_of_not_para c0 a t (by simp [h])
    rw [h] at he
    by_cases h3 : c0.length ≠ (a :: t).length
    · rw [if_pos h3] at he; cases he
    rw [if_neg h3] at he
    have hl : l = headingChars.idxOf a := by injection he
    refine ⟨a, ?_, hsame, ?_, by simp⟩
    · rw [hl]
      simp only [headingChars, List.mem_cons, List.not_mem_nil, or_false] at hmem
      rcases hmem with rfl | rfl | rfl <;> decide
    · simp only [ne_eq, Decidable.not_not] at h3
      exact h3.symm

/-- non-vacuity, and the line pair of the seeded change: a text line that merely starts with `-` and is as
long as the line above is not an underline -/
example :
    headingOf "Return value".toList (some "============".toList) = .heading 0 ∧
    headingOf "Title".toList (some "-----".toList) = .heading 1 ∧
    headingOf "Title".toList (some "~~~~".toList) = .typo ∧
    headingOf "Returns the index of the item or".toList (some "-1 when the item cannot be found".toList) = .para := by
  repeat rw [String.toList_ofList]
  decide +kernel

/-! ## the literal block after the first paragraph of a list item or field -/

theorem listartLoop_some (b c : Nat) : ∀ (ls : List (Line × Bool)) (n : Nat) (dc : Bool),
    (listartLoop b ls n (some c) dc).2 = some c := by
  intro ls
  induction ls with
  | nil => intro n dc; rfl
  | cons x xs ih =>
    intro n dc
    -- every branch of the loop body stops with `some c` untouched or goes round again
    simp only [listartLoop, apply_ite Prod.snd, ih, ite_self]

/-- when the line after the bullet line continues the paragraph (not blank, indented at least like the bullet, no
bullet of its own, the bullet line does not end with `::`), the paragraph's indentation — from which the literal
block after `::` is measured — is the indentation of that continuation line, whatever follows -/
theorem wrapped_item_para_indent (b : Nat) (l : Line) (rest : List (Line × Bool)) (n : Nat)
    (hblank : indentOf l ≠ l.length) (hdeep : ¬ indentOf l < b) :
    (listartLoop b ((l, false) :: rest) n none false).2 = some (indentOf l) := by
  simp only [listartLoop, hblank, hdeep, if_false, Bool.false_eq_true]
  exact listartLoop_some b (indentOf l) rest (n + 1) _

/-- non-vacuity: a two-line first paragraph ending with `::`, a literal block, then a second paragraph of the
same item; the block is measured from the continuation line (indentation 4): its lines lose 4 blanks and the
paragraph that follows ends it -/
example :
    itemLiteral ["  - first line".toList, "    goes on::".toList, "".toList, "        x = 1".toList, "".toList, "    after".toList]
      [true, false, false, false, false, false] 0 2 4 = some ("    x = 1".toList, 4) := by
  repeat rw [String.toList_ofList]
  decide +kernel

/-! ## `ParsedPlaintextDocstring.to_stan` -/

/-- **C09, plaintext.** `to_stan` of a plaintext docstring is one `<p class="pre">` whose only child is
the docstring itself: reproduced exactly (what the flattener does with a string is C10's `Escape`) -/
theorem plaintext_exact (text : List Char) : (plaintextToStan text).flatten = text := by
  simp [plaintextToStan]

end Epytext

/-! ## `doctest.py`: the yielded pieces concatenate to the input -/
namespace Doctest
open Epytext (slice joinNL rstrip Line slice_self)

theorem textOf_nil : textOf [] = [] := rfl
theorem textOf_cons (p : Piece) (ps : List Piece) : textOf (p :: ps) = p.text ++ textOf ps := by
  simp [textOf]

theorem textOf_append (a b : List Piece) : textOf (a ++ b) = textOf a ++ textOf b := by
  simp [textOf]

theorem textOf_nonempty (cls : Cls) (r : List Char) : textOf (if r.isEmpty then [] else [.span cls r]) = r := by
  cases r <;> simp [textOf, Piece.text]

theorem emitLine_text (P : Params) (line : List Char) : textOf (emitLine P line) = line := by
  unfold emitLine
  cases P.promptEnd line with
  | none => exact textOf_nonempty _ line
  | some pe =>
    dsimp only
    rw [textOf_cons, textOf_nonempty]
    exact List.take_append_drop pe line

theorem stringLoop_text (P : Params) : ∀ (rest line : List Char), textOf (stringLoop P line rest) = line ++ rest := by
  intro rest
  induction rest with
  | nil => intro line; simp [stringLoop, emitLine_text]
  | cons c cs ih =>
    intro line
    simp only [stringLoop]
    by_cases h : c = '\n'
    · subst h
      simp [textOf_append, textOf_cons, emitLine_text, ih, Piece.text]
    · simp [h, ih]

/-- the regex contracts `subfunc` relies on, for the text of one match -/
def SubOk (P : Params) (kind : MKind) (text : List Char) : Prop :=
  (kind = .eos → text = []) ∧
  (kind = .define → ∀ d sp n, P.defineGroups text = some (d, sp, n) → d ++ sp ++ n = text)

theorem subfunc_conserves (P : Params) (kind : MKind) (text : List Char) (ps : List Piece)
    (hok : SubOk P kind text) (h : subfunc P kind text = .ok ps) : textOf ps = text := by
  unfold subfunc at h
  cases kind <;> simp only at h
  case prompt1 | prompt2 | keyword | builtin | comment => cases h; simp [textOf, Piece.text]
  case string => cases h; simpa using stringLoop_text P text []
  case define =>
    cases hg : P.defineGroups text with
    | none => simp [hg] at h
    | some g =>
      obtain ⟨d, sp, n⟩ := g
      simp only [hg] at h
      cases h
      have := hok.2 rfl d sp n hg
      simp [textOf, Piece.text, ← this]
  case eos => cases h; simp [textOf, hok.1 rfl]

theorem slice_append_drop {α} (s : List α) {a b : Nat} (h : a ≤ b) : slice s a b ++ s.drop b = s.drop a := by
  unfold slice
  by_cases hb : b ≤ s.length
  · have : a ≤ (s.take b).length := by simp; omega
    rw [← List.drop_append_of_le_length this, List.take_append_drop]
  · have hb' : s.length ≤ b := by omega
    simp [List.take_of_length_le hb', List.drop_eq_nil_iff.mpr hb']

theorem gap_text (s : List Char) {a b : Nat} (h : a ≤ b) :
    textOf (if a < b then [.raw (slice s a b)] else []) = slice s a b := by
  by_cases hlt : a < b
  · simp [hlt, textOf, Piece.text]
  · rw [if_neg hlt, Nat.le_antisymm h (Nat.le_of_not_lt hlt), slice_self]
    rfl

/-- the spans of `finditer`: non-overlapping and increasing, starting at or after `idx` -/
def Spans : List Match → Nat → Prop
  | [], _ => True
  | m :: ms, idx => idx ≤ m.start ∧ m.start ≤ m.stop ∧ Spans ms m.stop

/-- **C09, code highlighting.** For any non-overlapping increasing match spans, the pieces
`colorize_codeblock_body` yields concatenate to the input (from `idx` on) -/
theorem splice_conserves (P : Params) (s : List Char) : ∀ (ms : List Match) (idx : Nat) (ps : List Piece),
    Spans ms idx → (∀ m ∈ ms, SubOk P m.kind (slice s m.start m.stop)) →
    codeblockBody P s ms idx = .ok ps → textOf ps = s.drop idx := by
  intro ms idx
  fun_induction codeblockBody P s ms idx with
  | case1 => rintro ps _ _ ⟨⟩; simp [textOf]
  | case2 => rintro ps _ _ ⟨⟩
  | case3 m ms idx mid rest hrest hsub ih =>
    rintro ps ⟨h1, h2, h3⟩ hok ⟨⟩
    have hmid := subfunc_conserves P m.kind _ mid (hok m (by simp)) hsub
    have hr := ih rest h3 (fun x hx => hok x (by simp [hx])) hrest
    rw [textOf_append, textOf_append, gap_text s h1, hmid, hr, List.append_assoc, slice_append_drop s h2,
      slice_append_drop s h1]
  | case4 => rintro ps _ _ ⟨⟩

theorem splice_conserves_whole (P : Params) (s : List Char) (ms : List Match) (ps : List Piece)
    (hsp : Spans ms 0) (hok : ∀ m ∈ ms, SubOk P m.kind (slice s m.start m.stop))
    (h : codeblockBody P s ms 0 = .ok ps) : textOf ps = s := by
  simpa using splice_conserves P s ms 0 ps hsp hok h

/-- what is displayed for an expected-output group -/
def wantText (want : List Char) : List Char := if want.isEmpty then [] else dropFinalNewline want ++ ['\n']

theorem splitNL_lines (x : List Char) :
    ((splitNL x).map (fun l => l ++ ['\n'])).flatten = x ++ ['\n'] := by
  induction x with
  | nil => rfl
  | cons c cs ih =>
    simp only [splitNL]
    cases hs : splitNL cs with
    | nil => simp [hs] at ih
    | cons p ps =>
      simp only [hs, List.map_cons, List.flatten_cons] at ih ⊢
      by_cases hc : c = '\n'
      · subst hc
        simp only [if_true, List.map_cons, List.flatten_cons, List.nil_append]
        rw [ih]; rfl
      · simp only [hc, if_false, List.map_cons, List.flatten_cons]
        rw [List.cons_append, List.cons_append, ih]
        rfl

theorem flatMap_lines_text (cls : Cls) (ls : List Line) :
    textOf (ls.flatMap fun line => [Piece.span cls line, Piece.raw ['\n']]) =
      (ls.map (fun l => l ++ ['\n'])).flatten := by
  induction ls with
  | nil => rfl
  | cons l ls ih =>
    simp only [List.flatMap_cons, textOf_append, ih, List.map_cons, List.flatten_cons]
    simp [textOf, Piece.text]

theorem wantPieces_text (exc : Bool) (want : List Char) : textOf (wantPieces exc want) = wantText want := by
  unfold wantPieces wantText
  by_cases h : want.isEmpty = true
  · simp [h, textOf]
  · simp only [h, Bool.false_eq_true, if_false]
    rw [flatMap_lines_text, splitNL_lines]

/-- spans of `DOCTEST_EXAMPLE_RE.finditer`: increasing, `source` then `want` inside each match; the
inner `DOCTEST_RE` matches satisfy `Spans` and the regex contracts -/
def Examples (P : Params) (s : List Char) : List Example → Nat → Prop
  | [], _ => True
  | ex :: exs, idx =>
    idx ≤ ex.start ∧ ex.start ≤ ex.srcEnd ∧ ex.srcEnd ≤ ex.stop ∧
    Spans ex.inner 0 ∧
    (∀ m ∈ ex.inner, SubOk P m.kind (slice (slice s ex.start ex.srcEnd) m.start m.stop)) ∧
    Examples P s exs ex.stop

/-- the text `colorize_doctest_body` displays -/
def shownText (s : List Char) : List Example → Nat → List Char
  | [], idx => s.drop idx
  | ex :: exs, idx =>
    slice s idx ex.start ++ slice s ex.start ex.srcEnd ++ wantText (slice s ex.srcEnd ex.stop) ++ shownText s exs ex.stop

/-- exact description of the displayed text: the input, with every non-empty expected-output group
written as (group without final newline) + newline -/
theorem doctest_body_text (P : Params) (s : List Char) : ∀ (exs : List Example) (idx : Nat) (ps : List Piece),
    Examples P s exs idx → doctestBody P s exs idx = .ok ps → textOf ps = shownText s exs idx := by
  intro exs idx
  fun_induction doctestBody P s exs idx with
  | case1 => rintro ps _ ⟨⟩; simp [textOf, Piece.text, shownText]
  | case2 ex exs idx _ want src rest hr hsrc ih =>
    rintro ps ⟨_, _, _, hsp, hok, hrest⟩ ⟨⟩
    have h1 := splice_conserves_whole P _ ex.inner src hsp hok hsrc
    have h2 := ih rest hrest hr
    simp only [textOf_cons, textOf_append, Piece.text, h1, h2, wantPieces_text, shownText, want, List.append_assoc]
  | case3 => rintro ps _ ⟨⟩

def NLTerminated (want : List Char) : Prop := want = [] ∨ want.getLast? = some '\n'

theorem wantText_terminated {want : List Char} (h : NLTerminated want) : wantText want = want := by
  unfold wantText
  rcases h with h | h
  · subst h; rfl
  · obtain ⟨w, rfl⟩ := List.getLast?_eq_some_iff.mp h
    simp [dropFinalNewline]

theorem wantText_cases (want : List Char) : wantText want = want ∨ wantText want = want ++ ['\n'] := by
  by_cases h : NLTerminated want
  · exact Or.inl (wantText_terminated h)
  · right
    unfold wantText
    have h1 : want ≠ [] := fun e => h (Or.inl e)
    have h2 : want.getLast? ≠ some '\n' := fun e => h (Or.inr e)
    have : want.isEmpty = false := List.isEmpty_eq_false_iff.mpr h1
    simp [this, dropFinalNewline, h2]

theorem example_text (s : List Char) {i a b c : Nat} (h1 : i ≤ a) (h2 : a ≤ b) (h3 : b ≤ c) (tail : List Char) :
    slice s i a ++ slice s a b ++ slice s b c ++ (s.drop c ++ tail) = s.drop i ++ tail := by
  rw [← slice_append_drop s h1, ← slice_append_drop s h2, ← slice_append_drop s h3]
  simp only [List.append_assoc]

theorem shownText_exact (P : Params) (s : List Char) : ∀ (exs : List Example) (idx : Nat),
    Examples P s exs idx → (∀ ex ∈ exs, NLTerminated (slice s ex.srcEnd ex.stop)) → shownText s exs idx = s.drop idx := by
  intro exs
  induction exs with
  | nil => intro idx _ _; rfl
  | cons ex exs ih =>
    intro idx hex hw
    obtain ⟨h1, h2, h3, _, _, hrest⟩ := hex
    simp only [shownText]
    rw [wantText_terminated (hw ex (by simp)), ih ex.stop hrest (fun x hx => hw x (by simp [hx]))]
    simpa using example_text s h1 h2 h3 []

/-- the contract of `DOCTEST_EXAMPLE_RE` (`.*$\n?` per line): an expected-output group lacks its final
newline only when it is the last one and reaches the end of the string -/
def Terminated (s : List Char) : List Example → Prop
  | [] => True
  | ex :: exs =>
    (NLTerminated (slice s ex.srcEnd ex.stop) ∧ Terminated s exs) ∨ (exs = [] ∧ s.length ≤ ex.stop)

theorem shownText_eof (P : Params) (s : List Char) : ∀ (exs : List Example) (idx : Nat),
    Examples P s exs idx → Terminated s exs →
    shownText s exs idx = s.drop idx ∨ shownText s exs idx = s.drop idx ++ ['\n'] := by
  intro exs
  induction exs with
  | nil => intro idx _ _; exact Or.inl rfl
  | cons ex exs ih =>
    intro idx hex ht
    obtain ⟨h1, h2, h3, _, _, hrest⟩ := hex
    simp only [shownText]
    rcases ht with ⟨hnl, ht'⟩ | ⟨rfl, hlen⟩
    · rw [wantText_terminated hnl]
      rcases ih ex.stop hrest ht' with h | h
      · left; rw [h]; simpa using example_text s h1 h2 h3 []
      · right; rw [h]; exact example_text s h1 h2 h3 ['\n']
    · have hdrop : s.drop ex.stop = [] := List.drop_eq_nil_iff.mpr hlen
      have hall := example_text s h1 h2 h3 []
      simp only [hdrop, List.append_nil] at hall
      simp only [shownText, hdrop, List.append_nil]
      rcases wantText_cases (slice s ex.srcEnd ex.stop) with h | h
      · left; rw [h, hall]
      · right; rw [h, ← List.append_assoc, hall]

/-- **C09, doctest blocks** (pydoctor a0449ac and later; no hypothesis about white space): for the spans
the regexes produce, the displayed doctest block is the input character for character — every
blank that ends a line of expected output included — or the input followed by one newline when the
input ends inside an expected output. -/
theorem doctest_body_conserves (P : Params) (s : List Char) (exs : List Example) (ps : List Piece)
    (hex : Examples P s exs 0) (ht : Terminated s exs)
    (h : doctestBody P s exs 0 = .ok ps) : textOf ps = s ∨ textOf ps = s ++ ['\n'] := by
  rw [doctest_body_text P s exs 0 ps hex h]
  simpa using shownText_eof P s exs 0 hex ht

/-- … and exactly the input when every expected-output group ends with its newline -/
theorem doctest_body_conserves_exact (P : Params) (s : List Char) (exs : List Example) (ps : List Piece)
    (hex : Examples P s exs 0) (hw : ∀ ex ∈ exs, NLTerminated (slice s ex.srcEnd ex.stop))
    (h : doctestBody P s exs 0 = .ok ps) : textOf ps = s := by
  rw [doctest_body_text P s exs 0 ps hex h, shownText_exact P s exs 0 hex hw]
  rfl

def cexText : List Char := ">>> 1\n1  \n".toList
def cexExamples : List Example := [⟨0, 6, 10, [⟨0, 4, .prompt1⟩, ⟨6, 6, .eos⟩], false⟩]

/-- non-vacuity, and the fix: `>>> 1` with expected output `1␣␣` is reproduced with its two blanks -/
example :
    (match doctestBody reParams cexText cexExamples 0 with
     | .ok ps => textOf ps == cexText
     | .error _ => false) = true := by
  decide +kernel

/-- the one remaining deviation: input that ends inside an expected output gains a final newline -/
example :
    (match doctestBody reParams ">>> 1\n1  ".toList [⟨0, 6, 9, [⟨0, 4, .prompt1⟩, ⟨6, 6, .eos⟩], false⟩] 0 with
     | .ok ps => textOf ps == ">>> 1\n1  \n".toList
     | .error _ => false) = true := by
  decide +kernel

/-- **historical counterexample** (the code before a0449ac, `want.rstrip()`, transcribed as
`doctestBodyOld`): on the same input the two blanks were dropped -/
theorem doctest_body_old_counterexample :
    (match doctestBodyOld reParams cexText cexExamples 0 with
     | .ok ps => textOf ps == ">>> 1\n1\n".toList && textOf ps != cexText
     | .error _ => false) = true := by
  decide +kernel

/-- non-vacuity of `splice_conserves`: `def f(x): # c` with a DEFINE, a COMMENT and the EOS match -/
example :
    (match codeblockBody reParams "def f(x): # c".toList [⟨0, 5, .define⟩, ⟨10, 13, .comment⟩, ⟨13, 13, .eos⟩] 0 with
     | .ok ps => textOf ps == "def f(x): # c".toList && ps.length == 5
     | .error _ => false) = true := by
  decide +kernel

end Doctest

/-! ## every field is rendered, handed to a displayed attribute, or reported — over the live table

In namespace `Docstring` after the property's name (`Docstring.every_tag_rendered_or_reported`); the statements are about
`Fields` of `PdModel/Epytext.lean`, not about the wrapper model `PdModel/Docstring.lean` of C08. -/
namespace Docstring
open Fields

/-- `FieldHandler.handle`: every `handle_<tag>` attribute of the class under test, and the fallback for
any other tag (`customfield` stands for all of them) -/
def allHandlers : List (String × String) :=
  Generated.Fields.handlers ++ [("customfield", Generated.Fields.fallback)]

def kinds : List ObjKind := [.module, .cls, .function, .attr]
def shapes : List Shape :=
  [⟨false, false, false⟩, ⟨false, false, true⟩, ⟨false, true, false⟩, ⟨false, true, true⟩,
   ⟨true, false, false⟩, ⟨true, false, true⟩, ⟨true, true, false⟩, ⟨true, true, true⟩]

theorem kinds_complete (k : ObjKind) : k ∈ kinds := by cases k <;> decide
theorem shapes_complete (s : Shape) : s ∈ shapes := by
  obtain ⟨a, b, c⟩ := s
  cases a <;> cases b <;> cases c <;> decide

/-- the inputs on which today's code keeps the field: a `type` field with a name in a module or class
docstring must name a variable that is assigned in the body or documented by `ivar`/`cvar`/`var`
(otherwise `extract_fields` creates an `Attribute` without kind, which is not displayed — e.g. the
type of a constructor parameter documented on the class).  Since 513af36 nothing else is excluded:
`ivar`/`cvar`/`var` outside a module or class docstring are reported. -/
def inScope (tag : String) (k : ObjKind) (s : Shape) : Bool :=
  !(tag == "type" && (k == .module || k == .cls) && s.hasArg) || s.attrKnown

theorem table_check :
    allHandlers.all (fun p => kinds.all fun k => shapes.all fun s =>
      (outcome p.1 p.2 k s).kept == inScope p.1 k s) = true := by
  decide +kernel

/-- exactly the fields outside `inScope` are lost -/
theorem kept_iff_in_scope (tag fn : String) (h : (tag, fn) ∈ allHandlers) (k : ObjKind) (s : Shape) :
    (outcome tag fn k s).kept = inScope tag k s := by
  simpa using List.all_eq_true.mp (List.all_eq_true.mp (List.all_eq_true.mp table_check _ h) k (kinds_complete k)) s
    (shapes_complete s)

/-
Full statement — FALSE of the current code:

  theorem every_tag_rendered_or_reported (h : (tag, fn) ∈ allHandlers) (k : ObjKind) (s : Shape) :
      (outcome tag fn k s).kept = true
-/

/-- **partial**: every field tag of the live table, in every kind of docstring and every shape of field,
is displayed under a heading, handed to a displayed attribute, or reported — under `inScope` -/
theorem every_tag_rendered_or_reported_partial (tag fn : String) (h : (tag, fn) ∈ allHandlers)
    (k : ObjKind) (s : Shape) (hs : inScope tag k s = true) : (outcome tag fn k s).kept = true := by
  rw [kept_iff_in_scope tag fn h k s, hs]

theorem every_tag_but_type_rendered_or_reported (tag fn : String) (h : (tag, fn) ∈ allHandlers) (ht : tag ≠ "type")
    (k : ObjKind) (s : Shape) : (outcome tag fn k s).kept = true := by
  apply every_tag_rendered_or_reported_partial tag fn h k s
  simp [inScope, ht]

/-- **counterexample**: `@type a: …` in a class docstring for a name that is no known variable is in
the table and is dropped: no heading, no displayed attribute, no report -/
theorem every_tag_rendered_or_reported_counterexample :
    ("type", "handle_type") ∈ allHandlers ∧
      (outcome "type" "handle_type" .cls ⟨true, true, false⟩).kept = false := by
  have hm : ("type", "handle_type") ∈ allHandlers := by decide +kernel
  exact ⟨hm, by rw [kept_iff_in_scope _ _ hm]; decide +kernel⟩

/-- non-vacuity: the same field where it is in scope; `@ivar` in a function docstring is reported (513af36) -/
example :
    (outcome "type" "handle_type" .cls ⟨true, false, true⟩).kept = true ∧
    (outcome "type" "handle_type" .function ⟨true, true, false⟩).heading = some "Parameters" ∧
    (outcome "ivar" "handled_elsewhere" .function ⟨true, false, false⟩).reported = true ∧
    (outcome "ivar" "handled_elsewhere" .cls ⟨true, false, false⟩).attrShown = true := by
  decide +kernel

/-- every handler function of the live table is one the model knows -/
theorem handlers_modelled :
    allHandlers.all (fun p => (handler p.2 .function ⟨false, false, false⟩).modelled) = true := by
  -- a field of a function docstring is always in scope, so it is kept; only a modelled handler keeps anything
  rw [List.all_eq_true]
  intro p hp
  have h := every_tag_rendered_or_reported_partial p.1 p.2 hp .function ⟨false, false, false⟩ (by simp [inScope])
  simp only [Outcome.kept, outcome, Bool.and_eq_true] at h
  exact h.1

/-! ## paired fields (`@return`/`@rtype`, `@yield`/`@ytype`): both texts are kept in either order -/

/-- description then type, or type then description: from any state of `return_desc` / `yields_desc` the
entry ends up with both texts -/
theorem pair_both_orders_kept (init : Option PairDesc) (a b : Nat) :
    runPair init [.desc a, .type b] = runPair init [.type b, .desc a] ∧
    (∃ d, runPair init [.desc a, .type b] = some d ∧ d.body = some a ∧ d.type = some b) := by
  cases init with
  | none => exact ⟨rfl, _, rfl, rfl, rfl⟩
  | some d => exact ⟨rfl, _, rfl, rfl, rfl⟩

theorem runPair_exists (init : Option PairDesc) (e : PairEvent) (es : List PairEvent) :
    ∃ d, runPair init (e :: es) = some d := by
  unfold runPair
  rw [List.foldl_cons]
  exact List.foldlRecOn (motive := fun o => ∃ d, o = some d) es pairStep (by cases e <;> exact ⟨_, rfl⟩)
    fun _ _ e _ => by cases e <;> exact ⟨_, rfl⟩

/-- in any sequence of fields of the pair, the entry shows the text of the last description field (and, by
`runPair_last_type`, of the last type field) -/
theorem runPair_last_desc (init : Option PairDesc) (es : List PairEvent) (a : Nat) (rest : List PairEvent)
    (hrest : ∀ e ∈ rest, ∀ t, e ≠ .desc t) :
    ∃ d, runPair init (es ++ .desc a :: rest) = some d ∧ d.body = some a := by
  unfold runPair
  rw [List.foldl_append, List.foldl_cons]
  refine List.foldlRecOn (motive := fun o => ∃ d, o = some d ∧ d.body = some a) rest pairStep ?_ ?_
  · exact ⟨_, rfl, rfl⟩
  rintro _ ⟨d, rfl, hb⟩ e he
  cases e with
  | desc t => exact absurd rfl (hrest _ he t)
  | type t => exact ⟨_, rfl, hb⟩

theorem runPair_last_type (init : Option PairDesc) (es : List PairEvent) (b : Nat) (rest : List PairEvent)
    (hrest : ∀ e ∈ rest, ∀ t, e ≠ .type t) :
    ∃ d, runPair init (es ++ .type b :: rest) = some d ∧ d.type = some b := by
  unfold runPair
  rw [List.foldl_append, List.foldl_cons]
  refine List.foldlRecOn (motive := fun o => ∃ d, o = some d ∧ d.type = some b) rest pairStep ?_ ?_
  · exact ⟨_, rfl, rfl⟩
  rintro _ ⟨d, rfl, hb⟩ e he
  cases e with
  | type t => exact absurd rfl (hrest _ he t)
  | desc t => exact ⟨_, rfl, hb⟩

theorem runPair_isSome (es : List PairEvent) : ∀ init : Option PairDesc,
    ((runPair init es).bind (·.body)).isSome =
      ((init.bind (·.body)).isSome || es.any fun e => match e with | .desc _ => true | .type _ => false) ∧
    ((runPair init es).bind (·.type)).isSome =
      ((init.bind (·.type)).isSome || es.any fun e => match e with | .type _ => true | .desc _ => false) := by
  induction es with
  | nil => intro init; simp [runPair]
  | cons e es ih =>
    intro init
    have := ih (pairStep init e)
    unfold runPair at this ⊢
    rw [List.foldl_cons, this.1, this.2]
    cases e <;> cases init <;> simp [pairStep]

/-- a `@return` / `@yield` (resp. `@rtype` / `@ytype`) that replaces an earlier one is reported (08a4c10): after any
fields, the handler reports the field exactly when a field of the same kind came before -/
theorem pair_duplicate_reported (es : List PairEvent) (t : Nat) :
    pairDup (runPair none es) (.desc t) = (es.any fun e => match e with | .desc _ => true | .type _ => false) ∧
    pairDup (runPair none es) (.type t) = (es.any fun e => match e with | .type _ => true | .desc _ => false) := by
  simpa [pairDup] using runPair_isSome es none

example : pairDupCount none [.desc 1, .type 2, .desc 3, .type 4] = 2 ∧ pairDupCount none [.type 2, .desc 1] = 0 := by decide +kernel

end Docstring

/-! ## the Parameters table: a described or typed parameter has its row -/
namespace Params

theorem lookup_map_set {β} (k k' : Nat) (v : β) : ∀ (l : List (Nat × β)),
    (l.map (fun p => if p.1 == k then (k, v) else p)).lookup k' =
      if k' = k then (if l.any (·.1 == k) then some v else none) else l.lookup k'
  | [] => by simp [List.lookup]
  | (a, b) :: ps => by
    have ih := lookup_map_set k k' v ps
    by_cases hak : a = k
    · subst hak
      by_cases hk : k' = a
      · subst hk; simp
      · have h1 : (k' == a) = false := by simpa using hk
        simp only [List.map_cons, beq_self_eq_true, if_true, List.lookup, h1, hk, if_false] at ih ⊢
        exact ih
    · have h1 : (a == k) = false := by simpa using hak
      by_cases hka : k' = a
      · subst hka
        simp [List.lookup, hak]
      · have h2 : (k' == a) = false := by simpa using hka
        simp only [List.map_cons, h1, Bool.false_eq_true, if_false, List.lookup, h2, List.any_cons, Bool.false_or] at ih ⊢
        exact ih

theorem lookup_dictSet {β} (d : List (Nat × β)) (k k' : Nat) (v : β) :
    (dictSet d k v).lookup k' = if k' = k then some v else d.lookup k' := by
  unfold dictSet
  cases hany : d.any (·.1 == k) with
  | true =>
    rw [if_pos rfl, lookup_map_set, hany]
    simp
  | false =>
    -- a new key goes to the end, behind entries that do not answer for it
    rw [if_neg (by simp), List.lookup_append]
    by_cases hk : k' = k
    · subst hk
      have hnone : d.lookup k' = none := List.lookup_eq_none_iff.mpr fun p hp =>
        bne_iff_ne.mpr fun e => List.any_eq_false.mp hany p hp (beq_iff_eq.mpr e.symm)
      simp [hnone, List.lookup]
    · simp [hk, List.lookup, beq_false_of_ne hk]

def lastDesc (descs : List Desc) (n : Nat) : Option Desc := (descs.filter (·.name == n)).getLast?

theorem lastDesc_cons (d : Desc) (ds : List Desc) (n : Nat) :
    lastDesc (d :: ds) n = (lastDesc ds n).or (if d.name = n then some d else none) := by
  unfold lastDesc
  by_cases h : d.name = n
  · rw [List.filter_cons_of_pos (by simpa using h), List.getLast?_cons, if_pos h]
    cases (List.filter (·.name == n) ds).getLast? <;> rfl
  · rw [List.filter_cons_of_neg (by simpa using h), if_neg h, Option.or_none]

theorem foldl_dict_lookup (ds : List Desc) : ∀ (acc : List (Nat × Desc)) (n : Nat),
    (ds.foldl (fun d p => dictSet d p.name p) acc).lookup n = (lastDesc ds n).or (acc.lookup n) := by
  induction ds with
  | nil => intro acc n; rfl
  | cons d ds ih =>
    intro acc n
    rw [List.foldl_cons, ih, lastDesc_cons, Option.or_assoc, lookup_dictSet]
    congr 1
    by_cases h : d.name = n
    · simp [h]
    · simp [h, Ne.symm h]

theorem paramsDict_lookup (descs : List Desc) (n : Nat) : (paramsDict descs).lookup n = lastDesc descs n := by
  unfold paramsDict
  rw [foldl_dict_lookup]
  exact Option.or_none
theorem lastDesc_name {descs : List Desc} {n : Nat} {d : Desc} (h : lastDesc descs n = some d) : d.name = n := by
  unfold lastDesc at h
  have := List.mem_of_getLast? h
  simpa using (List.mem_filter.mp this).2

theorem lookup_filter_ne {β} (l : List (Nat × β)) (k n : Nat) (h : n ≠ k) :
    (l.filter (·.1 != k)).lookup n = l.lookup n := by
  induction l with
  | nil => rfl
  | cons p ps ih =>
    obtain ⟨a, b⟩ := p
    by_cases hak : a = k
    · subst hak
      have h1 : (n == a) = false := by simpa using h
      simp [List.lookup, h1, ih]
    · have h2 : (a != k) = true := by simpa using hak
      simp only [List.filter_cons, h2, if_true, List.lookup]
      cases (n == a) <;> simp [ih]

theorem lookup_mem {β} (l : List (Nat × β)) (n : Nat) (v : β) (h : l.lookup n = some v) : (n, v) ∈ l := by
  obtain ⟨l₁, l₂, rfl, -⟩ := List.lookup_eq_some_iff.mp h
  simp

theorem isEmpty_of_lookup {β} {l : List (Nat × β)} {k : Nat} {v : β} (h : l.lookup k = some v) : l.isEmpty = false := by
  cases l with
  | nil => cases h
  | cons a as => rfl

theorem exists_mem_cons {α} {p : α → Prop} (y : α) {r : List α} : (∃ x ∈ r, p x) → ∃ x ∈ y :: r, p x :=
  Exists.imp fun _ h => ⟨List.mem_cons_of_mem _ h.1, h.2⟩

theorem resolveLoop_keeps (s : Sig) (ts : List (Nat × Option PType)) (idx : Nat) (params : List (Nat × Desc))
    (n : Nat) (d : Desc) (h : params.lookup n = some d) (hn : d.name = n) :
    ∃ x ∈ (resolveLoop s ts idx params).1 ++ (resolveLoop s ts idx params).2.1.map (·.2),
      x.name = n ∧ x.body = d.body := by
  -- the branches of the loop: `types` exhausted; the name has a description (popped from `params`); a leading
  -- `self` / `cls` is skipped; a row without description
  fun_induction resolveLoop s ts idx params with
  | case1 => exact ⟨d, List.mem_map.mpr ⟨_, lookup_mem _ _ _ h, rfl⟩, hn, rfl⟩
  | case2 name _ _ _ _ d' hl _ ih =>
    by_cases hnn : n = name
    · subst hnn
      obtain rfl : d = d' := Option.some.inj (h.symm.trans hl)
      exact ⟨_, List.mem_cons_self, hn, rfl⟩
    · exact exists_mem_cons _ (ih (by rw [lookup_filter_ne _ _ _ hnn]; exact h))
  | case3 _ _ _ _ _ _ _ ih => exact ih h
  | case4 _ _ _ _ _ _ _ _ ih => exact exists_mem_cons _ (ih h)

/-- the `**kwargs` step only moves or drops the undocumented `**kwargs` entry, and a table with a documented row is
shown -/
theorem mem_rows (s : Sig) (fh : FH) (x : Desc)
    (hx : x ∈ (resolveLoop s fh.types 0 (paramsDict fh.descs)).1 ++
      (resolveLoop s fh.types 0 (paramsDict fh.descs)).2.1.map (·.2))
    (hany : (!(paramsDict fh.descs).isEmpty || (resolveLoop s fh.types 0 (paramsDict fh.descs)).2.2) = true)
    (hdoc : x.isDocumented = true) : x ∈ rows s fh := by
  have hres : x ∈ resolveTypes s fh := by
    unfold resolveTypes
    simp only [hany, if_true]
    split
    · exact hx
    · next k _ =>
      by_cases hxk : x = k
      · subst hxk
        simp [hdoc]
      · split <;> simp [List.mem_erase_of_ne hxk, hx]
  unfold rows
  rw [if_pos (List.any_eq_true.mpr ⟨x, hres, hdoc⟩)]
  exact hres

/-- a parameter or keyword that has a description has its row: whatever the signature, whatever other
fields the docstring contains and in whatever order, the Parameters table is shown and contains a row with
the name and the text of the last `param` / `keyword` field written for that name -/
theorem described_parameter_row (s : Sig) (fh : FH) (n : Nat) (d : Desc)
    (hd : lastDesc fh.descs n = some d) (hb : d.body.isSome = true) :
    ∃ r ∈ rows s fh, r.name = n ∧ r.body = d.body := by
  have hlk : (paramsDict fh.descs).lookup n = some d := by rw [paramsDict_lookup]; exact hd
  obtain ⟨x, hx, h1, h2⟩ := resolveLoop_keeps s fh.types 0 _ n d hlk (lastDesc_name hd)
  exact ⟨x, mem_rows s fh x hx (by simp [isEmpty_of_lookup hlk]) (by simp [Desc.isDocumented, h2, hb]), h1, h2⟩

theorem lookup_filter_some {β} (l : List (Nat × β)) (k n : Nat) (v : β)
    (h : (l.filter (·.1 != k)).lookup n = some v) : l.lookup n = some v := by
  by_cases hn : n = k
  · subst hn
    exfalso
    have := lookup_mem _ _ _ h
    simp at this
  · rwa [lookup_filter_ne _ _ _ hn] at h

/-- every entry of `types` whose type comes from the docstring gets a row, the first entry for its name or not -/
theorem resolveLoop_typed (s : Sig) (n t : Nat) (ts : List (Nat × Option PType)) (idx : Nat) (params : List (Nat × Desc))
    (h : (n, some ⟨t, .doc⟩) ∈ ts) (hinv : ∀ k v, params.lookup k = some v → v.name = k) :
    (∃ x ∈ (resolveLoop s ts idx params).1, x.name = n ∧ x.type = some t ∧ x.origin = some .doc) ∧
    (params.isEmpty = false ∨ (resolveLoop s ts idx params).2.2 = true) := by
  fun_induction resolveLoop s ts idx params with
  | case1 => cases h
  | case2 name _ _ _ _ d hl _ ih =>
    have hne := isEmpty_of_lookup hl
    rcases List.mem_cons.mp h with he | h
    · cases he
      exact ⟨⟨_, List.mem_cons_self, hinv n d hl, rfl, rfl⟩, .inl hne⟩
    · have := ih h fun k v hk => hinv k v (lookup_filter_some _ _ _ _ hk)
      exact ⟨exists_mem_cons _ this.1, this.2.imp_left fun _ => hne⟩
  | case3 _ _ _ _ _ _ hself ih =>
    rcases List.mem_cons.mp h with he | h
    · -- the leading `self` is kept when its type comes from the docstring
      cases he
      simp at hself
    · exact ih h hinv
  | case4 _ _ _ _ _ _ _ _ ih =>
    rcases List.mem_cons.mp h with he | h
    · cases he
      exact ⟨⟨_, List.mem_cons_self, rfl, rfl, rfl⟩, .inr (by simp)⟩
    · have := ih h hinv
      exact ⟨exists_mem_cons _ this.1, this.2.imp_right fun hr => Bool.or_eq_true_iff.mpr (.inl hr)⟩

/-- **a parameter or keyword whose type is given in the docstring has its row with that type** — also when it
has no description at all (the table is still shown), and also for the leading `self` / `cls` of a method
(19b8897; before: `type_of_self_old_counterexample`) -/
theorem typed_parameter_row (s : Sig) (fh : FH) (n t : Nat)
    (ht : fh.types.lookup n = some (some ⟨t, .doc⟩)) :
    ∃ r ∈ rows s fh, r.name = n ∧ r.type = some t := by
  obtain ⟨⟨x, hx, hx1, hx2, hx3⟩, hflag⟩ :=
    resolveLoop_typed s n t fh.types 0 (paramsDict fh.descs) (lookup_mem _ _ _ ht)
      fun k v h => lastDesc_name ((paramsDict_lookup _ k).symm.trans h)
  refine ⟨x, mem_rows s fh x (List.mem_append_left _ hx) ?_ (by simp [Desc.isDocumented, hx3]), hx1, hx2⟩
  rcases hflag with h | h <;> simp [h]

theorem types_after_type (fh : FH) (n t : Nat) :
    (step fh (.type n t)).types.lookup n = some (some ⟨t, .doc⟩) := by
  simp [step, lookup_dictSet]

/-- the hypothesis of `described_parameter_row`, from the fields -/
theorem lastDesc_after_param (fh : FH) (n t : Nat) :
    lastDesc (step fh (.param n t)).descs n = some ⟨n, some t, false, none, none⟩ ∧
    lastDesc (step fh (.keyword n t)).descs n = some ⟨n, some t, true, none, none⟩ := by
  constructor <;> simp [step, lastDesc, List.filter_append]

/-- non-vacuity, and the shape of C09-r2-3: `**kw` only, two keywords with a type and an empty description —
the table is shown with both names and both types -/
example :
    rows ⟨[(3, none)], some 3, none⟩ (run ⟨[(3, none)], some 3, none⟩ [.keyword 5 30, .type 5 31, .type 6 32, .keyword 6 33]) =
      [⟨5, some 30, true, some 31, some .doc⟩, ⟨6, some 33, true, some 32, some .doc⟩] := by
  decide +kernel

/-- `@type self: …` on a method without `@param self` (19b8897): the row of `self` is shown with its type -/
example :
    rows ⟨[(7, none), (1, none)], none, some 7⟩ (run ⟨[(7, none), (1, none)], none, some 7⟩ [.type 7 30]) =
      [⟨7, none, false, some 30, some .doc⟩, ⟨1, none, false, none, none⟩] := by
  decide +kernel

/-- a `type` field is shown, whatever the name, the signature and the fields before it -/
theorem type_field_shown (s : Sig) (fh : FH) (n t : Nat) :
    ∃ r ∈ rows s (step fh (.type n t)), r.name = n ∧ r.type = some t :=
  typed_parameter_row s _ n t (types_after_type fh n t)

/-- **historical counterexample** (the code before 19b8897, `resolveLoopOld`): the row of `self` was skipped although
its type came from the docstring, and nothing was reported -/
theorem type_of_self_old_counterexample :
    rowsOld ⟨[(7, none), (1, none)], none, some 7⟩ (run ⟨[(7, none), (1, none)], none, some 7⟩ [.type 7 30]) = [] ∧
    (run ⟨[(7, none), (1, none)], none, some 7⟩ [.type 7 30]).reports = [] := by
  decide +kernel

/-- a second `@type n` of the docstring is reported (08a4c10; the first one's text is replaced) -/
theorem type_overwrite_reported (fh : FH) (n t t0 : Nat) (h : fh.types.lookup n = some (some ⟨t0, .doc⟩)) :
    (ReportKind.duplicateType, n) ∈ (step fh (.type n t)).reports := by
  simp [step, h]

end Params

/-! ## `extract_fields`: which texts the attribute of a name holds -/
namespace Attrs
open Params (dictSet lookup_dictSet)

def isVar (t : VTag) : Bool := t == .ivar || t == .cvar || t == .var

theorem astep_lookup (st : AState) (i : Nat) (f : AField) (n : Nat) :
    (astep st i f).attrs.lookup n =
      if f.tag ≠ .other ∧ f.name = some n then
        let cur := (st.attrs.lookup n).getD ⟨none, none, false⟩
        some (if f.tag = .type then { cur with type := some f.text } else { cur with doc := some f.text, hasKind := true })
      else st.attrs.lookup n := by
  unfold astep
  by_cases ho : f.tag = .other
  · simp [ho]
  · cases hn : f.name with
    | none => simp [ho]
    | some m =>
      by_cases hm : n = m
      · simp [ho, lookup_dictSet, hm]
      · simp [ho, lookup_dictSet, hm, Ne.symm hm]

theorem isVar_cases (t : VTag) : isVar t = true ∨ t = .type ∨ t = .other := by
  cases t <;> simp [isVar]

theorem runFrom_invariant (I : AState → Prop) : ∀ (fs : List AField) (st : AState) (i : Nat),
    I st → (∀ st i, ∀ f ∈ fs, I st → I (astep st i f)) → I (runFrom st i fs)
  | [], _, _, h, _ => h
  | f :: fs, st, i, h, hs =>
    runFrom_invariant I fs _ _ (hs st i f (by simp) h) fun st i g hg => hs st i g (by simp [hg])

theorem runFrom_append (a b : List AField) : ∀ (st : AState) (i : Nat),
    runFrom st i (a ++ b) = runFrom (runFrom st i a) (i + a.length) b := by
  induction a with
  | nil => intro st i; simp [runFrom]
  | cons f fs ih =>
    intro st i
    simp only [List.cons_append, runFrom, List.length_cons]
    rw [ih]
    congr 1
    omega

/-- **the text of the last `@ivar`/`@cvar`/`@var n` of a module or class docstring is the documentation of the
attribute `n`, and that attribute is displayed** — whatever other fields precede or follow -/
theorem var_text_held (existing : List (Nat × AttrV)) (pre post : List AField) (f : AField) (n : Nat)
    (hv : isVar f.tag = true) (hn : f.name = some n)
    (hpost : ∀ g ∈ post, ¬ (isVar g.tag = true ∧ g.name = some n)) :
    ∃ v, (extract existing (pre ++ f :: post)).attrs.lookup n = some v ∧ v.doc = some f.text ∧ v.hasKind = true := by
  unfold extract
  rw [runFrom_append, runFrom]
  refine runFrom_invariant (fun st => ∃ v, st.attrs.lookup n = some v ∧ v.doc = some f.text ∧ v.hasKind = true)
    post _ _ ?_ ?_
  · have h1 : f.tag ≠ .other := by intro e; simp [isVar, e] at hv
    have h2 : f.tag ≠ .type := by intro e; simp [isVar, e] at hv
    simp [astep_lookup, h1, h2, hn]
  · rintro st i g hg ⟨v, h, hd, hk⟩
    rw [astep_lookup]
    by_cases hc : g.tag ≠ .other ∧ g.name = some n
    · -- a later field about `n` is a `type` field: it leaves the text and the kind alone
      rw [if_pos hc]
      rcases isVar_cases g.tag with hvar | ht | ho
      · exact absurd ⟨hvar, hc.2⟩ (hpost g hg)
      · simp [ht, h, hd, hk]
      · exact absurd ho hc.1
    · rw [if_neg hc]
      exact ⟨v, h, hd, hk⟩

/-- the text of the last `@type n` is the attribute's `parsed_type` (whether the attribute is displayed is a
separate matter: `Docstring.kept_iff_in_scope`) -/
theorem type_text_held (existing : List (Nat × AttrV)) (pre post : List AField) (f : AField) (n : Nat)
    (ht : f.tag = .type) (hn : f.name = some n)
    (hpost : ∀ g ∈ post, ¬ (g.tag = .type ∧ g.name = some n)) :
    ∃ v, (extract existing (pre ++ f :: post)).attrs.lookup n = some v ∧ v.type = some f.text := by
  unfold extract
  rw [runFrom_append, runFrom]
  refine runFrom_invariant (fun st => ∃ v, st.attrs.lookup n = some v ∧ v.type = some f.text) post _ _ ?_ ?_
  · simp [astep_lookup, ht, hn]
  · rintro st i g hg ⟨v, h, hty⟩
    rw [astep_lookup]
    by_cases hc : g.tag ≠ .other ∧ g.name = some n
    · have hg' : g.tag ≠ .type := fun e => hpost g hg ⟨e, hc.2⟩
      simp [hc, hg', h, hty]
    · rw [if_neg hc]
      exact ⟨v, h, hty⟩

/-- `get_parsed_type`: a `type` field of the variable's own docstring is shown unless `parsed_type` is already set -/
theorem shownType_own (own : List Nat) (t : Nat) (ann : Option Nat) : shownType none (own ++ [t]) ann = some t := by
  simp [shownType]

example : (extract [(1, ⟨none, none, true⟩)] [⟨.type, some 2, 10⟩, ⟨.ivar, some 2, 11⟩, ⟨.type, some 3, 14⟩, ⟨.var, none, 13⟩]).attrs =
      [(1, ⟨none, none, true⟩), (2, ⟨some 11, some 10, true⟩), (3, ⟨none, some 14, false⟩)] := by
  decide +kernel

/-- a second `@ivar`/`@cvar`/`@var n` (resp. `@type n`) of a module or class docstring is reported (08a4c10) -/
theorem var_overwrite_reported (st : AState) (i n : Nat) (f : AField) (ho : f.tag ≠ .other) (hn : f.name = some n)
    (hseen : (n, decide (f.tag = .type)) ∈ st.seen) : i ∈ (astep st i f).duplicates := by
  simp [astep, ho, hn, hseen]

end Attrs

/-! ## `_handlePropertyDef`: no field of a property docstring is lost -/
namespace Property

def PState.holds (st : PState) (t : Nat) : Prop :=
  st.description = some t ∨ st.parsedType = some t ∨ ∃ f ∈ st.otherFields, f.text = t

theorem pstep_keeps_other {st : PState} {f g : PField} (h : g ∈ st.otherFields) : g ∈ (pstep st f).otherFields := by
  unfold pstep
  split
  · split <;> simp [h]
  · exact h
  · simp [h]

theorem kept_of_step {pre post : List PField} {f : PField} {st : PState}
    (h : f ∈ (pstep (pre.foldl pstep st) f).otherFields) : f ∈ ((pre ++ f :: post).foldl pstep st).otherFields := by
  rw [List.foldl_append, List.foldl_cons]
  exact List.foldlRecOn (motive := (f ∈ ·.otherFields)) post pstep h fun _ h _ _ => pstep_keeps_other h

/-- **a `@return` met when the docstring already has a body — its own description, or an earlier `@return` — stays a
field** (c0ae38c), whatever follows -/
theorem return_kept_when_body (pre post : List PField) (f : PField) (hf : f.tag = .ret) (st : PState)
    (hb : (pre.foldl pstep st).hasBody = true) :
    f ∈ ((pre ++ f :: post).foldl pstep st).otherFields :=
  kept_of_step (by simp [pstep, hf, hb])

theorem pstep_hasBody (st : PState) (f : PField) (h : st.hasBody = true) : (pstep st f).hasBody = true := by
  unfold pstep
  cases f.tag <;> simp [h]

theorem hasBody_mono (fs : List PField) (st : PState) (h : st.hasBody = true) : (fs.foldl pstep st).hasBody = true :=
  List.foldlRecOn (motive := (·.hasBody = true)) fs pstep h fun st h f _ => pstep_hasBody st f h

theorem description_none_of_body (fs : List PField) : ∀ st : PState, st.hasBody = true → st.description = none →
    (fs.foldl pstep st).description = none := by
  intro st hb hd
  exact (List.foldlRecOn (motive := fun st => st.hasBody = true ∧ st.description = none) fs pstep ⟨hb, hd⟩
    fun st ⟨hb, hd⟩ f _ => ⟨pstep_hasBody st f hb, by unfold pstep; cases f.tag <;> simp [hb, hd]⟩).2

/-- a docstring with a description: every `@return` and every other field stays a field (an `@rtype` becomes the
property's type instead) -/
theorem fields_kept_with_body (fields : List PField) (f : PField) (hf : f ∈ fields) (ht : f.tag ≠ .rtype) :
    f ∈ (handle true fields).otherFields := by
  obtain ⟨pre, post, rfl⟩ := List.append_of_mem hf
  cases htag : f.tag with
  | ret => exact return_kept_when_body pre post f htag _ (hasBody_mono pre _ rfl)
  | rtype => exact absurd htag ht
  | other => exact kept_of_step (by simp [pstep, htag])

example : (handle true [⟨.ret, 1, true⟩, ⟨.rtype, 2, true⟩, ⟨.other, 3, true⟩]) =
      ⟨true, none, some 2, [⟨.ret, 1, true⟩, ⟨.other, 3, true⟩]⟩ ∧
    (handle false [⟨.ret, 1, true⟩, ⟨.ret, 4, true⟩]) = ⟨true, some 1, none, [⟨.ret, 4, true⟩]⟩ := by
  decide +kernel

/-! ### an inherited property docstring is parsed again for the inheriting object: nothing was routed away -/

/-- **an inherited property docstring holds every field** (full since 5a184d3), with or without a description of its
own — immediate from `inheritedView`, which keeps the list as it is; that definition is what the oracle ties to the code -/
theorem inherited_holds_all (docHasBody : Bool) (fields : List PField) (f : PField) (hf : f ∈ fields) :
    f ∈ (inheritedView docHasBody fields).otherFields := hf

/-- **historical counterexample** (the code before 5a184d3, `inheritedViewOld`): documented by `@return:` only, the
override without docstring inherited nothing -/
theorem inherited_holds_all_old_counterexample :
    (inheritedViewOld false [⟨.ret, 1, true⟩, ⟨.rtype, 2, true⟩]).otherFields = [] := by
  decide +kernel

/-- whereas the defining property's own view has lost `rtype` from its fields (it became the type): reusing that
object for the inheriting property would lose the text there (seeded C09-r3-2) -/
example : (handle true [⟨.rtype, 2, true⟩, ⟨.other, 3, true⟩]).otherFields = [⟨.other, 3, true⟩] ∧
    (inheritedView true [⟨.rtype, 2, true⟩, ⟨.other, 3, true⟩]).otherFields = [⟨.rtype, 2, true⟩, ⟨.other, 3, true⟩] := by
  decide +kernel

end Property

/-! ## reST consolidated entries: only the separator is removed -/
namespace Rst
open Epytext (pyIsSpace)

theorem lstrip_of_head {d : List Char} (h : ∀ c, d.head? = some c → pyIsSpace c = false) : lstrip d = d := by
  cases d with
  | nil => rfl
  | cons c cs => simp [lstrip, List.dropWhile, h c rfl]

theorem lstrip_append (ws d : List Char) (hws : ∀ c ∈ ws, pyIsSpace c = true)
    (hd : ∀ c, d.head? = some c → pyIsSpace c = false) : lstrip (ws ++ d) = d := by
  rw [lstrip, List.dropWhile_append_of_pos hws]
  exact lstrip_of_head hd

/-- **the description of a consolidated-field entry keeps its own beginning**: after one separator
(`:`, `-`, ` :`, ` -`) and any blanks, the text is kept from its first non-blank character on — also when
that character is itself `-` or `:` (`-1 disables…`, `--verbose`, `:-)`) -/
theorem stripSeparator_keeps_description (sep ws d : List Char)
    (hsep : sep = [':'] ∨ sep = ['-'] ∨ sep = [' ', '-'] ∨ sep = [' ', ':'])
    (hws : ∀ c ∈ ws, pyIsSpace c = true) (hd : ∀ c, d.head? = some c → pyIsSpace c = false) :
    stripSeparator (sep ++ ws ++ d) = d := by
  have h1 : ¬ ((' ' : Char) = ':') := by decide
  have h2 : ¬ ((' ' : Char) = '-') := by decide
  rcases hsep with rfl | rfl | rfl | rfl <;> simp [stripSeparator, h1, h2, lstrip_append ws d hws hd]

theorem stripSeparator_no_separator (c : Char) (t : List Char) (h1 : c ≠ ':') (h2 : c ≠ '-')
    (h3 : ¬ (c = ' ' ∧ (t.head? = some '-' ∨ t.head? = some ':'))) : stripSeparator (c :: t) = c :: t := by
  cases t with
  | nil => simp [stripSeparator, h1, h2]
  | cons b bs =>
    have h3' : ¬ (c = ' ' ∧ b = '-' ∨ c = ' ' ∧ b = ':') := by simpa [and_or_left] using h3
    simp [stripSeparator, h1, h2, h3']

example : stripSeparator ": -1 disables the limit".toList = "-1 disables the limit".toList ∧
    stripSeparator " - --verbose".toList = "--verbose".toList ∧ stripSeparator ": :-) x".toList = ":-) x".toList := by
  repeat rw [String.toList_ofList]
  decide +kernel

end Rst

/-! ## napoleon `_dedent`: the same number of columns from every line, never a non-blank character -/
namespace Napoleon
open Epytext (pyIsSpace Line all_take_of_le)

theorem minIndentLoop_eq (ls : List Line) (m : Option Nat) :
    minIndentLoop ls m = (m.toList ++ (ls.filter (!List.isEmpty ·)).map getIndent).min? := by
  fun_induction minIndentLoop ls m with
  | case1 m => cases m <;> rfl
  | case2 l ls m h ih => simp [ih, h]
  | case3 l ls h ih => simp [ih, h]
  | case4 l ls h k ih =>
    simp only [ih, h, Option.toList_some, List.filter_cons, List.map_cons, List.cons_append, List.nil_append,
      List.min?_cons', List.foldl_cons, Bool.not_false, if_true]
    congr 2
    split <;> omega

theorem getMinIndent_le (lines : List Line) (l : Line) (hl : l ∈ lines) (hne : l ≠ []) :
    getMinIndent lines ≤ getIndent l := by
  unfold getMinIndent
  rw [minIndentLoop_eq]
  cases hk : (none.toList ++ (lines.filter (!List.isEmpty ·)).map getIndent).min? with
  | none => exact Nat.zero_le _
  | some k =>
    exact (List.min?_eq_some_iff.1 hk).2 _ (List.mem_map_of_mem (List.mem_filter.2 ⟨hl, by simpa using hne⟩))

/-- **`_dedent` never removes a non-blank character**: from every line it drops the same number of columns
(`getMinIndent lines`, fewer only when the line is shorter), and what it drops is white space -/
theorem dedent_removes_only_space (lines : List Line) (l : Line) (hl : l ∈ lines) :
    (l.take (getMinIndent lines)).all pyIsSpace = true ∧
    l = l.take (getMinIndent lines) ++ l.drop (getMinIndent lines) ∧
    l.drop (getMinIndent lines) ∈ dedent lines := by
  refine ⟨?_, (List.take_append_drop _ _).symm, List.mem_map.mpr ⟨l, hl, rfl⟩⟩
  by_cases hne : l = []
  · subst hne; simp
  · exact all_take_of_le pyIsSpace l (getMinIndent_le lines l hl hne)

/-- the shape of C09-r3-1: the continuation block opens deeper than a later line; the later line keeps all its
characters (the first line's indentation is NOT the amount removed) -/
example :
    dedent ["        literal".toList, "".toList, "    Larger values are slower".toList] =
      ["    literal".toList, "".toList, "Larger values are slower".toList] ∧
    getInitialIndent ["        literal".toList, "".toList, "    Larger".toList] = 8 ∧
    getMinIndent ["        literal".toList, "".toList, "    Larger".toList] = 4 := by
  repeat rw [String.toList_ofList]
  decide +kernel

end Napoleon
