/-
A text written symbol by symbol is `l.flatMap code`; whatever reads it takes one code off the front
at a time.  First part: induction along such a text, and the readers that come up (one that looks
through every code, a lexer that returns the symbols).  Second part: `s.split(a)` and joining again.
-/

namespace List

variable {α β γ : Type}

/-- Induction along an encoded text, from its end: `R l r` is kept when a symbol is put in front of
`l` and its code in front of `r`.  `R l r` is usually "`r` is read as `l`", with whatever the reader
needs to know about the text that follows a code. -/
theorem flatMap_induct {code : α → List β} {R : List α → List β → Prop} {t : List β} (l : List α)
    (nil : R [] t) (cons : ∀ c ∈ l, ∀ l' r, R l' r → R (c :: l') (code c ++ r)) :
    R l (l.flatMap code ++ t) := by
  induction l with
  | nil => exact nil
  | cons c l ih =>
    rw [flatMap_cons, append_assoc]
    exact cons c mem_cons_self l _ (ih fun x hx => cons x (mem_cons_of_mem _ hx))

/-- a reader that looks through every code sees only what follows the text -/
theorem flatMap_append_transparent (F : List β → γ) {code : α → List β} {l : List α}
    (h : ∀ c ∈ l, ∀ r, F (code c ++ r) = F r) (t : List β) : F (l.flatMap code ++ t) = F t :=
  flatMap_induct (R := fun _ r => F r = F t) l rfl fun c hc _ r ih => (h c hc r).trans ih

theorem flatMap_transparent (F : List β → γ) {code : α → List β} {l : List α}
    (h : ∀ c ∈ l, ∀ r, F (code c ++ r) = F r) : F (l.flatMap code) = F [] :=
  append_nil (l.flatMap code) ▸ flatMap_append_transparent F h []

/-- a lexer that reads the code of `c`, in front of any text, as `c` reads an encoded text back -/
theorem flatMap_lex (lex : List β → Option (List α)) (h0 : lex [] = some []) {code : α → List β}
    {l : List α} (h : ∀ c ∈ l, ∀ r, lex (code c ++ r) = (lex r).map (c :: ·)) :
    lex (l.flatMap code) = some l :=
  append_nil (l.flatMap code) ▸
    flatMap_induct (R := fun l' r => lex r = some l') l h0 fun c hc _ r ih => by rw [h c hc, ih]; rfl

theorem flatMap_eq_self {code : α → List α} {l : List α} (h : ∀ c ∈ l, code c = [c]) :
    l.flatMap code = l :=
  append_nil (l.flatMap code) ▸
    flatMap_induct (R := fun l' r => r = l') l rfl fun c hc _ r ih => by rw [h c hc, ih]; rfl

/-! ## splitting at a separator -/

/-- Python's `s.split(a)`, written as a recursion on the text, is core's `splitOn` -/
theorem eq_splitOn [DecidableEq α] {a : α} {split : List α → List (List α)} (nil : split [] = [[]])
    (cons : ∀ c cs l ls, split cs = l :: ls →
      split (c :: cs) = if c = a then [] :: l :: ls else (c :: l) :: ls) (s : List α) :
    split s = s.splitOn a := by
  induction s with
  | nil => exact nil
  | cons c cs ih =>
    cases h : cs.splitOn a with
    | nil => exact absurd h (splitOn_ne_nil a cs)
    | cons l ls =>
      rw [cons c cs l ls (ih.trans h), splitOn_cons_eq_if_modifyHead, h]
      by_cases hc : c = a <;> simp [hc]

/-- the parts of a text, each encoded symbol by symbol, joined by `sep`: the text encoded with the
separator written as `sep` -/
theorem intercalate_map_splitOn [DecidableEq α] (a : α) (sep : List β) (code : α → List β)
    (s : List α) :
    sep.intercalate ((s.splitOn a).map (·.flatMap code)) =
      s.flatMap fun c => if c = a then sep else code c := by
  induction s with
  | nil => simp
  | cons c cs ih =>
    rw [splitOn_cons_eq_if_modifyHead, flatMap_cons, ← ih]
    cases h : cs.splitOn a with
    | nil => exact absurd h (splitOn_ne_nil a cs)
    | cons l ls =>
      by_cases hc : c = a
      · simp [hc, intercalate_cons_cons]
      · cases ls <;> simp [hc, intercalate_cons_cons, intercalate_singleton]

theorem flatten_splitOn [DecidableEq α] (a : α) (s : List α) :
    (s.splitOn a).flatten = s.filter (· ≠ a) := by
  induction s with
  | nil => simp
  | cons c cs ih =>
    rw [splitOn_cons_eq_if_modifyHead, filter_cons, ← ih]
    cases h : cs.splitOn a with
    | nil => exact absurd h (splitOn_ne_nil a cs)
    | cons l ls => by_cases hc : c = a <;> simp [hc]

theorem mem_splitOn [DecidableEq α] {a x : α} {s l : List α} (hl : l ∈ s.splitOn a) (hx : x ∈ l) :
    x ∈ s ∧ x ≠ a := by
  have : x ∈ s.filter (· ≠ a) := flatten_splitOn a s ▸ mem_flatten.mpr ⟨l, hl, hx⟩
  simpa using this

end List
